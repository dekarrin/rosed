/-
C15 — Definitions table aligns all definitions at one cluster column.
(a) clauses proved of the SPECIFICATION `Spec.defTable` (every token type); (b) the shape of the MODEL of
InsertDefinitionsTableOpts at cluster level.
-/
import RosedVerif.Model.InstAFacts
import RosedVerif.Model.CompositeLemmas
import RosedVerif.Spec.CompositeLemmas
import RosedVerif.Model.Totality2
import RosedVerif.Model.BridgeComposite
import RosedVerif.Model.NoLossModel
namespace RosedVerif.Props
open RosedVerif

/-- in every line of every paragraph the definition text starts at cluster column T + 6, T = the
longest term: line 0 is `··term<pad to T>··-·first`, continuation lines are T + 6 spaces + line -/
theorem C15_column {α : Type} (tk : Spec.Toks α) (T : Nat) (w : Int) (term defn : List α) (ht : term.length ≤ T)
    (i : Nat) (hi : i < (Spec.defParagraph tk T w term defn).length) :
    ∃ pre, (Spec.defParagraph tk T w term defn)[i] = pre ++ (Spec.defLines tk T w defn).getD i [] ∧
      pre.length = T + 6 ∧
      (i = 0 → pre = [tk.sp, tk.sp] ++ Spec.padTo tk T term ++ [tk.sp, tk.sp, tk.hy, tk.sp]) ∧
      (i ≠ 0 → pre = List.replicate (T + 6) tk.sp) :=
  Spec.defParagraph_column tk T w term defn ht i hi

/-- every term is at most T wide, so the clause applies to every paragraph -/
theorem C15_terms_fit {α : Type} (defs : List (List α × List α)) :
    ∀ d ∈ defs, d.1.length ≤ defs.foldl (fun m d => max m d.1.length) 0 := Spec.term_le_T defs

/-- one paragraph per definition (paragraph `j` is that of `defs[j]`: `C15_no_loss`) -/
theorem C15_paragraphs {α : Type} (tk : Spec.Toks α) (defs : List (List α × List α)) (w : Int) :
    (Spec.defTable tk defs w).length = defs.length := Spec.defTable_length tk defs w

/-- **the model** at cluster level: the inserted text is the paragraph-separator join of the
paragraphs, each the line-separator join of its lines, plus the trailing separator policy; the
wrapped lines of a definition are `defRc (colLines …)`: a whitespace-only definition (no wrapped
line) is treated like the empty one (one empty line) … -/
theorem C15_model {α : Type} [DecidableEq α] (cx : Ctx α) (htriv : ∀ s, cx.ends s = List.range' 1 s.length)
    (hsp : cx.isSpace cx.sp = true) (ed : Editor α) (pos : Int) (defs : List (List α × List α)) (width : Int)
    (o : Options α) (hne : defs ≠ []) :
    ed.insertDefTableOpts cx pos defs width o =
      ed.insert cx pos
        (joinWith (o.withDefaults cx).paraSep (defs.map fun item =>
          joinWith (o.withDefaults cx).lineSep
            (defParaLines cx (maxLineLen (defs.map (·.1))) item.1
              (defRc (colLines cx item.2
                (max (width - ((maxLineLen (defs.map (·.1)) : Int) + 2) - 2 - 2) 2)
                (o.withDefaults cx).lineSep)))) ++
          (if (o.withDefaults cx).noTrailing = true then [] else (o.withDefaults cx).lineSep)) :=
  insertDefTableOpts_triv_text cx htriv hsp ed pos defs width o hne

/-- … and in every line of a model paragraph the definition text starts at column T + 6 -/
theorem C15_model_column {α : Type} [DecidableEq α] (cx : Ctx α) (T : Nat) (term : List α) (hT : term.length ≤ T)
    (rc : List (List α)) (i : Nat) (hi : i < rc.length) (h : i < (defParaLines cx T term rc).length) :
    (defParaLines cx T term rc)[i].drop (T + 6) = rc.getD i [] := defParaLines_drop cx T term hT rc i hi h

/-- … and with the model's `defRc` this holds for EVERY definition (no `rc ≠ []` needed): the
wrapped lines are never empty, the paragraph has one line per wrapped line, its first line carries
the `- ` marker, and the definition text starts at column T + 6 on every line -/
theorem C15_marker_always {α : Type} [DecidableEq α] (cx : Ctx α) (T : Nat) (term : List α)
    (rc : List (List α)) :
    defRc rc ≠ [] ∧
    (defParaLines cx T term (defRc rc)).length = (defRc rc).length ∧
    (∀ h0 : 0 < (defParaLines cx T term (defRc rc)).length,
      (defParaLines cx T term (defRc rc))[0] =
        [cx.sp, cx.sp] ++ term ++ List.replicate (T - term.length) cx.sp ++ [cx.sp, cx.sp] ++
          [cx.hy, cx.sp] ++ (defRc rc).getD 0 []) ∧
    (term.length ≤ T → ∀ (i : Nat) (_ : i < (defRc rc).length)
        (h : i < (defParaLines cx T term (defRc rc)).length),
      (defParaLines cx T term (defRc rc))[i].drop (T + 6) = (defRc rc).getD i []) :=
  ⟨defRc_ne_nil rc, defParaLines_defRc_length cx T term rc,
    fun h0 => defParaLines_first cx T term (defRc rc) (defRc_ne_nil rc) h0,
    fun hT i hi h => defParaLines_drop cx T term hT (defRc rc) i hi h⟩

/-- an empty definitions list produces no output: the editor is returned unchanged -/
theorem C15_empty {α : Type} [DecidableEq α] (cx : Ctx α) (ed : Editor α) (p w : Int) (o : Options α) :
    ed.insertDefTableOpts cx p [] w o = .ok ed := rfl

/-- total on arbitrary code-point input -/
theorem C15_total (ed : Editor Int) (p : Int) (d : List (List Int × List Int)) (w : Int) (o : Options Int) :
    ∃ r, ed.insertDefTableOpts cxA p d w o = .ok r := insertDefTableOpts_total cxA_Sane ed p d w o

/-- **bridge to code points**: on a stable vocabulary the model of InsertDefinitionsTableOpts run on CODE POINTS with the real segmentation returns the flattening of the cluster-level text of `C15_model`; every paragraph line re-segments to its cluster line and the definition text starts at real-cluster column T + 6 (T = longest term in clusters) on every line -/
theorem C15_code_points {V : List (List Int)} (hV : VocabStable V = true)
    (hsp : [0x20] ∈ V)
    (hhy : [0x2D] ∈ V)
    (hspTail : ∀ t ∈ V, (0x20 : Int) ∉ t.tail)
    (toks : List (List Int))
    (ht : ∀ t ∈ toks, t ∈ V)
    (o0 : Options (List Int))
    (pos : Int)
    (defs : List (List (List Int) × List (List Int)))
    (hd1 : ∀ d ∈ defs, ∀ t ∈ d.1, t ∈ V)
    (hd2 : ∀ d ∈ defs, ∀ t ∈ d.2, t ∈ V)
    (width : Int)
    (o : Options (List Int))
    (hS : BridgeOps.GoodSep V (o.withDefaults cxB).lineSep)
    (hP : ∀ t ∈ (o.withDefaults cxB).paraSep, t ≠ [])
    (hne : defs ≠ []) :
    Editor.insertDefTableOpts cxA (.root toks.flatten o0.flat) pos
        (defs.map fun d => (d.1.flatten, d.2.flatten)) width o.flat =
      .ok (.root (toks.take (Spec.normPos toks.length pos).toNat ++
        (joinWith (o.withDefaults cxB).paraSep (defs.map fun item =>
          joinWith (o.withDefaults cxB).lineSep
            (defParaLines cxB (maxLineLen (defs.map (·.1))) item.1
              (defRc (colLines cxB item.2
                (max (width - ((maxLineLen (defs.map (·.1)) : Int) + 2) - 2 - 2) 2)
                (o.withDefaults cxB).lineSep)))) ++
          (if (o.withDefaults cxB).noTrailing = true then [] else (o.withDefaults cxB).lineSep)) ++
        toks.drop (Spec.normPos toks.length pos).toNat).flatten o0.flat) ∧
    ∀ item ∈ defs, ∀ (rc : List (List (List Int))),
      rc = defRc (colLines cxB item.2
        (max (width - ((maxLineLen (defs.map (·.1)) : Int) + 2) - 2 - 2) 2)
        (o.withDefaults cxB).lineSep) →
      (defParaLines cxB (maxLineLen (defs.map (·.1))) item.1 rc).length = rc.length ∧
      ∀ (i : Nat) (hi : i < (defParaLines cxB (maxLineLen (defs.map (·.1))) item.1 rc).length),
        clusters cxA ((defParaLines cxB (maxLineLen (defs.map (·.1))) item.1 rc)[i]).flatten =
          (defParaLines cxB (maxLineLen (defs.map (·.1))) item.1 rc)[i] ∧
        (clusters cxA ((defParaLines cxB (maxLineLen (defs.map (·.1))) item.1 rc)[i]).flatten).drop
          (maxLineLen (defs.map (·.1)) + 6) = rc.getD i [] :=
  insertDefTableOpts_bridge_C15 hV hsp hhy hspTail toks ht o0 pos defs hd1 hd2 width o hS hP hne

open RosedVerif.Spec RosedVerif.NoLossModel RosedVerif.WrapRefine

/-- no term or definition word is lost, paragraphs in input order: paragraph j has defs[j]'s term verbatim at offset 2 of its first line and the definition's words, in order, after column T + 6; a definition without a word still has its term line -/
theorem C15_no_loss {α : Type} (tk : Spec.Toks α) (hsp : tk.ws tk.sp = true)
    (hhy : tk.ws tk.hy = false)
    (defs : List (List α × List α))
    (w : Int) :
    (defTable tk defs w).length = defs.length ∧
    ∀ (j : Nat) (hj : j < defs.length) (hj' : j < (defTable tk defs w).length),
      ∃ h0 : 0 < ((defTable tk defs w)[j]).length,
        ((((defTable tk defs w)[j])[0]).drop 2).take defs[j].1.length = defs[j].1 ∧
        (((defTable tk defs w)[j]).map (List.drop (termWidth defs + 6))).flatMap (words tk) =
          units tk (defWidth (termWidth defs) w) defs[j].2 ∧
        (words tk defs[j].2 = [] → ((defTable tk defs w)[j]).length = 1) :=
  defTable_no_loss tk hsp hhy defs w

/-- the MODEL of InsertDefinitionsTableOpts at cluster level inserts exactly the specification's table (`Spec.defTable`), joined by the separators -/
theorem C15_model_spec {α : Type} [DecidableEq α] (cx : Ctx α) (htriv : ∀ s, cx.ends s = List.range' 1 s.length)
    (hsp : cx.isSpace cx.sp = true)
    (ed : Editor α)
    (pos : Int)
    (defs : List (List α × List α))
    (width : Int)
    (o : Options α)
    (hne : defs ≠ []) :
    ed.insertDefTableOpts cx pos defs width o =
      ed.insert cx pos
        (joinWith (o.withDefaults cx).paraSep
          ((defTable (toks cx)
            (defs.map fun d => (d.1, replaceAll' cx d.2 (o.withDefaults cx).lineSep)) width).map
            (joinWith (o.withDefaults cx).lineSep)) ++
          (if (o.withDefaults cx).noTrailing = true then [] else (o.withDefaults cx).lineSep)) := by
  rw [insertDefTableOpts_triv_text cx htriv hsp ed pos defs width o hne]
  congr 3
  generalize (o.withDefaults cx).lineSep = sep
  have hfold : (defs.map fun d => (d.1, replaceAll' cx d.2 sep)).foldl
      (fun m d => max m d.1.length) 0 = maxLineLen (defs.map (·.1)) := termWidth_prepass cx defs sep
  simp only [defTable, hfold, List.map_map]
  apply List.map_congr_left
  intro item hitem
  simp only [Function.comp]
  have hle : item.1.length ≤ maxLineLen (defs.map (·.1)) :=
    le_maxLineLen _ _ (List.mem_map_of_mem hitem)
  rw [← defParaLines_eq_defParagraph cx _ width _ _ hle]
  have hw : (max (width - ((maxLineLen (defs.map (·.1)) : Int) + 2) - 2 - 2) 2).toNat =
      defWidth (maxLineLen (defs.map (·.1))) width := by
    unfold defWidth
    split <;> omega
  unfold colLines
  rw [hw]
  rfl

/-- … hence no term or definition word is lost by the model -/
theorem C15_model_no_loss {α : Type} [DecidableEq α] (cx : Ctx α) (htriv : ∀ s, cx.ends s = List.range' 1 s.length)
    (hsp : cx.isSpace cx.sp = true)
    (hhy : cx.isSpace cx.hy = false)
    (ed : Editor α)
    (pos : Int)
    (defs : List (List α × List α))
    (width : Int)
    (o : Options α)
    (hne : defs ≠ []) :
    ∃ paras : List (List (List α)),
      ed.insertDefTableOpts cx pos defs width o =
        ed.insert cx pos
          (joinWith (o.withDefaults cx).paraSep (paras.map (joinWith (o.withDefaults cx).lineSep)) ++
            (if (o.withDefaults cx).noTrailing = true then [] else (o.withDefaults cx).lineSep)) ∧
      paras.length = defs.length ∧
      ∀ (j : Nat) (hj : j < defs.length) (hj' : j < paras.length),
        let T := maxLineLen (defs.map (·.1))
        let W := defWidth T width
        let defn := replaceAll' cx defs[j].2 (o.withDefaults cx).lineSep
        ∃ h0 : 0 < (paras[j]).length,
          (((paras[j])[0]).drop 2).take defs[j].1.length = defs[j].1 ∧
          ((paras[j]).map (List.drop (T + 6))).flatMap (words (toks cx)) = units (toks cx) W defn ∧
          (HyOK (toks cx) W defn →
            dehyphen (toks cx) W ((paras[j]).map (List.drop (T + 6))) = words (toks cx) defn) ∧
          (words (toks cx) defn = [] → (paras[j]).length = 1) := by
  have hspec := C15_model_spec cx htriv hsp ed pos defs width o hne
  generalize (o.withDefaults cx).lineSep = sep at hspec ⊢
  -- the specification's table for the definitions after the separator pre-pass: same terms
  have hT := termWidth_prepass cx defs sep
  have hget : ∀ (j : Nat) (hj : j < defs.length)
      (hj2 : j < (defs.map fun d => (d.1, replaceAll' cx d.2 sep)).length),
      (defs.map fun d => (d.1, replaceAll' cx d.2 sep))[j] = (defs[j].1, replaceAll' cx defs[j].2 sep) :=
    fun j hj hj2 => List.getElem_map _
  have hlen : (defs.map fun d => (d.1, replaceAll' cx d.2 sep)).length = defs.length :=
    List.length_map _
  generalize defs.map (fun d => (d.1, replaceAll' cx d.2 sep)) = defs' at hspec hT hget hlen
  refine ⟨defTable (toks cx) defs' width, hspec, (defTable_length _ _ _).trans hlen, ?_⟩
  intro j hj hj'
  have hj2 : j < defs'.length := hlen ▸ hj
  obtain ⟨h0, h1, h2, h3⟩ := (defTable_no_loss (toks cx) hsp hhy defs' width).2 j hj2 hj'
  have hw := defTable_words (toks cx) hsp hhy defs' width j hj2 hj'
  rw [hT, hget j hj hj2] at h2 hw
  rw [hget j hj hj2] at h1 h3
  exact ⟨h0, h1, h2, hw, h3⟩

end RosedVerif.Props
