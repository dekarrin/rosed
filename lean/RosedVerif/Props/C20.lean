/-
C20 — Concurrent use of Editors is race-free and equals sequential use.   (PARTIAL, see below)

What is proved: (i) on layer H, in every call — Reverse/IndexFunc/LastIndexFunc included — every
write goes to a cell allocated by the same call, or is the first fill of the receiver's own cell; a
filled cell is never written; (ii) the only package-level cache cell (gem.Zero's) starts filled
(regenerated fact) and is therefore never written; (iii) structural facts regenerated from the
typed source: the package-level variables are exactly gem.Zero and manip.spaceCollapser, no method
of package rosed or gem has a pointer receiver, and every assignment that goes through a pointer or into a
caller-visible slice element stores into a gem.String's cache cell (inside a function whose pointer-level
behaviour is proved equal to layer H) or into a tb.Block's own line list (none in package rosed).
What is NOT a Lean theorem: the step from (i)–(iii) to the Go memory model. The model cannot exhibit
interleavings; the check therefore also runs the real code from 8 goroutines under the Go race
detector and compares parallel with sequential results.
-/
import RosedVerif.Heap.Lemmas
import RosedVerif.Heap.Histories
import RosedVerif.Gen.Facts
import RosedVerif.Heap.WriteSites
namespace RosedVerif.Props
open RosedVerif RosedVerif.H

/-- (ii) regenerated from the source on every run: gem.Zero's cache cell is filled at start-up -/
theorem C20_zero_prefilled : Gen.zeroCachePrefilled = true := rfl

/-- (i) footprint of every gem.String operation -/
theorem C20_footprint (k : Call) (h : Heap) : ∀ w ∈ (k.run h).2, Footprint h k.recv w := footprint k h

/-- the write events are complete: a cell no event mentions is untouched -/
theorem C20_writes_complete (k : Call) (h : Heap) (c : Nat) (hm : ¬ Mentions (k.run h).2 c) :
    (k.run h).1.cells[c]? = h.cells[c]? := writes_complete k h c hm

/-- a filled cell is never written by any call -/
theorem C20_filled_never_written (k : Call) (h : Heap) (c : Nat) (x : List Nat) (hx : h.get c = some x) :
    (k.run h).1.get c = some x ∧ ¬ Mentions (k.run h).2 c :=
  ⟨frame k h c x hx, filled_not_written k h c x hx⟩

/-- hence the package-level cell is never written, in any reachable state, by any operation -/
theorem C20_package_state_never_written (k : Call) {h : Heap} {pool : List GStr} (hi : Inv h pool) :
    (k.run h).1.get 0 = some [] ∧ ¬ Mentions (k.run h).2 0 :=
  zero_never_written k h (hi.zero_filled C20_zero_prefilled)

/-- no operand is altered by any call: the old pool stays valid -/
theorem C20_operands_unchanged (k : Call) {h : Heap} {pool : List GStr} (hi : Inv h pool)
    (hr : ∀ s, k.recv = some s → s ∈ zero :: pool) : Inv (k.run h).1 pool := inv_call k hi hr

/-! (iii) structural facts, regenerated from /repo with full type information -/

theorem C20_package_vars : Gen.packageVars = ["gem.Zero", "manip.spaceCollapser"] := by decide +kernel

theorem C20_pointer_receivers :
    Gen.pointerReceiverMethods = [("tb", "Block.Append"), ("tb", "Block.AppendBlock"), ("tb", "Block.AppendEmpty"),
      ("tb", "Block.Apply"), ("tb", "Block.Remove"), ("tb", "Block.Set")] := by decide +kernel

/-- every assignment in the library that goes through a pointer or into an element of a parameter / receiver /
package-level slice (the list is regenerated from the typed source on every run) is one of two kinds
(`H.writeSiteOK`, Heap/WriteSites.lean): in package `gem` a store into a String's cache cell (`*x.gc`, `(*x.gc)[…]`)
inside a function whose pointer-level behaviour is the subject of the regenerated tie with layer H
(`Gen.GemCode.tiedFunctions`: the functions harness/goheap.go translates — proved equal to layer H in heap, result and
write events by the `gem…_regenerated` theorems, which are proof obligations of this property — and helpers inlined
into them); in package `tb` a store into a Block's own line list inside a method of `Block`.  The sites are not
enumerated: moving a store into a helper that is inlined back re-proves; a store anywhere else, or in a function of
`gem` outside the tie, does not. -/
theorem C20_heap_writes : ∀ w ∈ Gen.heapWrites, H.writeSiteOK w = true := by decide +kernel

/-- the kinds are told apart correctly: the predicate rejects a store into another field, through another pointer,
into a package-level variable, in a function outside the tie, and in another package -/
theorem C20_heap_writes_rejects :
    H.writeSiteOK ("gem", "String.Add", "ptr", "*r2.r") = false ∧
    H.writeSiteOK ("gem", "String.Add", "ptr", "*p") = false ∧
    H.writeSiteOK ("gem", "String.Add", "ptr", "Zero.gc") = false ∧
    H.writeSiteOK ("gem", "String.Add", "elem-param", "s2.r[i]") = false ∧
    H.writeSiteOK ("gem", "String.notInTheTie", "ptr", "*str.gc") = false ∧
    H.writeSiteOK ("rosed", "Editor.Commit", "ptr", "*parent") = false ∧
    H.writeSiteOK ("tb", "Block.Set", "ptr", "tb.LineSeparator") = false ∧
    H.writeSiteOK ("manip", "Wrap", "elem-param", "lines[i]") = false := by decide +kernel

/-- in particular no function of package rosed (Editor, Options, sub-editors) writes through a pointer -/
theorem C20_rosed_writes_nothing :
    (Gen.heapWrites.filter fun w => w.1 == "rosed") = [] := by decide +kernel


/-! ### C20 over ALL histories -/

/-- in the state reached by any history the package-level cell is filled, the next call leaves it
equal to `some []`, and no write event of that call mentions it -/
theorem C20_histories_zero_never_written (ops : List H.Op) (op : H.Op) :
    (H.run ops).1.get 0 = some [] ∧ (H.step (H.run ops) op).1.get 0 = some [] ∧ ¬ Mentions (H.writes (H.run ops) op) 0 :=
  H.histories_zero_never_written C20_zero_prefilled ops op

/-- a cell filled at any point of a history has the same content at every later point and is never
mentioned by a later write event -/
theorem C20_histories_filled_never_written (ops ops' : List H.Op) (c : Nat) (x : List Nat)
    (hx : (H.run ops).1.get c = some x) :
    (H.run (ops ++ ops')).1.get c = some x ∧ ∀ op, ¬ Mentions (H.writes (H.run (ops ++ ops')) op) c :=
  H.histories_filled_never_written ops ops' c x hx

/-- footprint of every call of every history; the receiver is a pool value or the zero value -/
theorem C20_histories_footprint (ops : List H.Op) (op : H.Op) :
    (∀ w ∈ H.writes (H.run ops) op, Footprint (H.run ops).1 (op.call (H.run ops).2).recv w) ∧
    (∀ r, (op.call (H.run ops).2).recv = some r → r ∈ zero :: (H.run ops).2) := H.histories_footprint ops op

end RosedVerif.Props
