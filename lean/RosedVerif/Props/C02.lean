/-
C02 — Every code point carries its Unicode 13.0.0 break class.
All statements are about the tables REGENERATED from /repo on every run; what is used of the
reference tables themselves is in Gem/TableProofs.lean.
-/
import RosedVerif.Gem.TableProofs
import RosedVerif.Gem.Probes
namespace RosedVerif.Props
open RosedVerif Cls

/-- each of the 14 Go predicates is true exactly on the Unicode 13.0.0 set of its class -/
theorem C02_tables (X : Cls) (r : Int) : isCb (goTable X) r = isCb (refTable X) r :=
  isCb_of_sameRanges (tables_eq_ref X) r

/-- **C02**: the class the segmenter uses equals the Unicode 13.0.0 class, for every rune value
(negative and out-of-range included) -/
theorem C02 (r : Int) : classOf r = ref13 r := classOf_eq_ref13 r

/-- exactly one class: the Go predicates are pairwise exclusive and each equals "class is X" -/
theorem C02_exclusive (r : Int) :
    goPreds.prepend r = (ref13 r == prepend) ∧ goPreds.cr r = (ref13 r == cr) ∧
    goPreds.lf r = (ref13 r == lf) ∧ goPreds.control r = (ref13 r == control) ∧
    goPreds.extend r = (ref13 r == extend) ∧ goPreds.ri r = (ref13 r == ri) ∧
    goPreds.spacing r = (ref13 r == spacing) ∧ goPreds.l r = (ref13 r == l) ∧
    goPreds.v r = (ref13 r == v) ∧ goPreds.t r = (ref13 r == t) ∧
    goPreds.lv r = (ref13 r == lv) ∧ goPreds.lvt r = (ref13 r == lvt) ∧
    goPreds.zwj r = (ref13 r == zwj) ∧ goPreds.extpict r = (ref13 r == extpict) := by
  rw [← C02]; exact goPreds_eq_cls r

/-- negative and out-of-range rune values behave as Other -/
theorem C02_out_of_range (r : Int) (h : r < 0 ∨ 0x10FFFF < r) : classOf r = other := by
  have key : ∀ X, isCb (refTable X) r = false := by
    intro X
    rcases h with h | h
    · exact Bool.and_eq_false_imp.mpr fun h0 => absurd (of_decide_eq_true h0) (by omega)
    · rw [isCb, inRanges_false_of_gt _ 0x10FFFF _ (ref_in_codespace X) (by omega), Bool.and_false]
  simp [C02, ref13, key]

/-- Hangul LV = every 28th syllable of the block, starting with the first -/
theorem C02_hangul_lv (r : Int) :
    goPreds.lv r = true ↔ (0xAC00 ≤ r ∧ r ≤ 0xD7A3 ∧ (r - 0xAC00) % 28 = 0) := by
  show isCb (goTable lv) r = true ↔ _
  rw [C02_tables, show refTable lv = Ref.lvRanges from rfl, lv_table, isCb_range_map]
  constructor
  · rintro ⟨h0, k, hk, h1, h2⟩
    omega
  · rintro ⟨h1, h2, h3⟩
    refine ⟨by omega, ((r - 0xAC00) / 28).toNat, ?_, ?_, ?_⟩ <;> omega

/-- Hangul LVT = the syllable block minus LV -/
theorem C02_hangul_lvt (r : Int) :
    goPreds.lvt r = true ↔ (0xAC00 ≤ r ∧ r ≤ 0xD7A3 ∧ (r - 0xAC00) % 28 ≠ 0) := by
  show isCb (goTable lvt) r = true ↔ _
  rw [C02_tables, show refTable lvt = Ref.lvtRanges from rfl, lvt_table, isCb_range_map]
  constructor
  · rintro ⟨h0, k, hk, h1, h2⟩
    omega
  · rintro ⟨h1, h2, h3⟩
    refine ⟨by omega, ((r - 0xAC00) / 28).toNat, ?_, ?_, ?_⟩ <;> omega

/-! ### non-vacuity -/
example : classOf 0x1F468 = extpict ∧ classOf 0x0301 = extend ∧ classOf 0xAC00 = lv ∧
    classOf 0xAC01 = lvt ∧ classOf (-5) = other ∧ classOf 0x110000 = other ∧ classOf 0x41 = other := by
  decide +kernel

/-! ### the observational form, under the property's name -/

/-- **C02, observational form** (13 probes: the nine of `probes` followed by CR·c, c·LF, ExtPict·c·ExtPict,
V·c): for EVERY rune value, what is observed on the probes is the class-level signature of its
Unicode 13.0.0 class -/
theorem C02_probe (c : Int) : probeSig13 c = sigOf13 (ref13 c) := probeSig13_eq c

/-- "each code point behaves as exactly one class" -/
theorem C02_probe_determines_class (c : Int) (X : Cls) : probeSig13 c = sigOf13 X ↔ ref13 c = X :=
  probe13_determines_class c X

/-- the thirteen probes tell all fifteen classes apart (ExtPict included) -/
theorem C02_probes_distinguish : ∀ X Y : Cls, sigOf13 X = sigOf13 Y → X = Y := sigOf13_injective

/-- the first nine probes do NOT; they coincide exactly on {CR, LF, Control},
{ZWJ, SpacingMark}, {V, LV} (`probeRep` maps each class to the representative of its group) -/
theorem C02_nine_probes_coincide (X Y : Cls) : sigOf X = sigOf Y ↔ probeRep X = probeRep Y :=
  sigOf_eq_iff X Y

theorem C02_nine_probes_not_injective :
    sigOf cr = sigOf lf ∧ sigOf cr = sigOf control ∧ sigOf zwj = sigOf spacing ∧ sigOf v = sigOf lv :=
  sigOf_not_injective

/-- the nine-probe observation is nevertheless the signature of the Unicode 13.0.0 class … -/
theorem C02_probe9 (c : Int) : probeSig c = sigOf (ref13 c) := probeSig_eq c

/-- … and determines the class up to the three groups -/
theorem C02_probe9_determines_class_partial (c : Int) (X : Cls) :
    probeSig c = sigOf X ↔ probeRep (ref13 c) = probeRep X := probe_determines_class_partial c X

end RosedVerif.Props
