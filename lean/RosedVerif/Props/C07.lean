/-
C07 — Whitespace operations never lose, invent or reorder text.
Token level (layer B, every token type): the sequence of non-whitespace tokens is preserved by
collapse, align and justify, and by wrap up to the continuation hyphens (whose positions are given
by `pieces`).  Code points (`C07_*_code_points*`, `C07_*_para`): the public operations on texts over
a stable vocabulary, line by line and as a whole, in and outside paragraph mode; idempotence of
CollapseSpaceOpts; the stand-in of paragraph-mode Wrap.
Findings (DESIGN.md section 12.4) outside these domains: D9 (a combining mark directly after
whitespace), D4r (paragraph mode with visible separator affixes and an over-long neighbouring word);
D18 and D19 have theorems of their own below.
-/
import RosedVerif.Model.NoLossOps
import RosedVerif.Model.Placeholder
namespace RosedVerif.Props
open RosedVerif RosedVerif.Spec
variable {α : Type} (tk : Toks α)

/-- CollapseSpace: non-whitespace tokens unchanged and in order -/
theorem C07_collapse (hsp : tk.ws tk.sp = true) (l : List α) :
    (collapse tk l).filter (fun c => !tk.ws c) = l.filter (fun c => !tk.ws c) := collapse_nonws tk hsp l
/-- … single spaces are the only whitespace left … -/
theorem C07_collapse_only_space (l : List α) : ∀ c ∈ collapse tk l, tk.ws c = true → c = tk.sp :=
  collapse_only_sp' tk l
/-- … never two adjacent … -/
theorem C07_collapse_no_double (l : List α) :
    ∀ (i : Nat) (h : i + 1 < (collapse tk l).length),
      ¬(tk.ws (collapse tk l)[i] = true ∧ tk.ws (collapse tk l)[i + 1] = true) := collapse_no_double tk l
/-- … and collapsing again changes nothing -/
theorem C07_collapse_idempotent (l : List α) : collapse tk (collapse tk l) = collapse tk l := collapse_idem' tk l

/-- Align (all three kinds) -/
theorem C07_align (hsp : tk.ws tk.sp = true) (w : Int) (l : List α) :
    (Spec.alignLeft tk w l).filter (fun c => !tk.ws c) = l.filter (fun c => !tk.ws c) ∧
    (Spec.alignRight tk w l).filter (fun c => !tk.ws c) = l.filter (fun c => !tk.ws c) ∧
    (Spec.alignCenter tk w l).filter (fun c => !tk.ws c) = l.filter (fun c => !tk.ws c) :=
  ⟨alignLeft_nonws tk hsp w l, alignRight_nonws tk hsp w l, alignCenter_nonws tk hsp w l⟩

/-- Wrap: the words of the text are exactly its non-whitespace tokens in order … -/
theorem C07_wrap_words (l : List α) : (words tk l).flatten = l.filter (fun c => !tk.ws c) := words_flatten tk l
/-- … the lines partition the units (a unit is a word or a piece of an over-long word) … -/
theorem C07_wrap_units {w : Nat} (hw : 2 ≤ w) (l : List α) (h : l ≠ []) :
    ∃ groups : List (List (List α)), groups.flatten = units tk w l ∧
      Spec.wrapLines tk w l = groups.map (joinSp tk) := by
  obtain ⟨g, h1, _, h3, _⟩ := wrapLines_partition tk hw l h
  exact ⟨g, h1, h3⟩
/-- … and removing the continuation hyphens (the last token of every non-final piece) gives back
the word: nothing is lost, invented or reordered -/
theorem C07_wrap_unhyphen (w : Nat) (word : List α) (f : Nat) : unhyphen (pieces tk w f word) = word :=
  pieces_unhyphen' tk w word f

/-- Justify: the justified line is the words interleaved with runs of spaces — removing the spaces
gives back the words -/
theorem C07_justify [DecidableEq α] (cx : Ctx α) (ws : List (List α)) (extra : List Nat)
    (h : ∀ w ∈ ws, cx.sp ∉ w) : (interleave cx ws extra).filter (fun a => a != cx.sp) = ws.flatten :=
  interleave_words cx ws extra h

/-- **bridge to code points**: on a stable vocabulary (see `C06_code_points`) the model of
CollapseSpace run on CODE POINTS with the real segmentation returns the flattening of the
specification's result on clusters; segmenting that output gives those clusters back, and its
non-whitespace clusters are exactly the input's, in order. -/
theorem C07_collapse_code_points {V : List (List Int)} (hV : VocabStable V = true)
    (hsp : [0x20] ∈ V) (hspTail : ∀ t ∈ V, (0x20 : Int) ∉ t.tail)
    (toks : List (List Int)) (ht : ∀ t ∈ toks, t ∈ V) :
    ∃ out, collapseSpace cxA toks.flatten [] = .ok out ∧
      clusters cxA out = Spec.collapse ⟨cxB.isSpace, cxB.sp, cxB.hy⟩ toks ∧
      (clusters cxA out).filter (fun c => !cxB.isSpace c) = toks.filter (fun c => !cxB.isSpace c) := by
  obtain ⟨r, _, h2, h3, h4, _⟩ := BridgeWrap.collapseSpace_bridge_full hV hsp hspTail toks ht
  have hc : clusters cxA r.flatten = r := clusters_flatten_stable r (stableRunes_of_vocab V hV r h4)
  refine ⟨r.flatten, h2, ?_, ?_⟩
  · rw [hc, h3]
  · rw [hc, h3]
    exact collapse_nonws ⟨cxB.isSpace, cxB.sp, cxB.hy⟩ BridgeWrap.cxB_sp_space toks

/-- the public operation CollapseSpaceOpts on code points, any options, any editor (sub-editors
included): the code-point run of the model is the flattening of the cluster run (`GoodSep`: the line
separator cannot be found across cluster boundaries — see `C06_wrapOpts_code_points`). -/
theorem C07_collapseSpaceOpts_code_points {V : List (List Int)} (hV : VocabStable V = true)
    (hsp : [0x20] ∈ V) (hspTail : ∀ t ∈ V, (0x20 : Int) ∉ t.tail)
    (ed : Editor (List Int)) (ht : ∀ t ∈ ed.text, t ∈ V) (o' : Options (List Int))
    (hS : BridgeOps.GoodSep V (o'.withDefaults cxB).lineSep) :
    Editor.collapseSpaceOpts cxA ed.flat o'.flat = (Editor.collapseSpaceOpts cxB ed o').map Editor.flat :=
  BridgeOps.collapseSpaceOpts_bridge_good hV hsp hspTail ed ht o' hS

open RosedVerif.BridgeOps RosedVerif.BridgeEditorOps RosedVerif.BridgeEditorParas RosedVerif.OpsStructure

/-- the PUBLIC operation IndentOpts on code points, any editor, any level: flattening of the cluster run (indent tokens non-empty: necessary, `BridgeEditorOps.indentOpts_needs_ne`) -/
theorem C07_indentOpts_code_points {V : List (List Int)} (hV : VocabStable V = true)
    (ed : Editor (List Int))
    (ht : ∀ t ∈ ed.text, t ∈ V)
    (level : Int)
    (o : Options (List Int))
    (hpp : o.preservePara = false)
    (hS : GoodSep V (o.withDefaults cxB).lineSep)
    (hi : ∀ t ∈ o.indentStr, t ≠ []) :
    Editor.indentOpts cxA ed.flat level o.flat =
      (Editor.indentOpts cxB ed level o).map Editor.flat :=
  indentOpts_bridge hV ed ht level o hpp hS hi

/-- **Wrap loses no text** (exact form): splitting the output lines at whitespace gives, in order, the pieces of the input's words; un-hyphenating the pieces of each word gives the word back; every non-final piece is exactly `w` tokens ending in the hyphen -/
theorem C07_wrap_no_loss {α : Type} (tk : Spec.Toks α) {w : Nat}
    (hw : 2 ≤ w)
    (hsp : tk.ws tk.sp = true)
    (hhy : tk.ws tk.hy = false)
    (l : List α) :
    ∃ pss : List (List (List α)),
      (Spec.wrapLines tk w l).flatMap (words tk) = pss.flatten ∧
      pss.map unhyphen = words tk l ∧
      (∀ ps ∈ pss, ps ≠ [] ∧ ∀ p ∈ ps.dropLast, p.length = w ∧ p.getLast? = some tk.hy) ∧
      (l ≠ [] → ∃ groups : List (List (List α)), groups.flatten = pss.flatten ∧
        (∀ g ∈ groups, g ≠ []) ∧ Spec.wrapLines tk w l = groups.map (joinSp tk)) :=
  wrapLines_words tk hw hsp hhy l

/-- … as a function of the output alone: `dehyphen` (split at whitespace, glue every run of exactly `w` tokens ending in the hyphen to the next) recovers the input's word list, provided every word that ends in the hyphen is shorter than `w` (`HyOK` — necessary: `Spec.dehyphen_impossible`, two different texts with the same wrap) -/
theorem C07_wrap_dehyphen {α : Type} (tk : Spec.Toks α) [DecidableEq α]
    {w : Nat}
    (hw : 2 ≤ w)
    (hsp : tk.ws tk.sp = true)
    (hhy : tk.ws tk.hy = false)
    (l : List α)
    (h : HyOK tk w l) :
    dehyphen tk w (Spec.wrapLines tk w l) = words tk l :=
  dehyphen_wrapLines tk hw hsp hhy l h

section C07_public
open RosedVerif.NoLossOps RosedVerif.ParaStructure

/-- **AlignOpts on code points, whole text**: the sequence of non-whitespace grapheme clusters of the
result equals that of the input (non-paragraph mode, any editor, any good separator whose clusters are
in the vocabulary) -/
theorem C07_alignOpts_code_points_text {V : List (List Int)} (hV : VocabStable V = true)
    (hsp : [0x20] ∈ V)
    (ed : Editor (List Int)) (ht : ∀ t ∈ ed.text, t ∈ V) (align width : Int)
    (o : Options (List Int))
    (hal : align = Gen.alignLeft ∨ align = Gen.alignRight ∨ align = Gen.alignCenter)
    (hpp : o.preservePara = false) (hS : GoodSep V (o.withDefaults cxB).lineSep)
    (hSV : ∀ t ∈ (o.withDefaults cxB).lineSep, t ∈ V) :
    ∃ e, Editor.alignOpts cxA ed.flat align width o.flat = .ok e ∧ e.opts = ed.flat.opts ∧
      nonws (clusters cxA e.text) = nonws (clusters cxA ed.flat.text) :=
  (alignOpts_no_loss hV hsp ed ht align width o hal hpp hS).nonws_text hV ht hS hSV

/-- **AlignOpts on code points, line by line**: result and input, split at the line separator and
segmented, have the same non-whitespace clusters line for line, and the number of line separators
is unchanged (unbordered separator that no aligned line contains: both needed, see `C13_line_count`) -/
theorem C07_alignOpts_code_points {V : List (List Int)} (hV : VocabStable V = true)
    (hsp : [0x20] ∈ V)
    (ed : Editor (List Int)) (ht : ∀ t ∈ ed.text, t ∈ V) (align width : Int)
    (o : Options (List Int))
    (hal : align = Gen.alignLeft ∨ align = Gen.alignRight ∨ align = Gen.alignCenter)
    (hpp : o.preservePara = false) (hS : GoodSep V (o.withDefaults cxB).lineSep)
    (hSV : ∀ t ∈ (o.withDefaults cxB).lineSep, t ∈ V)
    (hu : Unbordered (o.withDefaults cxB).lineSep)
    (hfree : ∀ l ∈ inLines cxB ed o,
      indexOf (o.withDefaults cxB).lineSep (specAlign align width l) = none) :
    ∃ e, Editor.alignOpts cxA ed.flat align width o.flat = .ok e ∧ e.opts = ed.flat.opts ∧
      (splitOn e.text (o.flat.withDefaults cxA).lineSep).map (fun l => nonws (clusters cxA l)) =
        (splitOn ed.flat.text (o.flat.withDefaults cxA).lineSep).map
          (fun l => nonws (clusters cxA l)) ∧
      (splitOn e.text (o.flat.withDefaults cxA).lineSep).length =
        (splitOn ed.flat.text (o.flat.withDefaults cxA).lineSep).length :=
  (alignOpts_no_loss hV hsp ed ht align width o hal hpp hS).nonws_lines hV ht hS hSV hu
    (List.length_map _) (List.forall_mem_map.2 hfree)

/-- … for a line separator that is one cluster other than the space (`"\n"`, CR LF): no side
condition left -/
theorem C07_alignOpts_code_points_tok {V : List (List Int)} (hV : VocabStable V = true)
    (hsp : [0x20] ∈ V)
    (ed : Editor (List Int)) (ht : ∀ t ∈ ed.text, t ∈ V) (align width : Int)
    (o : Options (List Int))
    (hal : align = Gen.alignLeft ∨ align = Gen.alignRight ∨ align = Gen.alignCenter)
    (hpp : o.preservePara = false) (s : List Int) (hs : (o.withDefaults cxB).lineSep = [s])
    (hsV : s ∈ V) (hsne : s ≠ [0x20]) (hS : GoodSep V [s]) :
    ∃ e, Editor.alignOpts cxA ed.flat align width o.flat = .ok e ∧ e.opts = ed.flat.opts ∧
      (splitOn e.text (o.flat.withDefaults cxA).lineSep).map (fun l => nonws (clusters cxA l)) =
        (splitOn ed.flat.text (o.flat.withDefaults cxA).lineSep).map
          (fun l => nonws (clusters cxA l)) ∧
      (splitOn e.text (o.flat.withDefaults cxA).lineSep).length =
        (splitOn ed.flat.text (o.flat.withDefaults cxA).lineSep).length :=
  C07_alignOpts_code_points hV hsp ed ht align width o hal hpp (goodSep_of_eq_singleton hs hS)
    (mem_of_eq_singleton hs hsV) (by rw [hs]; exact unbordered_single s)
    (free_of_mem_or_sp ed o s hs hsne _ (specAlign_mem align width))

/-- **JustifyOpts on code points** (JustifyLastLine on and off), whole text -/
theorem C07_justifyOpts_code_points_text {V : List (List Int)} (hV : VocabStable V = true)
    (hsp : [0x20] ∈ V)
    (hspTail : ∀ t ∈ V, (0x20 : Int) ∉ t.tail) (ed : Editor (List Int))
    (ht : ∀ t ∈ ed.text, t ∈ V) (width : Int) (o : Options (List Int))
    (hpp : o.preservePara = false) (hS : GoodSep V (o.withDefaults cxB).lineSep)
    (hSV : ∀ t ∈ (o.withDefaults cxB).lineSep, t ∈ V) :
    ∃ e, Editor.justifyOpts cxA ed.flat width o.flat = .ok e ∧ e.opts = ed.flat.opts ∧
      nonws (clusters cxA e.text) = nonws (clusters cxA ed.flat.text) :=
  (justifyOpts_no_loss hV hsp hspTail ed ht width o hpp hS).nonws_text hV ht hS hSV

/-- **JustifyOpts on code points**, line by line (`justLines`: every line justified with
JustifyLastLine, every line but the last without) -/
theorem C07_justifyOpts_code_points {V : List (List Int)} (hV : VocabStable V = true)
    (hsp : [0x20] ∈ V)
    (hspTail : ∀ t ∈ V, (0x20 : Int) ∉ t.tail) (ed : Editor (List Int))
    (ht : ∀ t ∈ ed.text, t ∈ V) (width : Int) (o : Options (List Int))
    (hpp : o.preservePara = false) (hS : GoodSep V (o.withDefaults cxB).lineSep)
    (hSV : ∀ t ∈ (o.withDefaults cxB).lineSep, t ∈ V)
    (hu : Unbordered (o.withDefaults cxB).lineSep)
    (hfree : ∀ l ∈ justLines ed o width, indexOf (o.withDefaults cxB).lineSep l = none) :
    ∃ e, Editor.justifyOpts cxA ed.flat width o.flat = .ok e ∧ e.opts = ed.flat.opts ∧
      (splitOn e.text (o.flat.withDefaults cxA).lineSep).map (fun l => nonws (clusters cxA l)) =
        (splitOn ed.flat.text (o.flat.withDefaults cxA).lineSep).map
          (fun l => nonws (clusters cxA l)) ∧
      (splitOn e.text (o.flat.withDefaults cxA).lineSep).length =
        (splitOn ed.flat.text (o.flat.withDefaults cxA).lineSep).length :=
  (justifyOpts_no_loss hV hsp hspTail ed ht width o hpp hS).nonws_lines hV ht hS hSV hu
    (justLines_length ed o width) hfree

theorem C07_justifyOpts_code_points_tok {V : List (List Int)} (hV : VocabStable V = true)
    (hsp : [0x20] ∈ V)
    (hspTail : ∀ t ∈ V, (0x20 : Int) ∉ t.tail) (ed : Editor (List Int))
    (ht : ∀ t ∈ ed.text, t ∈ V) (width : Int) (o : Options (List Int))
    (hpp : o.preservePara = false) (s : List Int) (hs : (o.withDefaults cxB).lineSep = [s])
    (hsV : s ∈ V) (hsne : s ≠ [0x20]) (hS : GoodSep V [s]) :
    ∃ e, Editor.justifyOpts cxA ed.flat width o.flat = .ok e ∧ e.opts = ed.flat.opts ∧
      (splitOn e.text (o.flat.withDefaults cxA).lineSep).map (fun l => nonws (clusters cxA l)) =
        (splitOn ed.flat.text (o.flat.withDefaults cxA).lineSep).map
          (fun l => nonws (clusters cxA l)) ∧
      (splitOn e.text (o.flat.withDefaults cxA).lineSep).length =
        (splitOn ed.flat.text (o.flat.withDefaults cxA).lineSep).length :=
  C07_justifyOpts_code_points hV hsp hspTail ed ht width o hpp (goodSep_of_eq_singleton hs hS)
    (mem_of_eq_singleton hs hsV) (by rw [hs]; exact unbordered_single s)
    (justLines_free ed o width s hs hsne)

/-- **WrapOpts on code points, closed form** (any good separator): the new text is the flattening of
the wrapped cluster lines `wrapLinesB` joined by the separator (plus the trailing one); splitting
those lines at whitespace gives the pieces of the words of the input (line separators read as
whitespace: `wrapIn`), un-hyphenating the pieces of a word gives the word back, every non-final
piece is a full line-width ending in the continuation hyphen; `dehyphen` recovers the words from the
lines alone when no word can be mistaken for a continuation piece -/
theorem C07_wrapOpts_code_points {V : List (List Int)} (hV : VocabStable V = true)
    (hsp : [0x20] ∈ V)
    (hspTail : ∀ t ∈ V, (0x20 : Int) ∉ t.tail)
    (ed : Editor (List Int)) (ht : ∀ t ∈ ed.text, t ∈ V) (w : Int) (o : Options (List Int))
    (hpp : o.preservePara = false) (hS : GoodSep V (o.withDefaults cxB).lineSep) :
    ∃ e, Editor.wrapOpts cxA ed.flat w o.flat = .ok e ∧ e.opts = ed.flat.opts ∧
      e.text = (wrapTextB ed w o).flatten ∧
      clusters cxA (replaceAll' cxA ed.flat.text (o.flat.withDefaults cxA).lineSep) = wrapIn ed o ∧
      (∃ pss : List (List (List (List Int))),
        (wrapLinesB ed w o).flatMap (words tkB) = pss.flatten ∧
        pss.map unhyphen = words tkB (wrapIn ed o) ∧
        (∀ ps ∈ pss, ps ≠ [] ∧
          ∀ p ∈ ps.dropLast, p.length = wid w ∧ p.getLast? = some tkB.hy)) ∧
      (HyOK tkB (wid w) (wrapIn ed o) →
        dehyphen tkB (wid w) (wrapLinesB ed w o) = words tkB (wrapIn ed o)) := by
  obtain ⟨e, h1, h2, h3⟩ := wrapOpts_closed_text hV hsp hspTail ed ht w o hpp hS
  obtain ⟨pss, g1, g2, g3, -⟩ := Spec.wrapLines_words tkB (two_le_wid w) BridgeWrap.cxB_sp_space
    hy_not_ws (wrapIn ed o)
  exact ⟨e, h1, h2, h3, wrapIn_code_points hV hsp ed ht o hS, ⟨pss, g1, g2, g3⟩,
    dehyphen_wrapLines tkB (two_le_wid w) BridgeWrap.cxB_sp_space hy_not_ws (wrapIn ed o)⟩

/-- **WrapOpts on code points, from the output alone** (separator = one cluster other than space and
hyphen): split the result at the separator, segment, split at whitespace, undo the continuation
hyphens — the words, hence the non-whitespace clusters, of the input with its line separators read
as whitespace -/
theorem C07_wrapOpts_code_points_dehyphen {V : List (List Int)} (hV : VocabStable V = true)
    (hsp : [0x20] ∈ V) (hhy : [0x2D] ∈ V)
    (hspTail : ∀ t ∈ V, (0x20 : Int) ∉ t.tail)
    (ed : Editor (List Int)) (ht : ∀ t ∈ ed.text, t ∈ V) (w : Int) (o : Options (List Int))
    (hpp : o.preservePara = false) (s : List Int) (hs : (o.withDefaults cxB).lineSep = [s])
    (hsV : s ∈ V) (hsne : s ≠ [0x20]) (hshy : s ≠ [0x2D]) (hS : GoodSep V [s])
    (hok : HyOK tkB (wid w) (wrapIn ed o)) :
    ∃ e, Editor.wrapOpts cxA ed.flat w o.flat = .ok e ∧ e.opts = ed.flat.opts ∧
      dehyphen tkB (wid w)
          ((splitOn e.text (o.flat.withDefaults cxA).lineSep).map (clusters cxA)) =
        words tkB (clusters cxA (replaceAll' cxA ed.flat.text (o.flat.withDefaults cxA).lineSep)) ∧
      (dehyphen tkB (wid w)
          ((splitOn e.text (o.flat.withDefaults cxA).lineSep).map (clusters cxA))).flatten =
        nonws (clusters cxA (replaceAll' cxA ed.flat.text (o.flat.withDefaults cxA).lineSep)) := by
  have hS' := goodSep_of_eq_singleton hs hS
  obtain ⟨e, h1, h2, h3⟩ := wrapOpts_closed_text hV hsp hspTail ed ht w o hpp hS'
  have key := wrapTextB_dehyphen_lines hV hsp hhy ed ht w o s hs hsV hsne hshy hS hok
  refine ⟨e, h1, h2, ?_, ?_⟩
  · rw [h3, wrapIn_code_points hV hsp ed ht o hS']
    exact key
  · rw [h3, wrapIn_code_points hV hsp ed ht o hS', key]
    exact words_flatten tkB _

/-- **WrapOpts on code points, whole text** (separator = one whitespace cluster, e.g. the default
`"\n"`): the non-whitespace clusters of the output, continuation hyphens removed, equal those of the
input -/
theorem C07_wrapOpts_code_points_text {V : List (List Int)} (hV : VocabStable V = true)
    (hsp : [0x20] ∈ V) (hhy : [0x2D] ∈ V)
    (hspTail : ∀ t ∈ V, (0x20 : Int) ∉ t.tail)
    (ed : Editor (List Int)) (ht : ∀ t ∈ ed.text, t ∈ V) (w : Int) (o : Options (List Int))
    (hpp : o.preservePara = false) (s : List Int) (hs : (o.withDefaults cxB).lineSep = [s])
    (hsV : s ∈ V) (hsws : cxB.isSpace s = true) (hS : GoodSep V [s])
    (hok : HyOK tkB (wid w) (clusters cxA ed.flat.text)) :
    ∃ e, Editor.wrapOpts cxA ed.flat w o.flat = .ok e ∧ e.opts = ed.flat.opts ∧
      dehyphen tkB (wid w) [clusters cxA e.text] = words tkB (clusters cxA ed.flat.text) ∧
      (dehyphen tkB (wid w) [clusters cxA e.text]).flatten = nonws (clusters cxA ed.flat.text) := by
  obtain ⟨e, h1, h2, h3⟩ := wrapOpts_closed_text hV hsp hspTail ed ht w o hpp
    (goodSep_of_eq_singleton hs hS)
  rw [flat_text, clusters_flat_over hV ht] at hok ⊢
  have key : dehyphen tkB (wid w) [clusters cxA e.text] = words tkB ed.text := by
    rw [h3, clusters_flat_over hV (wrapTextB_over hsp hhy ed ht w o (mem_of_eq_singleton hs hsV))]
    exact wrapTextB_dehyphen ed w o s hs hsws hok
  refine ⟨e, h1, h2, key, ?_⟩
  rw [key]
  exact words_flatten tkB _

/-- **paragraph mode, Align** (affix-free paragraph separator): every paragraph separator is kept in
place, every piece is the non-paragraph `AlignOpts` of its paragraph (so the statements above hold
paragraph by paragraph), and the non-whitespace clusters of the whole text are unchanged -/
theorem C07_alignOpts_para {V : List (List Int)} (hV : VocabStable V = true) (hsp : [0x20] ∈ V)
    (ed : Editor (List Int)) (ht : ∀ t ∈ ed.text, t ∈ V) (align width : Int)
    (o : Options (List Int))
    (hal : align = Gen.alignLeft ∨ align = Gen.alignRight ∨ align = Gen.alignCenter)
    (hpp : o.preservePara = true)
    (hG : GoodPara V (o.withDefaults cxB).lineSep (o.withDefaults cxB).paraSep)
    (haf : AffixFree (o.flat.withDefaults cxA)) :
    ∃ (e : Editor Int) (G : List (List Int) → List (List Int)),
      Editor.alignOpts cxA ed.flat align width o.flat = .ok e ∧ e.opts = ed.flat.opts ∧
      ed.flat.text = joinWith (o.flat.withDefaults cxA).paraSep
        ((paragraphsOf ed.text (o.withDefaults cxB)).map List.flatten) ∧
      e.text = joinWith (o.flat.withDefaults cxA).paraSep
        ((paragraphsOf ed.text (o.withDefaults cxB)).map (fun p => (G p).flatten)) ∧
      (∀ p ∈ paragraphsOf ed.text (o.withDefaults cxB),
        (∀ t ∈ p, t ∈ V) ∧ (∀ t ∈ G p, t ∈ V) ∧ nonws (G p) = nonws p ∧
        Editor.alignOpts cxA (Editor.root p (single o)).flat align width (single o).flat =
          .ok (Editor.root (G p) (single o)).flat) ∧
      nonws (clusters cxA e.text) = nonws (clusters cxA ed.flat.text) :=
  para_of_replaced hV ed ht o hG _ _
    (alignOpts_para cxA cxA_Sane ed.flat align width o.flat hal
      (by rw [withDefaults_preservePara]; exact hpp) haf)
    (fun ed' => Editor.alignOpts cxA ed' align width (single o).flat)
    (fun q => alignOpts_single cxA align width o.flat hal
      (withDefaults_lineSep_ne_nil cxA cxA_dLineSep_ne _) q)
    (fun p => (inLines cxB (Editor.root p (single o)) (single o)).map (specAlign align width))
    (fun p hp => alignOpts_no_loss hV hsp (Editor.root p (single o)) hp align width (single o) hal
      (single_pp o) (goodSep_single hG))

/-- **paragraph mode, Justify** -/
theorem C07_justifyOpts_para {V : List (List Int)} (hV : VocabStable V = true) (hsp : [0x20] ∈ V)
    (hspTail : ∀ t ∈ V, (0x20 : Int) ∉ t.tail)
    (ed : Editor (List Int)) (ht : ∀ t ∈ ed.text, t ∈ V) (width : Int)
    (o : Options (List Int)) (hpp : o.preservePara = true)
    (hG : GoodPara V (o.withDefaults cxB).lineSep (o.withDefaults cxB).paraSep)
    (haf : AffixFree (o.flat.withDefaults cxA)) :
    ∃ (e : Editor Int) (G : List (List Int) → List (List Int)),
      Editor.justifyOpts cxA ed.flat width o.flat = .ok e ∧ e.opts = ed.flat.opts ∧
      ed.flat.text = joinWith (o.flat.withDefaults cxA).paraSep
        ((paragraphsOf ed.text (o.withDefaults cxB)).map List.flatten) ∧
      e.text = joinWith (o.flat.withDefaults cxA).paraSep
        ((paragraphsOf ed.text (o.withDefaults cxB)).map (fun p => (G p).flatten)) ∧
      (∀ p ∈ paragraphsOf ed.text (o.withDefaults cxB),
        (∀ t ∈ p, t ∈ V) ∧ (∀ t ∈ G p, t ∈ V) ∧ nonws (G p) = nonws p ∧
        Editor.justifyOpts cxA (Editor.root p (single o)).flat width (single o).flat =
          .ok (Editor.root (G p) (single o)).flat) ∧
      nonws (clusters cxA e.text) = nonws (clusters cxA ed.flat.text) :=
  para_of_replaced hV ed ht o hG _ _
    (justifyOpts_para_sane cxA cxA_Sane ed.flat width o.flat
      (by rw [withDefaults_preservePara]; exact hpp) haf)
    (fun ed' => Editor.justifyOpts cxA ed' width (single o).flat)
    (fun q => justifyOpts_single cxA cxA_Sane cxA_dLineSep_ne width o.flat q)
    (fun p => justLines (Editor.root p (single o)) (single o) width)
    (fun p hp => justifyOpts_no_loss hV hsp hspTail (Editor.root p (single o)) hp width (single o)
      (single_pp o) (goodSep_single hG))

/-- **paragraph mode, Wrap**: every paragraph separator is kept in place and every piece is the
non-paragraph `WrapOpts` of its paragraph (`wrapTextB`), so `C07_wrapOpts_code_points*` hold
paragraph by paragraph; the last clause is the whole-paragraph form for a whitespace separator -/
theorem C07_wrapOpts_para {V : List (List Int)} (hV : VocabStable V = true) (hsp : [0x20] ∈ V)
    (hspTail : ∀ t ∈ V, (0x20 : Int) ∉ t.tail)
    (ed : Editor (List Int)) (ht : ∀ t ∈ ed.text, t ∈ V) (w : Int)
    (o : Options (List Int)) (hpp : o.preservePara = true)
    (hG : GoodPara V (o.withDefaults cxB).lineSep (o.withDefaults cxB).paraSep)
    (haf : AffixFree (o.flat.withDefaults cxA)) :
    ∃ e : Editor Int, Editor.wrapOpts cxA ed.flat w o.flat = .ok e ∧ e.opts = ed.flat.opts ∧
      ed.flat.text = joinWith (o.flat.withDefaults cxA).paraSep
        ((paragraphsOf ed.text (o.withDefaults cxB)).map List.flatten) ∧
      e.text = joinWith (o.flat.withDefaults cxA).paraSep
        ((paragraphsOf ed.text (o.withDefaults cxB)).map
          (fun p => (wrapTextB (Editor.root p (single o)) w (single o)).flatten)) ∧
      (∀ p ∈ paragraphsOf ed.text (o.withDefaults cxB),
        (∀ t ∈ p, t ∈ V) ∧
        Editor.wrapOpts cxA (Editor.root p (single o)).flat w (single o).flat =
          .ok (Editor.root (wrapTextB (Editor.root p (single o)) w (single o)) (single o)).flat ∧
        (∀ s, (o.withDefaults cxB).lineSep = [s] → cxB.isSpace s = true →
          HyOK tkB (wid w) p →
          dehyphen tkB (wid w) [wrapTextB (Editor.root p (single o)) w (single o)] =
            words tkB p)) := by
  obtain ⟨e, h1, h2, h4, h5, h6⟩ := para_code_points hV ed ht o hG _ _
    (wrapOpts_para_sane cxA cxA_Sane ed.flat w o.flat
      (by rw [withDefaults_preservePara]; exact hpp) haf)
    (fun p => wrapTextB (Editor.root p (single o)) w (single o))
    (wrapPara_code_points hV hsp hspTail w o hG)
  refine ⟨e, h1, h2, h4, h5, fun p hp => ⟨h6 p hp, ?_, ?_⟩⟩
  · exact wrapOpts_closed hV hsp hspTail (Editor.root p (single o)) (h6 p hp) w (single o)
      (single_pp o) (goodSep_single hG)
  · intro s hs hsws hok
    exact wrapTextB_dehyphen (Editor.root p (single o)) w (single o) s
      (by rw [single_lineSep_B]; exact hs) hsws hok

/-- **CollapseSpaceOpts is idempotent at the public level**, on code points over a stable
vocabulary (`SepCollapseOK`: the separator is one cluster, or contains a whitespace cluster other
than the space) -/
theorem C07_collapseSpaceOpts_idempotent {V : List (List Int)} (hV : VocabStable V = true)
    (hsp : [0x20] ∈ V)
    (hspTail : ∀ t ∈ V, (0x20 : Int) ∉ t.tail)
    (ed : Editor (List Int)) (ht : ∀ t ∈ ed.text, t ∈ V) (o : Options (List Int))
    (hS : GoodSep V (o.withDefaults cxB).lineSep)
    (hok : SepCollapseOK (o.withDefaults cxB).lineSep) :
    (Editor.collapseSpaceOpts cxA ed.flat o.flat >>= fun e => Editor.collapseSpaceOpts cxA e o.flat) =
      Editor.collapseSpaceOpts cxA ed.flat o.flat :=
  idem_of_closed (fun e => Editor.collapseSpaceOpts cxA e o.flat) (fun ed => collapseB ed o)
    (fun ed ht => collapseSpaceOpts_closed hV hsp hspTail ed ht o hS) ed ht
    (collapseB_over hsp ed ht o) (collapseB_idem ed o hok)

/-- … but NOT for arbitrary code points (FINDING): `"\t" ++ U+0301` → `" " ++ U+0301` → `" "` -/
theorem C07_collapseSpaceOpts_not_idempotent_all :
    (Editor.collapseSpaceOpts cxA (.root [0x09, 0x301] {}) {}).map Editor.text =
      .ok [0x20, 0x301] ∧
    (Editor.collapseSpaceOpts cxA (.root [0x09, 0x301] {}) {} >>=
        fun e => Editor.collapseSpaceOpts cxA e {}).map Editor.text = .ok [0x20] :=
  ⟨BridgeWrap.of_okEq (by decide +kernel), BridgeWrap.of_okEq (by decide +kernel)⟩

/-- … and not for a separator that contains a space between other clusters (FINDING): separator
`"a b"`, text `"a  b"` → `"a b"` → `" "` -/
theorem C07_collapseSpaceOpts_idempotent_needs_sep :
    VocabStable [[0x61], [0x20], [0x62]] = true ∧
    (Editor.collapseSpaceOpts cxA (.root [0x61, 0x20, 0x20, 0x62] {})
        { lineSep := [0x61, 0x20, 0x62] }).map Editor.text = .ok [0x61, 0x20, 0x62] ∧
    (Editor.collapseSpaceOpts cxA (.root [0x61, 0x20, 0x20, 0x62] {})
        { lineSep := [0x61, 0x20, 0x62] } >>=
      fun e => Editor.collapseSpaceOpts cxA e { lineSep := [0x61, 0x20, 0x62] }).map Editor.text =
        .ok [0x20] :=
  ⟨by decide +kernel, BridgeWrap.of_okEq (by decide +kernel), BridgeWrap.of_okEq (by decide +kernel)⟩

/-! ### the stand-in of paragraph-mode Wrap

`WrapOpts` with PreserveParagraphs pads each paragraph with runs of a stand-in letter in place of
the parts of the paragraph separator that share a line with it, wraps, and removes the runs again BY
COUNT.  Wrap turns every occurrence of the line separator into a space first, so the stand-in must
not occur in the line separator: it is `cxA.placeholder sep`, the first of `A`, `B`, `C`, … that is
not a rune of the line separator (a fixed stand-in `A` loses text for a line separator containing
`A`: finding D18 of DESIGN.md section 12.4).

Limit: the candidates are consecutive code points, so a line separator that contains every rune
U+0041..U+0084 gets the stand-in U+0085, which is white space (collapsed by Wrap), and one that
contains every rune U+0041..U+02FF gets U+0300, class Extend (a run of them is ONE cluster, so the
count is off).  No separator of fewer than 68 runes is affected. -/

/-- for EVERY line separator the stand-in does not occur in it (so no stand-in is turned into a
space as part of a line separator) -/
theorem C07_wrapOpts_para_placeholder_fresh (sep : List Int) : cxA.placeholder sep ∉ sep :=
  phFresh_cxA sep

/-- it is the first such letter: `A + k` with `k ≤ |sep|`, and every letter before it is a rune of
the separator -/
theorem C07_wrapOpts_para_placeholder_first (sep : List Int) :
    ∃ k : Nat, k ≤ sep.length ∧ cxA.placeholder sep = 0x41 + (k : Int) ∧
      ∀ j : Nat, j < k → (0x41 + (j : Int)) ∈ sep :=
  placeholder_cxA_first sep

/-- a line separator without the letter `A` is padded with `A` -/
theorem C07_wrapOpts_para_placeholder_default (sep : List Int) (h : (0x41 : Int) ∉ sep) :
    cxA.placeholder sep = 0x41 :=
  Ctx.placeholder_eq_phA cxA h

/-- the inputs of finding D18 keep their text: `"x\n\ny"` with the line separator `"A"` (the whole
paragraph separator `"\n\n"` shares a line with the first paragraph, which is padded with two
stand-ins `B`), `"bx\n\ny"` with the line separator `"xA"` (stand-in `B`), `"x\n\nyz"` with the
line separator `"AB"` (stand-in `C`) -/
theorem C07_wrapOpts_para_D18_witness :
    (Editor.wrapOpts cxA (.root [0x78, 0x0A, 0x0A, 0x79] {}) 20
        { preservePara := true, lineSep := [0x41] }).map Editor.text =
      .ok [0x78, 0x0A, 0x0A, 0x79] ∧
    (Editor.wrapOpts cxA (.root [0x62, 0x78, 0x0A, 0x0A, 0x79] {}) 20
        { preservePara := true, lineSep := [0x78, 0x41] }).map Editor.text =
      .ok [0x62, 0x78, 0x0A, 0x0A, 0x79] ∧
    (Editor.wrapOpts cxA (.root [0x78, 0x0A, 0x0A, 0x79, 0x7A] {}) 20
        { preservePara := true, lineSep := [0x41, 0x42] }).map Editor.text =
      .ok [0x78, 0x0A, 0x0A, 0x79, 0x7A] ∧
    cxA.placeholder [0x41] = 0x42 ∧ cxA.placeholder [0x78, 0x41] = 0x42 ∧
    cxA.placeholder [0x41, 0x42] = 0x43 ∧ cxA.placeholder [0x42, 0x41] = 0x43 ∧
    cxA.placeholder [0x0A] = 0x41 :=
  ⟨BridgeWrap.of_okEq (by decide +kernel), BridgeWrap.of_okEq (by decide +kernel),
    BridgeWrap.of_okEq (by decide +kernel), by decide, by decide, by decide, by decide, by decide⟩

/-- the limit as a checked fact: for the 68-rune line separator
U+0041 … U+0084 the stand-in is U+0085 (NEL), which is white space; Wrap collapses the stand-ins
and the removal by count deletes the paragraph `"x"` -/
theorem C07_wrapOpts_para_placeholder_limit :
    cxA.placeholder ((List.range 68).map fun (i : Nat) => (0x41 + (i : Int))) = 0x85 ∧
    cxA.isSpace 0x85 = true ∧
    (Editor.wrapOpts cxA (.root [0x78, 0x0A, 0x0A, 0x79] {}) 20
        { preservePara := true, lineSep := (List.range 68).map fun (i : Nat) => (0x41 + (i : Int)) }).map
      Editor.text = .ok [0x0A, 0x0A, 0x79] :=
  ⟨by decide +kernel, by decide +kernel, BridgeWrap.of_okEq (by decide +kernel)⟩

/-- finding D19 (DESIGN.md section 12.4; `known_findings.json`, entry D19): with `PreserveParagraphs`
and the line separator `"  "` (two spaces) the placeholder SPACES that stand in for the paragraph
separator's part on the paragraph's last line are taken for a trailing line separator, and the
removal by count deletes text: `"ab cd\n\nef gh"` aligned Left to width 3 comes out as
`"ab   \n\nef gh"` — `cd` is lost.  So the no-loss theorems above cannot be stated for ALL
separators: this is what their `GoodSep` / vocabulary hypotheses exclude. -/
theorem C07_alignOpts_para_D19_counterexample :
    (Editor.alignOpts cxA (.root [0x61, 0x62, 0x20, 0x63, 0x64, 0x0A, 0x0A, 0x65, 0x66, 0x20, 0x67, 0x68] {}) Gen.alignLeft 3
        { preservePara := true, lineSep := [0x20, 0x20] }).map Editor.text =
      .ok [0x61, 0x62, 0x20, 0x20, 0x20, 0x0A, 0x0A, 0x65, 0x66, 0x20, 0x67, 0x68] :=
  BridgeWrap.of_okEq (by decide +kernel)

/-- all hypotheses of the non-paragraph statements above and of the two idempotence theorems hold
for the vocabulary `BridgeOps.demoVocab3` (letters, space, hyphen, a decomposed accent, a flag, tab,
line feed) and the separator U+000A: for every text over it, root editor with arbitrary options,
every alignment, every width, call options that leave the line separator unset (or set it to
`"\n"`) outside paragraph mode -/
example (toks : List (List Int)) (ht : ∀ t ∈ toks, t ∈ BridgeOps.demoVocab3) (align width : Int)
    (o0 o : Options (List Int)) (hpp : o.preservePara = false)
    (hal : align = Gen.alignLeft ∨ align = Gen.alignRight ∨ align = Gen.alignCenter)
    (hls : o.lineSep = [] ∨ o.lineSep = [[0x0A]])
    (hok : HyOK tkB (wid width) toks) :
    (∃ e, Editor.alignOpts cxA (.root toks.flatten o0.flat) align width o.flat = .ok e ∧
      (splitOn e.text (o.flat.withDefaults cxA).lineSep).map (fun l => nonws (clusters cxA l)) =
        (splitOn toks.flatten (o.flat.withDefaults cxA).lineSep).map
          (fun l => nonws (clusters cxA l))) ∧
    (∃ e, Editor.justifyOpts cxA (.root toks.flatten o0.flat) width o.flat = .ok e ∧
      nonws (clusters cxA e.text) = nonws (clusters cxA toks.flatten)) ∧
    (∃ e, Editor.wrapOpts cxA (.root toks.flatten o0.flat) width o.flat = .ok e ∧
      (dehyphen tkB (wid width) [clusters cxA e.text]).flatten = nonws (clusters cxA toks.flatten)) ∧
    (Editor.wrapOpts cxA (.root toks.flatten o0.flat) width o.flat >>=
        fun e => Editor.wrapOpts cxA e width o.flat) =
      Editor.wrapOpts cxA (.root toks.flatten o0.flat) width o.flat ∧
    (Editor.collapseSpaceOpts cxA (.root toks.flatten o0.flat) o.flat >>=
        fun e => Editor.collapseSpaceOpts cxA e o.flat) =
      Editor.collapseSpaceOpts cxA (.root toks.flatten o0.flat) o.flat := by
  have hs := lineSep_nl_of o hls
  have hS := goodSep_of_eq_singleton hs demo3_good_nl
  have hin : clusters cxA (Editor.root toks o0).flat.text = toks := by
    rw [flat_text]; exact clusters_flat_over BridgeOps.demoVocab3_stable ht
  refine ⟨?_, ?_, ?_, ?_, ?_⟩
  · obtain ⟨e, h1, -, h2, -⟩ := C07_alignOpts_code_points_tok BridgeOps.demoVocab3_stable
      BridgeOps.demoVocab3_sp (.root toks o0) ht align width o hal hpp [0x0A] hs
      BridgeOps.demoVocab3_nl (by decide) demo3_good_nl
    exact ⟨e, h1, h2⟩
  · obtain ⟨e, h1, -, h2⟩ := C07_justifyOpts_code_points_text BridgeOps.demoVocab3_stable
      BridgeOps.demoVocab3_sp BridgeOps.demoVocab3_spTail (.root toks o0) ht width o hpp hS
      (mem_of_eq_singleton hs BridgeOps.demoVocab3_nl)
    exact ⟨e, h1, h2⟩
  · obtain ⟨e, h1, -, -, h2⟩ := C07_wrapOpts_code_points_text BridgeOps.demoVocab3_stable
      BridgeOps.demoVocab3_sp BridgeOps.demoVocab3_hy BridgeOps.demoVocab3_spTail (.root toks o0) ht
      width o hpp [0x0A] hs BridgeOps.demoVocab3_nl (by decide) demo3_good_nl (by rw [hin]; exact hok)
    exact ⟨e, h1, h2⟩
  · exact wrapOpts_idempotent_code_points BridgeOps.demoVocab3_stable BridgeOps.demoVocab3_sp
      BridgeOps.demoVocab3_hy BridgeOps.demoVocab3_spTail (.root toks o0) ht width o hpp [0x0A] hs
      BridgeOps.demoVocab3_nl (by decide) demo3_good_nl
  · exact C07_collapseSpaceOpts_idempotent BridgeOps.demoVocab3_stable BridgeOps.demoVocab3_sp
      BridgeOps.demoVocab3_spTail (.root toks o0) ht o hS (Or.inl ⟨[0x0A], hs⟩)

/-- paragraph mode: all hypotheses of the three paragraph-mode statements hold for
`BridgeEditorParas.demoVocabA` and the default separators `"\n"` / `"\n\n"` -/
example (toks : List (List Int)) (ht : ∀ t ∈ toks, t ∈ demoVocabA) (align width : Int)
    (o0 o : Options (List Int)) (hpp : o.preservePara = true) (hl : o.lineSep = [])
    (hp : o.paraSep = [])
    (hal : align = Gen.alignLeft ∨ align = Gen.alignRight ∨ align = Gen.alignCenter) :
    (∃ e, Editor.alignOpts cxA (.root toks.flatten o0.flat) align width o.flat = .ok e ∧
      nonws (clusters cxA e.text) = nonws (clusters cxA toks.flatten)) ∧
    (∃ e, Editor.justifyOpts cxA (.root toks.flatten o0.flat) width o.flat = .ok e ∧
      nonws (clusters cxA e.text) = nonws (clusters cxA toks.flatten)) ∧
    (∃ e, Editor.wrapOpts cxA (.root toks.flatten o0.flat) width o.flat = .ok e ∧
      e.text = joinWith (o.flat.withDefaults cxA).paraSep
        ((paragraphsOf toks (o.withDefaults cxB)).map
          (fun p => (wrapTextB (Editor.root p (single o)) width (single o)).flatten))) := by
  have hG : GoodPara demoVocabA (o.withDefaults cxB).lineSep (o.withDefaults cxB).paraSep := by
    rw [(default_seps o hl hp).1, (default_seps o hl hp).2]; exact demoVocabA_goodPara
  have hspT : ∀ t ∈ demoVocabA, (0x20 : Int) ∉ t.tail := BridgeWrap.spTail_of_spOnly (by decide)
  have haf := affixFree_default_A o hl hp
  refine ⟨?_, ?_, ?_⟩
  · obtain ⟨e, G, h1, -, -, -, -, h2⟩ := C07_alignOpts_para demoVocabA_stable (by decide)
      (.root toks o0) ht align width o hal hpp hG haf
    exact ⟨e, h1, h2⟩
  · obtain ⟨e, G, h1, -, -, -, -, h2⟩ := C07_justifyOpts_para demoVocabA_stable (by decide)
      hspT (.root toks o0) ht width o hpp hG haf
    exact ⟨e, h1, h2⟩
  · obtain ⟨e, h1, -, -, h2, -⟩ := C07_wrapOpts_para demoVocabA_stable (by decide)
      hspT (.root toks o0) ht width o hpp hG haf
    exact ⟨e, h1, h2⟩

end C07_public

end RosedVerif.Props
