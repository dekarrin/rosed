/-
C16 — Tables are rectangular with aligned columns.   (cluster level: every atom is a cluster)
The model of manip.MakeTable / buildTable (width arithmetic, per/rem distribution, border and header
bars, AlignLineLeft / AlignLineCenter per cell) is proved rectangular for ALL ragged data, all integer
widths, borders × headers, any three-token character set — no hypothesis on whitespace in cells.
-/
import RosedVerif.Model.InstAFacts
import RosedVerif.Model.CompositeLemmas
import RosedVerif.Model.BridgeComposite
import RosedVerif.Model.TableShape
namespace RosedVerif.Props
open RosedVerif
variable {α : Type} [DecidableEq α] (cx : Ctx α)

/-- every output line has the same number of clusters: the requested width, or the minimum the
content needs when that is larger -/
theorem C16_rectangular (htriv : ∀ s, cx.ends s = List.range' 1 s.length)
    (data : List (List (List α))) (width : Int) (header border : Bool) (charSet : List α)
    (h3 : charSet.length = 3) :
    ∀ line ∈ makeTable cx data width header border charSet,
      (line.length : Int) = max width (tableMinWidth data border) :=
  makeTable_rect cx htriv data width header border charSet h3

/-- … also for the block InsertTableOpts actually inserts (the defaulted character set always has
three tokens at cluster level) -/
theorem C16_rectangular_op (htriv : ∀ s, cx.ends s = List.range' 1 s.length) (h3 : cx.dCharset.length = 3)
    (data : List (List (List α))) (width : Int) (o : Options α) :
    ∀ line ∈ makeTable cx data width (o.withDefaults cx).headers (o.withDefaults cx).borders
        (o.withDefaults cx).charset,
      (line.length : Int) = max width (tableMinWidth data o.borders) :=
  insertTableOpts_lines_rect cx htriv h3 data width o

/-- the minimum width the content needs (the model's own formula, in closed form) -/
theorem C16_min_width_border (data : List (List (List α))) :
    tableMinWidth data true =
      1 + sumTo (fun i => (colContent data i : Int) + 2 + 1) (tableColCount data) := by
  unfold tableMinWidth padW
  simp only [if_true]
theorem C16_min_width_noBorder (data : List (List (List α))) (hk : tableColCount data ≠ 0) :
    tableMinWidth data false =
      sumTo (fun i => (colContent data i : Int)) (tableColCount data) + 2 * ((tableColCount data : Int) - 1) := by
  unfold tableMinWidth padW
  simp only [Bool.false_eq_true, if_false, Int.add_zero, Int.zero_add]
  rw [sumTo_add, sumTo_notLast _ (by omega)]

/-- the number of lines: data rows + 2 border lines + the header rule (that the rows appear in
order is `MakeTableShape.rows` in `C16_shape`) -/
theorem C16_line_count (data : List (List (List α))) (width : Int) (header border : Bool) (charSet : List α)
    (hd : data ≠ []) (hk : tableColCount data ≠ 0) :
    (makeTable cx data width header border charSet).length =
      data.length + (if border = true then 2 else 0) +
        (if header = true then (if border = true then (if data.length > 1 then 1 else 0) else 1) else 0) :=
  makeTable_length cx data width header border charSet hd hk

/-- empty data, or only empty rows, produce no output -/
theorem C16_empty (width : Int) (header border : Bool) (charSet : List α) :
    makeTable cx [] width header border charSet = [] := makeTable_nil cx width header border charSet
theorem C16_only_empty_rows (data : List (List (List α))) (width : Int) (header border : Bool)
    (charSet : List α) (h : ∀ r ∈ data, r = []) : makeTable cx data width header border charSet = [] :=
  makeTable_of_rows_empty cx data width header border charSet h

/-- InsertTable is total on arbitrary code-point data -/
theorem C16_total (ed : Editor Int) (p : Int) (d : List (List (List Int))) (w : Int) (o : Options Int) :
    ∃ r, ed.insertTableOpts cxA p d w o = .ok r := insertTableOpts_total cxA_Sane ed p d w o

/-- **bridge to code points**: on a stable vocabulary (closed under upper-casing when headers are on — necessary: U+0345 upper-cases out of its cluster, `BridgeComposite.hup_needed`) the model of InsertTableOpts run on CODE POINTS with the real segmentation returns the flattening of the cluster-level table, and every line has exactly max(W, minimum width) REAL grapheme clusters: the table is rectangular -/
theorem C16_code_points {V : List (List Int)} (hV : VocabStable V = true)
    (hsp : [0x20] ∈ V)
    (toks : List (List Int))
    (ht : ∀ t ∈ toks, t ∈ V)
    (o0 : Options (List Int))
    (pos : Int)
    (data : List (List (List (List Int))))
    (hdata : ∀ row ∈ data, ∀ cell ∈ row, ∀ t ∈ cell, t ∈ V)
    (width : Int)
    (o : Options (List Int))
    (hL : ∀ t ∈ (o.withDefaults cxB).lineSep, t ≠ [])
    (hc : ∀ t ∈ o.charset, t ∈ V)
    (hcd : ∀ t ∈ (o.withDefaults cxB).charset, t ∈ V)
    (hup : o.headers = true → ∀ t ∈ V, t.map upperRune ∈ V) :
    ∃ ls : List (List (List Int)),
      ls = makeTable cxB data width (o.withDefaults cxB).headers (o.withDefaults cxB).borders
        (o.withDefaults cxB).charset ∧
      Editor.insertTableOpts cxA (.root toks.flatten o0.flat) pos
          (data.map (List.map List.flatten)) width o.flat =
        .ok (.root (toks.take (Spec.normPos toks.length pos).toNat ++
          (if (!(o.withDefaults cxB).noTrailing) = true ∧
              (!(Block.mk ls (o.withDefaults cxB).lineSep false).join.isEmpty) = true then
            (Block.mk ls (o.withDefaults cxB).lineSep false).join ++ (o.withDefaults cxB).lineSep
          else (Block.mk ls (o.withDefaults cxB).lineSep false).join) ++
          toks.drop (Spec.normPos toks.length pos).toNat).flatten o0.flat) ∧
      ∀ line ∈ ls, clusters cxA line.flatten = line ∧
        (gLen cxA line.flatten : Int) = max width (tableMinWidth data o.borders) :=
  insertTableOpts_bridge_C16 hV hsp toks ht o0 pos data hdata width o hL hc hcd hup

/-- **the shape of the table** at cluster level, for ALL ragged data, widths, headers × borders and any character set: `MakeTableShape` (Model/TableShape.lean, 25 documented fields) — rows in input order at line `rowLine`; every row is its column segments, segment k exactly `colW k` long and starting at the same offset `colOffset k` in every row; a body cell is its left-stripped text (after one space with borders) padded with spaces, a header cell the UPPER-CASED text (centred with borders), a missing cell all spaces; the non-whitespace tokens of a segment are exactly its cell's; the header is followed by a rule (`h`^width without borders, the bar with borders when there is a body); with borders the first and last lines are the bar `c h^{w0} c h^{w1} c …` with corners exactly at the column boundaries, every row starts with `v` and has `v` after every segment; without borders and headers the character set is not used at all -/
theorem C16_shape {α : Type} [DecidableEq α] (cx : Ctx α) (htriv : ∀ s, cx.ends s = List.range' 1 s.length)
    (h3 : 3 ≤ cx.dCharset.length)
    (data : List (List (List α)))
    (width : Int)
    (header border : Bool)
    (charSet : List α)
    (hd : data ≠ [])
    (hk : tableColCount data ≠ 0) :
    ∃ c v h, parseTableCharSet cx charSet = ⟨[c], [v], [h]⟩ ∧
      makeTable cx data width header border charSet =
        makeTable cx data width header border [c, v, h] ∧
      MakeTableShape cx data width header border c v h := by
  obtain ⟨c, v, h, hp⟩ := parseTableCharSet_triv_exists cx htriv h3 charSet
  refine ⟨c, v, h, hp, ?_, makeTable_shape cx htriv data width header border c v h hd hk⟩
  apply makeTable_charSet_congr
  rw [hp, parseTableCharSet_triv cx htriv]

/-- … and the block InsertTableOpts inserts is that table (defaulted three-token character set), joined by the line separator with the trailing-separator policy -/
theorem C16_shape_op {α : Type} [DecidableEq α] (cx : Ctx α) (htriv : ∀ s, cx.ends s = List.range' 1 s.length)
    (h3 : cx.dCharset.length = 3)
    (ed : Editor α)
    (pos : Int)
    (data : List (List (List α)))
    (width : Int)
    (o : Options α)
    (hd : data ≠ [])
    (hk : tableColCount data ≠ 0) :
    ∃ c v h ls, (o.withDefaults cx).charset = [c, v, h] ∧
      ls = makeTable cx data width o.headers o.borders [c, v, h] ∧
      MakeTableShape cx data width o.headers o.borders c v h ∧
      ed.insertTableOpts cx pos data width o =
        ed.insert cx pos
          (if (!(o.withDefaults cx).noTrailing) = true ∧
              (!(Block.mk ls (o.withDefaults cx).lineSep false).join.isEmpty) = true then
            (Block.mk ls (o.withDefaults cx).lineSep false).join ++ (o.withDefaults cx).lineSep
          else (Block.mk ls (o.withDefaults cx).lineSep false).join) := by
  have hb : (o.withDefaults cx).borders = o.borders := (withDefaults_fields cx o).2.2.2.2.2.2.1
  have hh : (o.withDefaults cx).headers = o.headers := (withDefaults_fields cx o).2.2.2.2.2.2.2
  have hl := withDefaults_charset_length_triv cx htriv h3 o
  match hcs : (o.withDefaults cx).charset, hl with
  | [c, v, h], _ =>
    refine ⟨c, v, h, _, rfl, rfl, makeTable_shape cx htriv data width _ _ c v h hd hk, ?_⟩
    unfold Editor.insertTableOpts
    simp only [hb, hh, hcs]

end RosedVerif.Props
