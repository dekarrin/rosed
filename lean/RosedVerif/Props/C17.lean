/-
C17 — Unset options equal their defaults; XOpts equals WithOptions(o).X.
-/
import RosedVerif.Model.InstAFacts
import RosedVerif.Gen.Facts
import RosedVerif.Model.ReceiverOptions
namespace RosedVerif.Props
open RosedVerif

/-- the completed table character set has as many clusters as the default one (three).  Decidable;
it fails only when a Prepend-class character swallows the default character appended after it
(finding D10 of DESIGN.md §12.4, `C17_counterexample_D10`) -/
def CharsetOK (o : Options Int) : Prop := gLen cxA (o.withDefaults cxA).charset = gLen cxA cxA.dCharset

theorem C17_idempotent (o : Options Int) (h : CharsetOK o) :
    (o.withDefaults cxA).withDefaults cxA = o.withDefaults cxA := withDefaults_idem' cxA o h

theorem C17_three_clusters (o : Options Int) (h : CharsetOK o) : gLen cxA (o.withDefaults cxA).charset = 3 := by
  rw [h]; decide +kernel

/-- at cluster level (one token per cluster) no side condition is needed -/
theorem C17_idempotent_clusters {α : Type} (cx : Ctx α) (htriv : ∀ s, cx.ends s = List.range' 1 s.length)
    (h3 : cx.dCharset.length = 3) (o : Options α) :
    (o.withDefaults cx).withDefaults cx = o.withDefaults cx ∧ ((o.withDefaults cx).charset).length = 3 :=
  ⟨withDefaults_idem_of_triv cx htriv o, (withDefaults_charset_length cx htriv o).trans h3⟩

/-- unset string fields behave as their documented defaults -/
theorem C17_fields (o : Options Int) :
    (o.withDefaults cxA).lineSep = (if o.lineSep.isEmpty then cxA.dLineSep else o.lineSep) ∧
    (o.withDefaults cxA).indentStr = (if o.indentStr.isEmpty then cxA.dIndent else o.indentStr) ∧
    (o.withDefaults cxA).paraSep = (if o.paraSep.isEmpty then cxA.dParaSep else o.paraSep) ∧
    (o.withDefaults cxA).noTrailing = o.noTrailing ∧
    (o.withDefaults cxA).preservePara = o.preservePara ∧
    (o.withDefaults cxA).justifyLast = o.justifyLast ∧
    (o.withDefaults cxA).borders = o.borders ∧
    (o.withDefaults cxA).headers = o.headers := withDefaults_fields cxA o

/-- every XOpts depends on its Options only through their defaulted form: a zero Options value, its
WithDefaults() form and any mixture of explicitly default fields give identical results -/
theorem C17_wrap (ed : Editor Int) (w : Int) (o : Options Int) (h : CharsetOK o) :
    ed.wrapOpts cxA w o = ed.wrapOpts cxA w (o.withDefaults cxA) := wrapOpts_defaults cxA ed o (C17_idempotent o h) w
theorem C17_justify (ed : Editor Int) (w : Int) (o : Options Int) (h : CharsetOK o) :
    ed.justifyOpts cxA w o = ed.justifyOpts cxA w (o.withDefaults cxA) := justifyOpts_defaults cxA ed o (C17_idempotent o h) w
theorem C17_align (ed : Editor Int) (a w : Int) (o : Options Int) (h : CharsetOK o) :
    ed.alignOpts cxA a w o = ed.alignOpts cxA a w (o.withDefaults cxA) := alignOpts_defaults cxA ed o (C17_idempotent o h) a w
theorem C17_collapse (ed : Editor Int) (o : Options Int) (h : CharsetOK o) :
    ed.collapseSpaceOpts cxA o = ed.collapseSpaceOpts cxA (o.withDefaults cxA) :=
  collapseSpaceOpts_defaults cxA ed o (C17_idempotent o h)
theorem C17_indent (ed : Editor Int) (l : Int) (o : Options Int) (h : CharsetOK o) :
    ed.indentOpts cxA l o = ed.indentOpts cxA l (o.withDefaults cxA) := indentOpts_defaults cxA ed o (C17_idempotent o h) l
theorem C17_apply (ed : Editor Int) (f : Nat → List Int → List (List Int)) (o : Options Int) (h : CharsetOK o) :
    ed.applyOpts cxA f o = ed.applyOpts cxA f (o.withDefaults cxA) := applyOpts_defaults cxA ed o (C17_idempotent o h) f
theorem C17_applyParas (ed : Editor Int) (op : Nat → List Int → List Int → List Int → R (List (List Int)))
    (o : Options Int) (h : CharsetOK o) :
    ed.applyParasM cxA op o = ed.applyParasM cxA op (o.withDefaults cxA) :=
  applyParasM_defaults cxA ed o (C17_idempotent o h) op
theorem C17_defTable (ed : Editor Int) (p : Int) (d : List (List Int × List Int)) (w : Int) (o : Options Int)
    (h : CharsetOK o) :
    ed.insertDefTableOpts cxA p d w o = ed.insertDefTableOpts cxA p d w (o.withDefaults cxA) :=
  insertDefTableOpts_defaults cxA ed o (C17_idempotent o h) p d w
theorem C17_table (ed : Editor Int) (p : Int) (d : List (List (List Int))) (w : Int) (o : Options Int)
    (h : CharsetOK o) :
    ed.insertTableOpts cxA p d w o = ed.insertTableOpts cxA p d w (o.withDefaults cxA) :=
  insertTableOpts_defaults cxA ed o (C17_idempotent o h) p d w
theorem C17_twoColumns (ed : Editor Int) (p : Int) (l r : List Int) (g w : Int) (pct : Pct) (o : Options Int)
    (h : CharsetOK o) :
    ed.insertTwoColumnsOpts cxA p l r g w pct o = ed.insertTwoColumnsOpts cxA p l r g w pct (o.withDefaults cxA) :=
  insertTwoColumnsOpts_defaults cxA ed o (C17_idempotent o h) p l r g w pct

/-- XOpts leaves the Options stored on the returned Editor as they were on the receiver -/
theorem C17_opts_wrap (ed r : Editor Int) (w : Int) (o : Options Int) (h : ed.wrapOpts cxA w o = .ok r) :
    r.opts = ed.opts := (wrapOpts_textOnly cxA w o).opts h
theorem C17_opts_justify (ed r : Editor Int) (w : Int) (o : Options Int) (h : ed.justifyOpts cxA w o = .ok r) :
    r.opts = ed.opts := (justifyOpts_textOnly cxA w o).opts h
theorem C17_opts_align (ed r : Editor Int) (a w : Int) (o : Options Int) (h : ed.alignOpts cxA a w o = .ok r) :
    r.opts = ed.opts := (alignOpts_textOnly cxA a w o).opts h
theorem C17_opts_collapse (ed r : Editor Int) (o : Options Int) (h : ed.collapseSpaceOpts cxA o = .ok r) :
    r.opts = ed.opts := (collapseSpaceOpts_textOnly cxA o).opts h
theorem C17_opts_indent (ed r : Editor Int) (l : Int) (o : Options Int) (h : ed.indentOpts cxA l o = .ok r) :
    r.opts = ed.opts := (indentOpts_textOnly cxA l o).opts h
theorem C17_opts_defTable (ed r : Editor Int) (p : Int) (d : List (List Int × List Int)) (w : Int)
    (o : Options Int) (h : ed.insertDefTableOpts cxA p d w o = .ok r) : r.opts = ed.opts :=
  (insertDefTableOpts_textOnly cxA p d w o).opts h
theorem C17_opts_table (ed r : Editor Int) (p : Int) (d : List (List (List Int))) (w : Int) (o : Options Int)
    (h : ed.insertTableOpts cxA p d w o = .ok r) : r.opts = ed.opts := (insertTableOpts_textOnly cxA p d w o).opts h
theorem C17_opts_twoColumns (ed r : Editor Int) (p : Int) (l rt : List Int) (g w : Int) (pct : Pct)
    (o : Options Int) (h : ed.insertTwoColumnsOpts cxA p l rt g w pct o = .ok r) : r.opts = ed.opts :=
  (insertTwoColumnsOpts_textOnly cxA p l rt g w pct o).opts h

/-! structural facts regenerated from the typed source: every X is `return ed.XOpts(<params>, ed.Options)`
(so X args = XOpts args ed.Options, i.e. XOpts args o = WithOptions(o).X args in text), and every XOpts
defaults its options before the first use (ApplyParagraphsOpts hands them to applyGParagraphsOpts, which does) -/
theorem C17_delegation : Gen.delegation = [("Align", true), ("Apply", true), ("ApplyParagraphs", true),
    ("CollapseSpace", true), ("Indent", true), ("InsertDefinitionsTable", true), ("InsertTable", true),
    ("InsertTwoColumns", true), ("Justify", true), ("Wrap", true)] := by decide +kernel

theorem C17_defaults_first : Gen.defaultsFirst = [("AlignOpts", true), ("ApplyOpts", true),
    ("ApplyParagraphsOpts", false), ("CollapseSpaceOpts", true), ("IndentOpts", true),
    ("InsertDefinitionsTableOpts", true), ("InsertTableOpts", true), ("InsertTwoColumnsOpts", true),
    ("JustifyOpts", true), ("WrapOpts", true)] := by decide +kernel

/-! non-vacuity, and the witness of finding D10 -/
example : CharsetOK ({ charset := [0x23] } : Options Int) := by unfold CharsetOK; decide +kernel
/-- a Prepend character in the set: not three clusters, not idempotent -/
theorem C17_counterexample_D10 :
    ¬ CharsetOK ({ charset := [0x61, 0x600] } : Options Int) ∧
    (({ charset := [0x61, 0x600] } : Options Int).withDefaults cxA).withDefaults cxA ≠
      ({ charset := [0x61, 0x600] } : Options Int).withDefaults cxA := by
  unfold CharsetOK; decide +kernel

/-! `XOpts(args, o)` returns the same text as `WithOptions(o).X(args)` (X delegates to XOpts with the
Editor's own Options — regenerated fact `C17_delegation`): the Options stored on the receiver play no
role, for any context and any editor (sub-editors included), errors included.  One theorem per
operation, all instances of `TextOnly.map_text`. -/
theorem C17_withOptions_wrap {α : Type} [DecidableEq α] (cx : Ctx α) (ed : Editor α)
    (width : Int)
    (o : Options α) :
    ((ed.withOpts o).wrapOpts cx width o).map Editor.text = (ed.wrapOpts cx width o).map Editor.text :=
  (wrapOpts_textOnly cx width o).map_text ed o

theorem C17_withOptions_justify {α : Type} [DecidableEq α] (cx : Ctx α) (ed : Editor α)
    (width : Int)
    (o : Options α) :
    ((ed.withOpts o).justifyOpts cx width o).map Editor.text = (ed.justifyOpts cx width o).map Editor.text :=
  (justifyOpts_textOnly cx width o).map_text ed o

theorem C17_withOptions_align {α : Type} [DecidableEq α] (cx : Ctx α) (ed : Editor α)
    (align width : Int)
    (o : Options α) :
    ((ed.withOpts o).alignOpts cx align width o).map Editor.text = (ed.alignOpts cx align width o).map Editor.text :=
  (alignOpts_textOnly cx align width o).map_text ed o

theorem C17_withOptions_indent {α : Type} [DecidableEq α] (cx : Ctx α) (ed : Editor α)
    (level : Int)
    (o : Options α) :
    ((ed.withOpts o).indentOpts cx level o).map Editor.text = (ed.indentOpts cx level o).map Editor.text :=
  (indentOpts_textOnly cx level o).map_text ed o

theorem C17_withOptions_collapse {α : Type} [DecidableEq α] (cx : Ctx α) (ed : Editor α)
    (o : Options α) :
    ((ed.withOpts o).collapseSpaceOpts cx o).map Editor.text = (ed.collapseSpaceOpts cx o).map Editor.text :=
  (collapseSpaceOpts_textOnly cx o).map_text ed o

theorem C17_withOptions_apply {α : Type} [DecidableEq α] (cx : Ctx α) (ed : Editor α)
    (op : Nat → List α → List (List α))
    (o : Options α) :
    ((ed.withOpts o).applyOpts cx op o).map Editor.text = (ed.applyOpts cx op o).map Editor.text :=
  (applyOptsM_textOnly cx _ o).map_text ed o

theorem C17_withOptions_applyParas {α : Type} [DecidableEq α] (cx : Ctx α) (ed : Editor α)
    (op : Nat → List α → List α → List α → R (List (List α)))
    (o : Options α) :
    ((ed.withOpts o).applyParasM cx op o).map Editor.text = (ed.applyParasM cx op o).map Editor.text :=
  (applyParasM_textOnly cx op o).map_text ed o

theorem C17_withOptions_defTable {α : Type} [DecidableEq α] (cx : Ctx α) (ed : Editor α)
    (pos : Int)
    (defs : List (List α × List α))
    (width : Int)
    (o : Options α) :
    ((ed.withOpts o).insertDefTableOpts cx pos defs width o).map Editor.text = (ed.insertDefTableOpts cx pos defs width o).map Editor.text :=
  (insertDefTableOpts_textOnly cx pos defs width o).map_text ed o

theorem C17_withOptions_table {α : Type} [DecidableEq α] (cx : Ctx α) (ed : Editor α)
    (pos : Int)
    (data : List (List (List α)))
    (width : Int)
    (o : Options α) :
    ((ed.withOpts o).insertTableOpts cx pos data width o).map Editor.text = (ed.insertTableOpts cx pos data width o).map Editor.text :=
  (insertTableOpts_textOnly cx pos data width o).map_text ed o

theorem C17_withOptions_twoColumns {α : Type} [DecidableEq α] (cx : Ctx α) (ed : Editor α)
    (pos : Int)
    (leftText rightText : List α)
    (minSpaceBetween width : Int)
    (pct : Pct)
    (o : Options α) :
    ((ed.withOpts o).insertTwoColumnsOpts cx pos leftText rightText minSpaceBetween width pct o).map Editor.text = (ed.insertTwoColumnsOpts cx pos leftText rightText minSpaceBetween width pct o).map Editor.text :=
  (insertTwoColumnsOpts_textOnly cx pos leftText rightText minSpaceBetween width pct o).map_text ed o

/-- the strongest form, shown for the operation that handles options most delicately (JustifyOpts overwrites them, selects lines, commits and restores): replacing the receiver's stored Options changes nothing but the Options stored on the result -/
theorem C17_receiver_options_irrelevant_justify {α : Type} [DecidableEq α] (cx : Ctx α) (ed : Editor α)
    (o' : Options α)
    (width : Int)
    (o : Options α) :
    (ed.withOpts o').justifyOpts cx width o =
      (ed.justifyOpts cx width o).map (fun r => r.withOpts o') :=
  (justifyOpts_textOnly cx width o).withOpts ed o'

end RosedVerif.Props
