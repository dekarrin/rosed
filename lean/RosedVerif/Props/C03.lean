/-
C03 — Layout depends on grapheme clusters only, not on their encoding.
Naturality: every layer-B layout function commutes with ANY map on tokens that preserves
whitespace-ness and the structural tokens (space, hyphen) — the map need not be injective.  Hence
break positions, padding and line lengths are identical for texts that differ only in how their
clusters are encoded.  The rune-level statement is tied by the relational run of ./check C03
(the same operation on a text and on its cluster-for-cluster substitution, on the real code).
-/
import RosedVerif.Model.BridgeNatural2
namespace RosedVerif.Props

section layout
open RosedVerif.Spec
variable {α β : Type} {tk : Toks α} {tk' : Toks β} {g : α → β}

theorem C03_wrap (h : TokMap tk tk' g) (w : Nat) (l : List α) :
    Spec.wrapLines tk' w (l.map g) = (Spec.wrapLines tk w l).map (List.map g) := wrapLines_map h w l
theorem C03_wrap_breaks (h : TokMap tk tk' g) (w : Nat) (l : List α) :
    (Spec.wrapLines tk' w (l.map g)).map List.length = (Spec.wrapLines tk w l).map List.length :=
  wrapLines_map_lengths h w l
theorem C03_collapse (h : TokMap tk tk' g) (l : List α) : Spec.collapse tk' (l.map g) = (Spec.collapse tk l).map g :=
  collapse_map h l
theorem C03_alignLeft (h : TokMap tk tk' g) (w : Int) (l : List α) :
    Spec.alignLeft tk' w (l.map g) = (Spec.alignLeft tk w l).map g := alignLeft_map h w l
theorem C03_alignRight (h : TokMap tk tk' g) (w : Int) (l : List α) :
    Spec.alignRight tk' w (l.map g) = (Spec.alignRight tk w l).map g := alignRight_map h w l
theorem C03_alignCenter (h : TokMap tk tk' g) (w : Int) (l : List α) :
    Spec.alignCenter tk' w (l.map g) = (Spec.alignCenter tk w l).map g := alignCenter_map h w l
theorem C03_words (h : TokMap tk tk' g) (l : List α) : Spec.words tk' (l.map g) = (Spec.words tk l).map (List.map g) :=
  words_map h l

open RosedVerif in
/-- **on code points**: take two stable vocabularies `V`, `V'` (any encodings: precomposed or
decomposed accents, ZWJ sequences, flags, jamo …) and ANY cluster-for-cluster substitution `g`
from `V` into `V'` that keeps whitespace clusters whitespace, non-whitespace clusters
non-whitespace, and fixes the space and the hyphen.  Then the model of manip.Wrap on the CODE
POINTS of a text and of its substituted text (real UAX #29 segmentation on both) produce line lists
that are the same cluster-for-cluster substitution of one another: same breaks, same hyphens. -/
theorem C03_wrap_code_points {V V' : List (List Int)}
    (hV : VocabStable V = true) (hsp : [0x20] ∈ V) (hspTail : ∀ t ∈ V, (0x20 : Int) ∉ t.tail)
    (hV' : VocabStable V' = true) (hsp' : [0x20] ∈ V') (hspTail' : ∀ t ∈ V', (0x20 : Int) ∉ t.tail)
    (g : List Int → List Int) (hg : ∀ t ∈ V, g t ∈ V')
    (hws : ∀ t, cxB.isSpace (g t) = cxB.isSpace t) (hgsp : g [0x20] = [0x20]) (hghy : g [0x2D] = [0x2D])
    (toks : List (List Int)) (ht : ∀ t ∈ toks, t ∈ V) (w : Int) :
    ∃ r : List (List (List Int)),
      RosedVerif.wrapLines cxA toks.flatten w [] = .ok (r.map List.flatten) ∧
      RosedVerif.wrapLines cxA (toks.map g).flatten w [] = .ok ((r.map (List.map g)).map List.flatten) := by
  have hmap : TokMap ⟨cxB.isSpace, cxB.sp, cxB.hy⟩ ⟨cxB.isSpace, cxB.sp, cxB.hy⟩ g := ⟨hws, hgsp, hghy⟩
  refine ⟨Spec.wrapLines ⟨cxB.isSpace, cxB.sp, cxB.hy⟩ (max w 2).toNat toks,
    wrapLines_bridge_spec hV hsp hspTail toks ht w, ?_⟩
  have ht' : ∀ t ∈ toks.map g, t ∈ V' := BridgeNatural.over_map hg ht
  rw [wrapLines_bridge_spec hV' hsp' hspTail' (toks.map g) ht' w, wrapLines_map hmap]

open RosedVerif in
/-- the same for CollapseSpace -/
theorem C03_collapse_code_points {V V' : List (List Int)}
    (hV : VocabStable V = true) (hsp : [0x20] ∈ V) (hspTail : ∀ t ∈ V, (0x20 : Int) ∉ t.tail)
    (hV' : VocabStable V' = true) (hsp' : [0x20] ∈ V') (hspTail' : ∀ t ∈ V', (0x20 : Int) ∉ t.tail)
    (g : List Int → List Int) (hg : ∀ t ∈ V, g t ∈ V')
    (hws : ∀ t, cxB.isSpace (g t) = cxB.isSpace t) (hgsp : g [0x20] = [0x20]) (hghy : g [0x2D] = [0x2D])
    (toks : List (List Int)) (ht : ∀ t ∈ toks, t ∈ V) :
    ∃ r : List (List Int),
      collapseSpace cxA toks.flatten [] = .ok r.flatten ∧
      collapseSpace cxA (toks.map g).flatten [] = .ok (r.map g).flatten := by
  have hmap : TokMap ⟨cxB.isSpace, cxB.sp, cxB.hy⟩ ⟨cxB.isSpace, cxB.sp, cxB.hy⟩ g := ⟨hws, hgsp, hghy⟩
  refine ⟨Spec.collapse ⟨cxB.isSpace, cxB.sp, cxB.hy⟩ toks,
    collapseSpace_bridge_spec hV hsp hspTail toks ht, ?_⟩
  have ht' : ∀ t ∈ toks.map g, t ∈ V' := BridgeNatural.over_map hg ht
  rw [collapseSpace_bridge_spec hV' hsp' hspTail' (toks.map g) ht', collapse_map hmap]

open RosedVerif in
/-- the same for AlignLineLeft / Right / Center: padding and stripping positions are identical for a
text and its cluster-for-cluster substitution, on code points with the real segmentation -/
theorem C03_align_code_points {V V' : List (List Int)}
    (hV : VocabStable V = true) (hV' : VocabStable V' = true)
    (g : List Int → List Int) (hg : ∀ t ∈ V, g t ∈ V')
    (hws : ∀ t, cxB.isSpace (g t) = cxB.isSpace t) (hgsp : g [0x20] = [0x20]) (hghy : g [0x2D] = [0x2D])
    (toks : List (List Int)) (ht : ∀ t ∈ toks, t ∈ V) (w : Int) :
    (∃ r : List (List Int), RosedVerif.alignLeft cxA toks.flatten w = r.flatten ∧
          RosedVerif.alignLeft cxA (toks.map g).flatten w = (r.map g).flatten) ∧
    (∃ r : List (List Int), RosedVerif.alignRight cxA toks.flatten w = r.flatten ∧
          RosedVerif.alignRight cxA (toks.map g).flatten w = (r.map g).flatten) ∧
    (∃ r : List (List Int), RosedVerif.alignCenter cxA toks.flatten w = r.flatten ∧
          RosedVerif.alignCenter cxA (toks.map g).flatten w = (r.map g).flatten) := by
  have hmap : TokMap ⟨cxB.isSpace, cxB.sp, cxB.hy⟩ ⟨cxB.isSpace, cxB.sp, cxB.hy⟩ g := ⟨hws, hgsp, hghy⟩
  have ht' : ∀ t ∈ toks.map g, t ∈ V' := BridgeNatural.over_map hg ht
  refine ⟨⟨_, alignLeft_bridge_spec hV toks ht w, ?_⟩, ⟨_, alignRight_bridge_spec hV toks ht w, ?_⟩,
    ⟨_, alignCenter_bridge_spec hV toks ht w, ?_⟩⟩
  · rw [alignLeft_bridge_spec hV' (toks.map g) ht' w, alignLeft_map hmap]
  · rw [alignRight_bridge_spec hV' (toks.map g) ht' w, alignRight_map hmap]
  · rw [alignCenter_bridge_spec hV' (toks.map g) ht' w, alignCenter_map hmap]

open RosedVerif RosedVerif.BridgeOps RosedVerif.BridgeNatural

/-- **the PUBLIC operation on code points**: Editor.WrapOpts (non-paragraph mode, any options whose
line separator is fixed by `g` and not produced by `g` from another cluster — necessary,
`BridgeNatural.hinv_needed`) on a text and on its cluster-for-cluster substitution `g` (any
whitespace-preserving map between two stable vocabularies, not necessarily injective) returns texts
whose REAL grapheme clusters are `r` and `r.map g` -/
theorem C03_wrapOpts_code_points {V V' : List (List Int)} (hV : VocabStable V = true)
    (hsp : [0x20] ∈ V)
    (hhy : [0x2D] ∈ V)
    (hspTail : ∀ t ∈ V, (0x20 : Int) ∉ t.tail)
    (hV' : VocabStable V' = true)
    (hsp' : [0x20] ∈ V')
    (hspTail' : ∀ t ∈ V', (0x20 : Int) ∉ t.tail)
    (g : List Int → List Int)
    (hg : ∀ t ∈ V, g t ∈ V')
    (hws : ∀ t, cxB.isSpace (g t) = cxB.isSpace t)
    (hgsp : g [0x20] = [0x20])
    (hghy : g [0x2D] = [0x2D])
    (toks : List (List Int))
    (ht : ∀ t ∈ toks, t ∈ V)
    (w : Int)
    (o0 o : Options (List Int))
    (hpp : o.preservePara = false)
    (hS : GoodSep V (o.withDefaults cxB).lineSep)
    (hS' : GoodSep V' (o.withDefaults cxB).lineSep)
    (hSV : ∀ s ∈ (o.withDefaults cxB).lineSep, s ∈ V)
    (hfix : ∀ s ∈ (o.withDefaults cxB).lineSep, g s = s)
    (hinv : ∀ t ∈ V, g t ∈ (o.withDefaults cxB).lineSep → t ∈ (o.withDefaults cxB).lineSep) :
    ∃ r : List (List Int),
      Editor.wrapOpts cxA (.root toks.flatten o0.flat) w o.flat = .ok (.root r.flatten o0.flat) ∧
      Editor.wrapOpts cxA (.root (toks.map g).flatten o0.flat) w o.flat =
        .ok (.root (r.map g).flatten o0.flat) ∧
      clusters cxA r.flatten = r ∧ clusters cxA (r.map g).flatten = r.map g ∧
      r = wrapText (o.withDefaults cxB).lineSep toks w :=
  natural_of_closed hV hV' hg (wrapOpts_A_closed hV hsp hspTail toks ht w o0 o hpp hS)
    (wrapOpts_A_closed hV' hsp' hspTail' _ (over_map hg ht) w o0 o hpp hS')
    (wrapText_map ⟨hws, hgsp, hghy⟩ ⟨hfix, hinv⟩ ht w) (wrapText_over hsp hhy hSV ht w)

/-- the same for Editor.AlignOpts with Left, Right or Center (`hal`); for any other value AlignOpts
leaves the text as it is, which `BridgeNatural.alignOpts_natural` covers -/
theorem C03_alignOpts_code_points {V V' : List (List Int)} (hV : VocabStable V = true)
    (hsp : [0x20] ∈ V)
    (hV' : VocabStable V' = true)
    (g : List Int → List Int)
    (hg : ∀ t ∈ V, g t ∈ V')
    (hws : ∀ t, cxB.isSpace (g t) = cxB.isSpace t)
    (hgsp : g [0x20] = [0x20])
    (hghy : g [0x2D] = [0x2D])
    (toks : List (List Int))
    (ht : ∀ t ∈ toks, t ∈ V)
    (align width : Int)
    (o0 o : Options (List Int))
    (hal : align = Gen.alignLeft ∨ align = Gen.alignRight ∨ align = Gen.alignCenter)
    (hpp : o.preservePara = false)
    (hS : GoodSep V (o.withDefaults cxB).lineSep)
    (hS' : GoodSep V' (o.withDefaults cxB).lineSep)
    (hSV : ∀ s ∈ (o.withDefaults cxB).lineSep, s ∈ V)
    (hfix : ∀ s ∈ (o.withDefaults cxB).lineSep, g s = s)
    (hinv : ∀ t ∈ V, g t ∈ (o.withDefaults cxB).lineSep → t ∈ (o.withDefaults cxB).lineSep) :
    ∃ r : List (List Int),
      Editor.alignOpts cxA (.root toks.flatten o0.flat) align width o.flat =
        .ok (.root r.flatten o0.flat) ∧
      Editor.alignOpts cxA (.root (toks.map g).flatten o0.flat) align width o.flat =
        .ok (.root (r.map g).flatten o0.flat) ∧
      clusters cxA r.flatten = r ∧ clusters cxA (r.map g).flatten = r.map g ∧
      r = alignText (.root toks o0) align width o :=
  natural_of_closed hV hV' hg (alignOpts_A_closed hV toks ht align width o0 o hal hpp hS)
    (alignOpts_A_closed hV' _ (over_map hg ht) align width o0 o hal hpp hS')
    (alignText_map ⟨hws, hgsp, hghy⟩ o0 o ⟨hfix, hinv⟩ ht align width)
    (alignText_over hsp (.root toks o0) ht align width o hSV)

/-- the same for Editor.CollapseSpaceOpts -/
theorem C03_collapseSpaceOpts_code_points {V V' : List (List Int)} (hV : VocabStable V = true)
    (hsp : [0x20] ∈ V)
    (hspTail : ∀ t ∈ V, (0x20 : Int) ∉ t.tail)
    (hV' : VocabStable V' = true)
    (hsp' : [0x20] ∈ V')
    (hspTail' : ∀ t ∈ V', (0x20 : Int) ∉ t.tail)
    (g : List Int → List Int)
    (hg : ∀ t ∈ V, g t ∈ V')
    (hws : ∀ t, cxB.isSpace (g t) = cxB.isSpace t)
    (hgsp : g [0x20] = [0x20])
    (hghy : g [0x2D] = [0x2D])
    (toks : List (List Int))
    (ht : ∀ t ∈ toks, t ∈ V)
    (o0 o : Options (List Int))
    (hS : GoodSep V (o.withDefaults cxB).lineSep)
    (hS' : GoodSep V' (o.withDefaults cxB).lineSep)
    (hfix : ∀ s ∈ (o.withDefaults cxB).lineSep, g s = s)
    (hinv : ∀ t ∈ V, g t ∈ (o.withDefaults cxB).lineSep → t ∈ (o.withDefaults cxB).lineSep) :
    ∃ r : List (List Int),
      Editor.collapseSpaceOpts cxA (.root toks.flatten o0.flat) o.flat =
        .ok (.root r.flatten o0.flat) ∧
      Editor.collapseSpaceOpts cxA (.root (toks.map g).flatten o0.flat) o.flat =
        .ok (.root (r.map g).flatten o0.flat) ∧
      clusters cxA r.flatten = r ∧ clusters cxA (r.map g).flatten = r.map g ∧
      r = collapseText (o.withDefaults cxB).lineSep toks :=
  natural_of_closed hV hV' hg (collapseSpaceOpts_A_closed hV hsp hspTail toks ht o0 o hS)
    (collapseSpaceOpts_A_closed hV' hsp' hspTail' _ (over_map hg ht) o0 o hS')
    (collapseText_map ⟨hws, hgsp, hghy⟩ ⟨hfix, hinv⟩ ht)
    (collapseText_over (S := (o.withDefaults cxB).lineSep) hsp ht)

/-- counting: CharCount of a text and of its substitution are both the number of clusters -/
theorem C03_charCount_code_points {V V' : List (List Int)} (hV : VocabStable V = true)
    (hV' : VocabStable V' = true)
    (g : List Int → List Int)
    (hg : ∀ t ∈ V, g t ∈ V')
    (toks : List (List Int))
    (ht : ∀ t ∈ toks, t ∈ V)
    (o0 o0' : Options Int) :
    Editor.charCount cxA (.root (toks.map g).flatten o0') = toks.length ∧
      Editor.charCount cxA (.root toks.flatten o0) = toks.length :=
  ⟨(gLen_flatten_stable _ (stableRunes_of_vocab V' hV' _ (over_map hg ht))).trans
      (List.length_map g),
    gLen_flatten_stable _ (stableRunes_of_vocab V hV _ ht)⟩

/-- counting: LineCount is unchanged by the substitution -/
theorem C03_lineCount_code_points {V V' : List (List Int)} (hV : VocabStable V = true)
    (hV' : VocabStable V' = true)
    (g : List Int → List Int)
    (hg : ∀ t ∈ V, g t ∈ V')
    (toks : List (List Int))
    (ht : ∀ t ∈ toks, t ∈ V)
    (o0 : Options (List Int))
    (hS : GoodSep V (o0.withDefaults cxB).lineSep)
    (hS' : GoodSep V' (o0.withDefaults cxB).lineSep)
    (hfix : ∀ s ∈ (o0.withDefaults cxB).lineSep, g s = s)
    (hinv : ∀ t ∈ V, g t ∈ (o0.withDefaults cxB).lineSep → t ∈ (o0.withDefaults cxB).lineSep) :
    Editor.lineCount cxA (.root (toks.map g).flatten o0.flat) =
        Editor.lineCount cxA (.root toks.flatten o0.flat) ∧
      Editor.lineCount cxA (.root toks.flatten o0.flat) =
        (Spec.bareLines toks (o0.withDefaults cxB).lineSep o0.noTrailing).length := by
  have h : SepFix V g (o0.withDefaults cxB).lineSep := ⟨hfix, hinv⟩
  rw [lineCount_A_closed hV toks ht o0 hS, lineCount_A_closed hV' _ (over_map hg ht) o0 hS',
    h.bareLines ht, List.length_map]
  exact ⟨rfl, rfl⟩

end layout

/-! The editing operations, the composites and the paragraph modes on code points. `insertToks`,
`deleteToks`, `overtypeToks`, `selRange`, `posOf`, `justifyText`, `indentText`, `twoColText`,
`defTableText`, `tableText` are the closed forms on cluster tokens of `Model/BridgeNatural2.lean`; each
statement puts together the closed form on code points of both runs, that the closed form commutes
with the substitution, and that it stays over the vocabulary. -/
open RosedVerif RosedVerif.BridgeOps RosedVerif.BridgeNatural RosedVerif.BridgeNatural2
open RosedVerif.BridgeEditorParas (GoodPara)

/-- **Chars on code points**: `Chars(s, e)` — any integers, `End`, negative positions — on a text
and on its cluster-for-cluster substitution selects the same cluster range `[a, b)`; the selected
text of the second is the substitution of the selected text of the first, and each sub-editor
records the byte range of that cluster range in its own parent text.  Only `g : V → V'` between
stable vocabularies is needed (no whitespace or separator hypothesis). -/
theorem C03_chars_code_points {V V' : List (List Int)}
    (hV : VocabStable V = true) (hV' : VocabStable V' = true)
    (g : List Int → List Int) (hg : ∀ t ∈ V, g t ∈ V')
    (toks : List (List Int)) (ht : ∀ t ∈ toks, t ∈ V) (o0 o0' : Options Int) (s e : Int) :
    ∃ (sel : List (List Int)) (a b : Nat),
      Editor.chars cxA (.root toks.flatten o0) s e =
        .ok (.sub sel.flatten o0 (.root toks.flatten o0)
          (byteLen cxA (toks.take a).flatten) (byteLen cxA (toks.take b).flatten)) ∧
      Editor.chars cxA (.root (toks.map g).flatten o0') s e =
        .ok (.sub (sel.map g).flatten o0' (.root (toks.map g).flatten o0')
          (byteLen cxA ((toks.map g).take a).flatten)
          (byteLen cxA ((toks.map g).take b).flatten)) ∧
      clusters cxA sel.flatten = sel ∧ clusters cxA (sel.map g).flatten = sel.map g ∧
      a ≤ b ∧ b ≤ toks.length ∧ sel = (toks.drop a).take (b - a) ∧
      (a, b) = selRange toks.length s e :=
  chars_natural_gen hV hV' g hg toks ht (.root _ o0) (.root _ o0') rfl rfl s e

/-- the same for CharsFrom (which passes the BYTE length of the text as end position: a different
number on the two sides, the same clusters `[a, n)`) -/
theorem C03_charsFrom_code_points {V V' : List (List Int)}
    (hV : VocabStable V = true) (hV' : VocabStable V' = true)
    (g : List Int → List Int) (hg : ∀ t ∈ V, g t ∈ V')
    (toks : List (List Int)) (ht : ∀ t ∈ toks, t ∈ V) (o0 o0' : Options Int) (s : Int) :
    ∃ (sel : List (List Int)) (a b : Nat),
      Editor.charsFrom cxA (.root toks.flatten o0) s =
        .ok (.sub sel.flatten o0 (.root toks.flatten o0)
          (byteLen cxA (toks.take a).flatten) (byteLen cxA (toks.take b).flatten)) ∧
      Editor.charsFrom cxA (.root (toks.map g).flatten o0') s =
        .ok (.sub (sel.map g).flatten o0' (.root (toks.map g).flatten o0')
          (byteLen cxA ((toks.map g).take a).flatten)
          (byteLen cxA ((toks.map g).take b).flatten)) ∧
      clusters cxA sel.flatten = sel ∧ clusters cxA (sel.map g).flatten = sel.map g ∧
      a ≤ b ∧ b = toks.length ∧ sel = toks.drop a ∧ a = posOf toks.length s :=
  charsFrom_natural_gen hV hV' g hg toks ht (.root _ o0) (.root _ o0') rfl rfl s

/-- the same for CharsTo: the clusters `[0, b)` -/
theorem C03_charsTo_code_points {V V' : List (List Int)}
    (hV : VocabStable V = true) (hV' : VocabStable V' = true)
    (g : List Int → List Int) (hg : ∀ t ∈ V, g t ∈ V')
    (toks : List (List Int)) (ht : ∀ t ∈ toks, t ∈ V) (o0 o0' : Options Int) (e : Int) :
    ∃ (sel : List (List Int)) (b : Nat),
      Editor.charsTo cxA (.root toks.flatten o0) e =
        .ok (.sub sel.flatten o0 (.root toks.flatten o0) (0 : Nat)
          (byteLen cxA (toks.take b).flatten)) ∧
      Editor.charsTo cxA (.root (toks.map g).flatten o0') e =
        .ok (.sub (sel.map g).flatten o0' (.root (toks.map g).flatten o0') (0 : Nat)
          (byteLen cxA ((toks.map g).take b).flatten)) ∧
      clusters cxA sel.flatten = sel ∧ clusters cxA (sel.map g).flatten = sel.map g ∧
      b ≤ toks.length ∧ sel = toks.take b ∧ b = posOf toks.length e :=
  charsTo_natural_gen hV hV' g hg toks ht (.root _ o0) (.root _ o0') rfl rfl e

/-- **Insert on code points**, every integer position; the inserted text is substituted too; `r` and
`r.map g` are the REAL cluster lists of the two results -/
theorem C03_insert_code_points {V V' : List (List Int)}
    (hV : VocabStable V = true) (hV' : VocabStable V' = true)
    (g : List Int → List Int) (hg : ∀ t ∈ V, g t ∈ V')
    (toks : List (List Int)) (ht : ∀ t ∈ toks, t ∈ V) (o0 o0' : Options Int)
    (p : Int) (ins : List (List Int)) (hi : ∀ t ∈ ins, t ∈ V) :
    ∃ r : List (List Int),
      Editor.insert cxA (.root toks.flatten o0) p ins.flatten = .ok (.root r.flatten o0) ∧
      Editor.insert cxA (.root (toks.map g).flatten o0') p (ins.map g).flatten =
        .ok (.root (r.map g).flatten o0') ∧
      clusters cxA r.flatten = r ∧ clusters cxA (r.map g).flatten = r.map g ∧
      r = insertToks toks p ins :=
  insert_natural_gen hV hV' g hg toks ht (.root _ o0) (.root _ o0') rfl rfl p ins hi

/-- **Delete on code points**, every integer range -/
theorem C03_delete_code_points {V V' : List (List Int)}
    (hV : VocabStable V = true) (hV' : VocabStable V' = true)
    (g : List Int → List Int) (hg : ∀ t ∈ V, g t ∈ V')
    (toks : List (List Int)) (ht : ∀ t ∈ toks, t ∈ V) (o0 o0' : Options Int) (s e : Int) :
    ∃ r : List (List Int),
      Editor.delete cxA (.root toks.flatten o0) s e = .ok (.root r.flatten o0) ∧
      Editor.delete cxA (.root (toks.map g).flatten o0') s e = .ok (.root (r.map g).flatten o0') ∧
      clusters cxA r.flatten = r ∧ clusters cxA (r.map g).flatten = r.map g ∧
      r = deleteToks toks s e :=
  delete_natural_gen hV hV' g hg toks ht (.root _ o0) (.root _ o0') rfl rfl s e

/-- **Overtype on code points**, every integer position, no bound on the lengths (Go's 64-bit
wrap-around of `pos + len(text)` is modelled and happens at the same cluster count on both sides) -/
theorem C03_overtype_code_points {V V' : List (List Int)}
    (hV : VocabStable V = true) (hV' : VocabStable V' = true)
    (g : List Int → List Int) (hg : ∀ t ∈ V, g t ∈ V')
    (toks : List (List Int)) (ht : ∀ t ∈ toks, t ∈ V) (o0 o0' : Options Int)
    (p : Int) (ins : List (List Int)) (hi : ∀ t ∈ ins, t ∈ V) :
    ∃ r : List (List Int),
      Editor.overtype cxA (.root toks.flatten o0) p ins.flatten = .ok (.root r.flatten o0) ∧
      Editor.overtype cxA (.root (toks.map g).flatten o0') p (ins.map g).flatten =
        .ok (.root (r.map g).flatten o0') ∧
      clusters cxA r.flatten = r ∧ clusters cxA (r.map g).flatten = r.map g ∧
      r = overtypeToks toks p ins :=
  overtype_natural_gen hV hV' g hg toks ht (.root _ o0) (.root _ o0') rfl rfl p ins hi

/-- **Editor.JustifyOpts on code points** (non-paragraph mode, `JustifyLastLine` on or off):
hypotheses as for `C03_wrapOpts_code_points` -/
theorem C03_justifyOpts_code_points {V V' : List (List Int)}
    (hV : VocabStable V = true) (hsp : [0x20] ∈ V)
    (hspTail : ∀ t ∈ V, (0x20 : Int) ∉ t.tail)
    (hV' : VocabStable V' = true) (hsp' : [0x20] ∈ V') (hspTail' : ∀ t ∈ V', (0x20 : Int) ∉ t.tail)
    (g : List Int → List Int) (hg : ∀ t ∈ V, g t ∈ V')
    (hws : ∀ t, cxB.isSpace (g t) = cxB.isSpace t) (hgsp : g [0x20] = [0x20])
    (hghy : g [0x2D] = [0x2D])
    (toks : List (List Int)) (ht : ∀ t ∈ toks, t ∈ V) (width : Int) (o0 o : Options (List Int))
    (hpp : o.preservePara = false)
    (hS : GoodSep V (o.withDefaults cxB).lineSep) (hS' : GoodSep V' (o.withDefaults cxB).lineSep)
    (hSV : ∀ s ∈ (o.withDefaults cxB).lineSep, s ∈ V)
    (hfix : ∀ s ∈ (o.withDefaults cxB).lineSep, g s = s)
    (hinv : ∀ t ∈ V, g t ∈ (o.withDefaults cxB).lineSep → t ∈ (o.withDefaults cxB).lineSep) :
    ∃ r : List (List Int),
      Editor.justifyOpts cxA (.root toks.flatten o0.flat) width o.flat =
        .ok (.root r.flatten o0.flat) ∧
      Editor.justifyOpts cxA (.root (toks.map g).flatten o0.flat) width o.flat =
        .ok (.root (r.map g).flatten o0.flat) ∧
      clusters cxA r.flatten = r ∧ clusters cxA (r.map g).flatten = r.map g ∧
      r = justifyText (.root toks o0) width o :=
  natural_of_closed hV hV' hg (justifyOpts_A_closed hV hsp hspTail toks ht width o0 o hpp hS)
    (justifyOpts_A_closed hV' hsp' hspTail' _ (over_map hg ht) width o0 o hpp hS')
    (justifyText_map ⟨hws, hgsp, hghy⟩ o0 o ⟨hfix, hinv⟩ ht width)
    (justifyText_over hsp (.root toks o0) ht width o hSV)

/-- **Editor.IndentOpts on code points** (non-paragraph mode, every level): the indent string comes
from the options, which are the same in both calls, so `g` fixes its tokens -/
theorem C03_indentOpts_code_points {V V' : List (List Int)}
    (hV : VocabStable V = true) (hV' : VocabStable V' = true)
    (g : List Int → List Int) (hg : ∀ t ∈ V, g t ∈ V')
    (toks : List (List Int)) (ht : ∀ t ∈ toks, t ∈ V) (level : Int) (o0 o : Options (List Int))
    (hpp : o.preservePara = false)
    (hS : GoodSep V (o.withDefaults cxB).lineSep) (hS' : GoodSep V' (o.withDefaults cxB).lineSep)
    (hSV : ∀ s ∈ (o.withDefaults cxB).lineSep, s ∈ V)
    (hfix : ∀ s ∈ (o.withDefaults cxB).lineSep, g s = s)
    (hinv : ∀ t ∈ V, g t ∈ (o.withDefaults cxB).lineSep → t ∈ (o.withDefaults cxB).lineSep)
    (hIV : ∀ s ∈ (o.withDefaults cxB).indentStr, s ∈ V)
    (hfixI : ∀ s ∈ (o.withDefaults cxB).indentStr, g s = s) :
    ∃ r : List (List Int),
      Editor.indentOpts cxA (.root toks.flatten o0.flat) level o.flat =
        .ok (.root r.flatten o0.flat) ∧
      Editor.indentOpts cxA (.root (toks.map g).flatten o0.flat) level o.flat =
        .ok (.root (r.map g).flatten o0.flat) ∧
      clusters cxA r.flatten = r ∧ clusters cxA (r.map g).flatten = r.map g ∧
      r = indentText (.root toks o0) level o :=
  have hI : ∀ s ∈ (o.withDefaults cxB).indentStr, s ≠ [] :=
    fun s hs => BridgeWrap.vocab_ne_nil hV (hIV s hs)
  natural_of_closed hV hV' hg (indentOpts_A_closed hV toks ht level o0 o hpp hS hI)
    (indentOpts_A_closed hV' _ (over_map hg ht) level o0 o hpp hS' hI)
    (indentText_map o0 o ⟨hfix, hinv⟩ hfixI ht level)
    (indentText_over (.root toks o0) ht level o hSV hIV)

/-- **Editor.InsertTwoColumnsOpts on code points**: every position, gap, width, percentage; both
column texts are substituted together with the receiver -/
theorem C03_twoColumns_code_points {V V' : List (List Int)}
    (hV : VocabStable V = true) (hsp : [0x20] ∈ V)
    (hhy : [0x2D] ∈ V) (hspTail : ∀ t ∈ V, (0x20 : Int) ∉ t.tail)
    (hV' : VocabStable V' = true) (hsp' : [0x20] ∈ V') (hspTail' : ∀ t ∈ V', (0x20 : Int) ∉ t.tail)
    (g : List Int → List Int) (hg : ∀ t ∈ V, g t ∈ V')
    (hws : ∀ t, cxB.isSpace (g t) = cxB.isSpace t) (hgsp : g [0x20] = [0x20])
    (hghy : g [0x2D] = [0x2D])
    (toks : List (List Int)) (ht : ∀ t ∈ toks, t ∈ V) (o0 : Options (List Int)) (pos : Int)
    (l r : List (List Int)) (hl : ∀ t ∈ l, t ∈ V) (hr : ∀ t ∈ r, t ∈ V) (gap width : Int)
    (pct : Pct) (o : Options (List Int))
    (hS : GoodSep V (o.withDefaults cxB).lineSep) (hS' : GoodSep V' (o.withDefaults cxB).lineSep)
    (hSV : ∀ s ∈ (o.withDefaults cxB).lineSep, s ∈ V)
    (hfix : ∀ s ∈ (o.withDefaults cxB).lineSep, g s = s)
    (hinv : ∀ t ∈ V, g t ∈ (o.withDefaults cxB).lineSep → t ∈ (o.withDefaults cxB).lineSep) :
    ∃ x : List (List Int),
      Editor.insertTwoColumnsOpts cxA (.root toks.flatten o0.flat) pos l.flatten r.flatten gap
        width pct o.flat = .ok (.root x.flatten o0.flat) ∧
      Editor.insertTwoColumnsOpts cxA (.root (toks.map g).flatten o0.flat) pos (l.map g).flatten
        (r.map g).flatten gap width pct o.flat = .ok (.root (x.map g).flatten o0.flat) ∧
      clusters cxA x.flatten = x ∧ clusters cxA (x.map g).flatten = x.map g ∧
      x = twoColText toks pos l r gap width pct o :=
  natural_of_closed hV hV' hg
    (insertTwoColumnsOpts_A_closed hV hsp hhy hspTail toks ht o0 pos l r hl hr gap width pct o hS)
    (insertTwoColumnsOpts_A_closed hV' hsp' (hghy ▸ hg _ hhy) hspTail' _ (over_map hg ht) o0 pos _ _
      (over_map hg hl) (over_map hg hr) gap width pct o hS')
    (twoColText_map ⟨hws, hgsp, hghy⟩ o ⟨hfix, hinv⟩ hl hr pos gap width pct)
    (twoColText_over hsp hhy ht hl hr pos gap width pct o hSV)

/-- **Editor.InsertDefinitionsTableOpts on code points**: terms and definitions are substituted; the
paragraph separator (from the options) is fixed by `g` -/
theorem C03_defTable_code_points {V V' : List (List Int)}
    (hV : VocabStable V = true) (hsp : [0x20] ∈ V)
    (hhy : [0x2D] ∈ V) (hspTail : ∀ t ∈ V, (0x20 : Int) ∉ t.tail)
    (hV' : VocabStable V' = true) (hsp' : [0x20] ∈ V') (hspTail' : ∀ t ∈ V', (0x20 : Int) ∉ t.tail)
    (g : List Int → List Int) (hg : ∀ t ∈ V, g t ∈ V')
    (hws : ∀ t, cxB.isSpace (g t) = cxB.isSpace t) (hgsp : g [0x20] = [0x20])
    (hghy : g [0x2D] = [0x2D])
    (toks : List (List Int)) (ht : ∀ t ∈ toks, t ∈ V) (o0 : Options (List Int)) (pos : Int)
    (defs : List (List (List Int) × List (List Int)))
    (hd1 : ∀ d ∈ defs, ∀ t ∈ d.1, t ∈ V) (hd2 : ∀ d ∈ defs, ∀ t ∈ d.2, t ∈ V) (width : Int)
    (o : Options (List Int))
    (hS : GoodSep V (o.withDefaults cxB).lineSep) (hS' : GoodSep V' (o.withDefaults cxB).lineSep)
    (hSV : ∀ s ∈ (o.withDefaults cxB).lineSep, s ∈ V)
    (hfix : ∀ s ∈ (o.withDefaults cxB).lineSep, g s = s)
    (hinv : ∀ t ∈ V, g t ∈ (o.withDefaults cxB).lineSep → t ∈ (o.withDefaults cxB).lineSep)
    (hPV : ∀ s ∈ (o.withDefaults cxB).paraSep, s ∈ V)
    (hfixP : ∀ s ∈ (o.withDefaults cxB).paraSep, g s = s) :
    ∃ x : List (List Int),
      Editor.insertDefTableOpts cxA (.root toks.flatten o0.flat) pos
        (defs.map fun d => (d.1.flatten, d.2.flatten)) width o.flat =
          .ok (.root x.flatten o0.flat) ∧
      Editor.insertDefTableOpts cxA (.root (toks.map g).flatten o0.flat) pos
        (defs.map fun d => ((d.1.map g).flatten, (d.2.map g).flatten)) width o.flat =
          .ok (.root (x.map g).flatten o0.flat) ∧
      clusters cxA x.flatten = x ∧ clusters cxA (x.map g).flatten = x.map g ∧
      x = defTableText toks pos defs width o :=
  have hP : ∀ s ∈ (o.withDefaults cxB).paraSep, s ≠ [] :=
    fun s hs => BridgeWrap.vocab_ne_nil hV (hPV s hs)
  natural_of_closed hV hV' hg
    (insertDefTableOpts_A_closed hV hsp hspTail toks ht o0 pos defs hd1 hd2 width o hS hP)
    (mapDefs_flat g defs ▸ insertDefTableOpts_A_closed hV' hsp' hspTail' _ (over_map hg ht) o0 pos
      (mapDefs g defs) (List.forall_mem_map.2 fun d hd => over_map hg (hd1 d hd))
      (List.forall_mem_map.2 fun d hd => over_map hg (hd2 d hd)) width o hS' hP)
    (defTableText_map ⟨hws, hgsp, hghy⟩ o ⟨hfix, hinv⟩ hfixP hd2 pos width)
    (defTableText_over hsp hhy ht pos hd1 hd2 width o hSV hPV)

/-- **Editor.InsertTableOpts on code points**: the cells are substituted; the character set (from
the options) is fixed by `g`; with a header row both vocabularies are closed under upper-casing and
`g` commutes with it -/
theorem C03_table_code_points {V V' : List (List Int)}
    (hV : VocabStable V = true) (hsp : [0x20] ∈ V)
    (hV' : VocabStable V' = true)
    (g : List Int → List Int) (hg : ∀ t ∈ V, g t ∈ V')
    (hws : ∀ t, cxB.isSpace (g t) = cxB.isSpace t) (hgsp : g [0x20] = [0x20])
    (hghy : g [0x2D] = [0x2D])
    (toks : List (List Int)) (ht : ∀ t ∈ toks, t ∈ V) (o0 : Options (List Int)) (pos : Int)
    (data : List (List (List (List Int))))
    (hdata : ∀ row ∈ data, ∀ cell ∈ row, ∀ t ∈ cell, t ∈ V) (width : Int)
    (o : Options (List Int)) (hSV : ∀ s ∈ (o.withDefaults cxB).lineSep, s ∈ V)
    (hfix : ∀ s ∈ (o.withDefaults cxB).lineSep, g s = s)
    (hc : ∀ t ∈ o.charset, t ∈ V) (hcd : ∀ t ∈ (o.withDefaults cxB).charset, t ∈ V)
    (hfixC0 : ∀ t ∈ o.charset, g t = t) (hfixC : ∀ t ∈ (o.withDefaults cxB).charset, g t = t)
    (hup : o.headers = true → ∀ t ∈ V, t.map upperRune ∈ V)
    (hup' : o.headers = true → ∀ t ∈ V', t.map upperRune ∈ V')
    (hupg : o.headers = true → ∀ t ∈ V, g (t.map upperRune) = (g t).map upperRune) :
    ∃ x : List (List Int),
      Editor.insertTableOpts cxA (.root toks.flatten o0.flat) pos
        (data.map (List.map List.flatten)) width o.flat = .ok (.root x.flatten o0.flat) ∧
      Editor.insertTableOpts cxA (.root (toks.map g).flatten o0.flat) pos
        ((data.map (List.map (List.map g))).map (List.map List.flatten)) width o.flat =
          .ok (.root (x.map g).flatten o0.flat) ∧
      clusters cxA x.flatten = x ∧ clusters cxA (x.map g).flatten = x.map g ∧
      x = tableText toks pos data width o :=
  have hL : ∀ s ∈ (o.withDefaults cxB).lineSep, s ≠ [] :=
    fun s hs => BridgeWrap.vocab_ne_nil hV (hSV s hs)
  natural_of_closed hV hV' hg
    (insertTableOpts_A_closed hV hsp toks ht o0 pos data hdata width o hL hc hcd hup)
    (insertTableOpts_A_closed hV' (hgsp ▸ hg _ hsp) _ (over_map hg ht) o0 pos _
      (List.forall_mem_map.2 fun row hr => List.forall_mem_map.2 fun cell hcl =>
        over_map hg (hdata row hr cell hcl)) width o hL
      (fun t h => hfixC0 t h ▸ hg t (hc t h)) (fun t h => hfixC t h ▸ hg t (hcd t h)) hup')
    (tableText_map ⟨hws, hgsp, hghy⟩ hsp o hSV hfix hcd hfixC hdata hup hupg pos width)
    (tableText_over hsp ht pos data hdata width o hSV hcd hup)

/-- **paragraph mode** (`preservePara = true`), Editor.WrapOpts: the line and paragraph separators
form a `BridgeEditorParas.GoodPara` pair for both vocabularies and are fixed by `g`; the placeholder
letter `A` the implementation pads paragraphs with is a cluster of `V` fixed by `g`, and not a rune
of the line separator (`hAL`: a line separator that contains `A` is padded with another letter,
`cxA.placeholder`, which need not be a cluster of `V` fixed by `g`).  `r` is the result of the
operation on cluster tokens. -/
theorem C03_wrapOpts_para_code_points {V V' : List (List Int)}
    (hV : VocabStable V = true)
    (hsp : [0x20] ∈ V) (hhy : [0x2D] ∈ V) (hA : [0x41] ∈ V)
    (hspTail : ∀ t ∈ V, (0x20 : Int) ∉ t.tail)
    (hV' : VocabStable V' = true) (hspTail' : ∀ t ∈ V', (0x20 : Int) ∉ t.tail)
    (g : List Int → List Int) (hg : ∀ t ∈ V, g t ∈ V')
    (hws : ∀ t, cxB.isSpace (g t) = cxB.isSpace t) (hgsp : g [0x20] = [0x20])
    (hghy : g [0x2D] = [0x2D]) (hgA : g [0x41] = [0x41])
    (toks : List (List Int)) (ht : ∀ t ∈ toks, t ∈ V) (width : Int) (o0 o : Options (List Int))
    (hpp : o.preservePara = true)
    (hG : GoodPara V (o.withDefaults cxB).lineSep (o.withDefaults cxB).paraSep)
    (hG' : GoodPara V' (o.withDefaults cxB).lineSep (o.withDefaults cxB).paraSep)
    (hfix : ∀ s ∈ (o.withDefaults cxB).lineSep, g s = s)
    (hinv : ∀ t ∈ V, g t ∈ (o.withDefaults cxB).lineSep → t ∈ (o.withDefaults cxB).lineSep)
    (hfixP : ∀ s ∈ (o.withDefaults cxB).paraSep, g s = s)
    (hinvP : ∀ t ∈ V, g t ∈ (o.withDefaults cxB).paraSep → t ∈ (o.withDefaults cxB).paraSep)
    (hAL : (0x41 : Int) ∉ ((o.withDefaults cxB).lineSep).flatten) :
    ∃ r : List (List Int),
      Editor.wrapOpts cxA (.root toks.flatten o0.flat) width o.flat =
        .ok (.root r.flatten o0.flat) ∧
      Editor.wrapOpts cxA (.root (toks.map g).flatten o0.flat) width o.flat =
        .ok (.root (r.map g).flatten o0.flat) ∧
      Editor.wrapOpts cxB (.root toks o0) width o = .ok (.root r o0) :=
  natural_of_bridge
    (BridgeEditorParas.wrapOpts_bridge_para hV hsp hhy hA hspTail (.root toks o0) ht width o hpp
      hG hAL)
    (BridgeEditorParas.wrapOpts_bridge_para hV' (hgsp ▸ hg _ hsp) (hghy ▸ hg _ hhy)
      (hgA ▸ hg _ hA) hspTail' (.root (toks.map g) o0) (over_map hg ht) width o hpp hG' hAL)
    (wrapOpts_natB ⟨hws, hgsp, hghy⟩ hgA hsp hhy hA toks ht o0 o hpp ⟨hfix, hinv⟩ ⟨hfixP, hinvP⟩
      hG.lineV hG.paraV width hAL)
    (wrapOpts_total cxA_Sane _ width o.flat)

open RosedVerif.BridgeEditorParas in
/-- the hypotheses are satisfiable: the default separators, any text over `demoVocabA`, the
identity substitution -/
example (toks : List (List Int)) (ht : ∀ t ∈ toks, t ∈ demoVocabA) (width : Int)
    (o0 o : Options (List Int)) (hpp : o.preservePara = true) (hl : o.lineSep = [])
    (hp : o.paraSep = []) :
    ∃ r : List (List Int),
      Editor.wrapOpts cxA (.root toks.flatten o0.flat) width o.flat =
        .ok (.root r.flatten o0.flat) ∧
      Editor.wrapOpts cxA (.root (toks.map id).flatten o0.flat) width o.flat =
        .ok (.root (r.map id).flatten o0.flat) ∧
      Editor.wrapOpts cxB (.root toks o0) width o = .ok (.root r o0) :=
  have hG := demoVocabA_goodPara_default o hl hp
  C03_wrapOpts_para_code_points demoVocabA_stable (by decide) (by decide) (by decide)
    (BridgeWrap.spTail_of_spOnly (by decide)) demoVocabA_stable
    (BridgeWrap.spTail_of_spOnly (by decide)) id (fun _ h => h) (fun _ => rfl) rfl rfl rfl toks ht
    width o0 o hpp hG hG (fun _ _ => rfl) (fun _ _ h => h) (fun _ _ => rfl) (fun _ _ h => h)
    (by rw [(default_seps o hl hp).1]; decide)

/-- paragraph mode, Editor.JustifyOpts (`JustifyLastLine` on or off); it pads with the same
placeholder, so `hAL` as in `C03_wrapOpts_para_code_points` -/
theorem C03_justifyOpts_para_code_points {V V' : List (List Int)}
    (hV : VocabStable V = true)
    (hsp : [0x20] ∈ V) (hA : [0x41] ∈ V) (hspTail : ∀ t ∈ V, (0x20 : Int) ∉ t.tail)
    (hV' : VocabStable V' = true) (hspTail' : ∀ t ∈ V', (0x20 : Int) ∉ t.tail)
    (g : List Int → List Int) (hg : ∀ t ∈ V, g t ∈ V')
    (hws : ∀ t, cxB.isSpace (g t) = cxB.isSpace t) (hgsp : g [0x20] = [0x20])
    (hghy : g [0x2D] = [0x2D]) (hgA : g [0x41] = [0x41])
    (toks : List (List Int)) (ht : ∀ t ∈ toks, t ∈ V) (width : Int) (o0 o : Options (List Int))
    (hpp : o.preservePara = true)
    (hG : GoodPara V (o.withDefaults cxB).lineSep (o.withDefaults cxB).paraSep)
    (hG' : GoodPara V' (o.withDefaults cxB).lineSep (o.withDefaults cxB).paraSep)
    (hfix : ∀ s ∈ (o.withDefaults cxB).lineSep, g s = s)
    (hinv : ∀ t ∈ V, g t ∈ (o.withDefaults cxB).lineSep → t ∈ (o.withDefaults cxB).lineSep)
    (hfixP : ∀ s ∈ (o.withDefaults cxB).paraSep, g s = s)
    (hinvP : ∀ t ∈ V, g t ∈ (o.withDefaults cxB).paraSep → t ∈ (o.withDefaults cxB).paraSep)
    (hAL : (0x41 : Int) ∉ ((o.withDefaults cxB).lineSep).flatten) :
    ∃ r : List (List Int),
      Editor.justifyOpts cxA (.root toks.flatten o0.flat) width o.flat =
        .ok (.root r.flatten o0.flat) ∧
      Editor.justifyOpts cxA (.root (toks.map g).flatten o0.flat) width o.flat =
        .ok (.root (r.map g).flatten o0.flat) ∧
      Editor.justifyOpts cxB (.root toks o0) width o = .ok (.root r o0) :=
  natural_of_bridge
    (BridgeEditorParas.justifyOpts_bridge_para hV hsp hA hspTail (.root toks o0) ht width o hpp hG
      hAL)
    (BridgeEditorParas.justifyOpts_bridge_para hV' (hgsp ▸ hg _ hsp) (hgA ▸ hg _ hA) hspTail'
      (.root (toks.map g) o0) (over_map hg ht) width o hpp hG' hAL)
    (justifyOpts_natB ⟨hws, hgsp, hghy⟩ hgA hsp hA toks ht o0 o hpp ⟨hfix, hinv⟩ ⟨hfixP, hinvP⟩
      hG.lineV hG.paraV width hAL)
    (justifyOpts_total cxA_Sane _ width o.flat)

open RosedVerif.BridgeEditorParas in
/-- the hypotheses are satisfiable: the default separators, any text over `demoVocabA`, the
identity substitution -/
example (toks : List (List Int)) (ht : ∀ t ∈ toks, t ∈ demoVocabA) (width : Int)
    (o0 o : Options (List Int)) (hpp : o.preservePara = true) (hl : o.lineSep = [])
    (hp : o.paraSep = []) :
    ∃ r : List (List Int),
      Editor.justifyOpts cxA (.root toks.flatten o0.flat) width o.flat =
        .ok (.root r.flatten o0.flat) ∧
      Editor.justifyOpts cxA (.root (toks.map id).flatten o0.flat) width o.flat =
        .ok (.root (r.map id).flatten o0.flat) ∧
      Editor.justifyOpts cxB (.root toks o0) width o = .ok (.root r o0) :=
  have hG := demoVocabA_goodPara_default o hl hp
  C03_justifyOpts_para_code_points demoVocabA_stable (by decide) (by decide)
    (BridgeWrap.spTail_of_spOnly (by decide)) demoVocabA_stable
    (BridgeWrap.spTail_of_spOnly (by decide)) id (fun _ h => h) (fun _ => rfl) rfl rfl rfl toks ht
    width o0 o hpp hG hG (fun _ _ => rfl) (fun _ _ h => h) (fun _ _ => rfl) (fun _ _ h => h)
    (by rw [(default_seps o hl hp).1]; decide)

/-- paragraph mode, Editor.AlignOpts, every alignment value (no placeholder letter involved) -/
theorem C03_alignOpts_para_code_points {V V' : List (List Int)}
    (hV : VocabStable V = true)
    (hsp : [0x20] ∈ V) (hV' : VocabStable V' = true)
    (g : List Int → List Int) (hg : ∀ t ∈ V, g t ∈ V')
    (hws : ∀ t, cxB.isSpace (g t) = cxB.isSpace t) (hgsp : g [0x20] = [0x20])
    (hghy : g [0x2D] = [0x2D])
    (toks : List (List Int)) (ht : ∀ t ∈ toks, t ∈ V) (align width : Int)
    (o0 o : Options (List Int)) (hpp : o.preservePara = true)
    (hG : GoodPara V (o.withDefaults cxB).lineSep (o.withDefaults cxB).paraSep)
    (hG' : GoodPara V' (o.withDefaults cxB).lineSep (o.withDefaults cxB).paraSep)
    (hfix : ∀ s ∈ (o.withDefaults cxB).lineSep, g s = s)
    (hinv : ∀ t ∈ V, g t ∈ (o.withDefaults cxB).lineSep → t ∈ (o.withDefaults cxB).lineSep)
    (hfixP : ∀ s ∈ (o.withDefaults cxB).paraSep, g s = s)
    (hinvP : ∀ t ∈ V, g t ∈ (o.withDefaults cxB).paraSep → t ∈ (o.withDefaults cxB).paraSep) :
    ∃ r : List (List Int),
      Editor.alignOpts cxA (.root toks.flatten o0.flat) align width o.flat =
        .ok (.root r.flatten o0.flat) ∧
      Editor.alignOpts cxA (.root (toks.map g).flatten o0.flat) align width o.flat =
        .ok (.root (r.map g).flatten o0.flat) ∧
      Editor.alignOpts cxB (.root toks o0) align width o = .ok (.root r o0) :=
  natural_of_bridge
    (BridgeEditorParas.alignOpts_bridge_para hV hsp (.root toks o0) ht align width o hpp hG)
    (BridgeEditorParas.alignOpts_bridge_para hV' (hgsp ▸ hg _ hsp) (.root (toks.map g) o0)
      (over_map hg ht) align width o hpp hG')
    (alignOpts_natB ⟨hws, hgsp, hghy⟩ hsp toks ht o0 o hpp ⟨hfix, hinv⟩ ⟨hfixP, hinvP⟩ hG.lineV
      hG.paraV align width)
    (alignOpts_total (cx := cxA) _ align width o.flat)

/-- paragraph mode, Editor.IndentOpts, every level -/
theorem C03_indentOpts_para_code_points {V V' : List (List Int)}
    (hV : VocabStable V = true)
    (hV' : VocabStable V' = true)
    (g : List Int → List Int) (hg : ∀ t ∈ V, g t ∈ V')
    (toks : List (List Int)) (ht : ∀ t ∈ toks, t ∈ V) (level : Int) (o0 o : Options (List Int))
    (hpp : o.preservePara = true)
    (hG : GoodPara V (o.withDefaults cxB).lineSep (o.withDefaults cxB).paraSep)
    (hG' : GoodPara V' (o.withDefaults cxB).lineSep (o.withDefaults cxB).paraSep)
    (hfix : ∀ s ∈ (o.withDefaults cxB).lineSep, g s = s)
    (hinv : ∀ t ∈ V, g t ∈ (o.withDefaults cxB).lineSep → t ∈ (o.withDefaults cxB).lineSep)
    (hfixP : ∀ s ∈ (o.withDefaults cxB).paraSep, g s = s)
    (hinvP : ∀ t ∈ V, g t ∈ (o.withDefaults cxB).paraSep → t ∈ (o.withDefaults cxB).paraSep)
    (hI : ∀ s ∈ (o.withDefaults cxB).indentStr, s ≠ [])
    (hfixI : ∀ s ∈ (o.withDefaults cxB).indentStr, g s = s) :
    ∃ r : List (List Int),
      Editor.indentOpts cxA (.root toks.flatten o0.flat) level o.flat =
        .ok (.root r.flatten o0.flat) ∧
      Editor.indentOpts cxA (.root (toks.map g).flatten o0.flat) level o.flat =
        .ok (.root (r.map g).flatten o0.flat) ∧
      Editor.indentOpts cxB (.root toks o0) level o = .ok (.root r o0) :=
  natural_of_bridge
    (BridgeEditorParas.indentOpts_bridge_para hV (.root toks o0) ht level o hpp hG
      (indentStr_ne o hI))
    (BridgeEditorParas.indentOpts_bridge_para hV' (.root (toks.map g) o0) (over_map hg ht) level o
      hpp hG' (indentStr_ne o hI))
    (indentOpts_natB toks ht o0 o hpp ⟨hfix, hinv⟩ ⟨hfixP, hinvP⟩ hG.lineV hG.paraV hfixI level)
    (indentOpts_total (cx := cxA) _ level o.flat)

/-- **precomposed ↔ decomposed**: `BridgeOps.demoVocab3` has `é` decomposed (`e` + U+0301, two code
points) and the flag 🇩🇪; `BridgeNatural.demoG` sends `e` + U+0301 to the precomposed U+00E9 of
`BridgeNatural.demoVocabNFC` (and, non-injectively, the flag to `a`).  For EVERY text over
`demoVocab3`, every position and every inserted text over it: `Insert` on the decomposed code points
and on the precomposed code points give results whose real UAX #29 clusters are `r` and
`r.map demoG`; `Delete` likewise. -/
example (toks ins : List (List Int)) (ht : ∀ t ∈ toks, t ∈ BridgeOps.demoVocab3)
    (hi : ∀ t ∈ ins, t ∈ BridgeOps.demoVocab3) (o0 o0' : Options Int) (p s e : Int) :
    (∃ r : List (List Int),
      Editor.insert cxA (.root toks.flatten o0) p ins.flatten = .ok (.root r.flatten o0) ∧
      Editor.insert cxA (.root (toks.map demoG).flatten o0') p (ins.map demoG).flatten =
        .ok (.root (r.map demoG).flatten o0') ∧
      clusters cxA r.flatten = r ∧ clusters cxA (r.map demoG).flatten = r.map demoG ∧
      r = insertToks toks p ins) ∧
    (∃ r : List (List Int),
      Editor.delete cxA (.root toks.flatten o0) s e = .ok (.root r.flatten o0) ∧
      Editor.delete cxA (.root (toks.map demoG).flatten o0') s e =
        .ok (.root (r.map demoG).flatten o0') ∧
      clusters cxA r.flatten = r ∧ clusters cxA (r.map demoG).flatten = r.map demoG ∧
      r = deleteToks toks s e) :=
  ⟨C03_insert_code_points BridgeOps.demoVocab3_stable demoVocabNFC_stable demoG demoG_hg toks ht o0
      o0' p ins hi,
    C03_delete_code_points BridgeOps.demoVocab3_stable demoVocabNFC_stable demoG demoG_hg toks ht o0
      o0' s e⟩

/-- the same pair of vocabularies for a layout operation: `JustifyOpts` with the default options
(line separator U+000A), every text over `demoVocab3`, every width -/
example (toks : List (List Int)) (ht : ∀ t ∈ toks, t ∈ BridgeOps.demoVocab3) (w : Int)
    (o0 : Options (List Int)) :
    ∃ r : List (List Int),
      Editor.justifyOpts cxA (.root toks.flatten o0.flat) w ({} : Options (List Int)).flat =
        .ok (.root r.flatten o0.flat) ∧
      Editor.justifyOpts cxA (.root (toks.map demoG).flatten o0.flat) w
        ({} : Options (List Int)).flat = .ok (.root (r.map demoG).flatten o0.flat) ∧
      clusters cxA r.flatten = r ∧ clusters cxA (r.map demoG).flatten = r.map demoG ∧
      r = justifyText (.root toks o0) w {} := by
  obtain ⟨hS, hS', hSV, hfix, hinv⟩ := demo_sep default_lineSep_B
  exact C03_justifyOpts_code_points BridgeOps.demoVocab3_stable BridgeOps.demoVocab3_sp
    BridgeOps.demoVocab3_spTail demoVocabNFC_stable (by decide) demoVocabNFC_spTail demoG demoG_hg
    demoG_ws rfl rfl toks ht w o0 {} rfl hS hS' hSV hfix hinv

/-! ## the hypotheses are satisfiable

`BridgeOps.demoVocab3` (`a b ␠ - é(decomposed: e + U+0301) 🇩🇪 TAB LF`) into
`BridgeNatural.demoVocabNFC` (`a b ␠ - é(precomposed U+00E9) TAB LF`) by `BridgeNatural.demoG`
(NOT injective: the flag and `a` are identified). -/

section demo
open RosedVerif.BridgeComposite RosedVerif.BridgeEditorParas

/-- all hypotheses hold for `demoVocab3 → demoVocabNFC`, `demoG`, the default call options (line
separator U+000A): for EVERY text over `demoVocab3`, every width and alignment, every options
value `o0` carried by the editor -/
example (toks : List (List Int)) (ht : ∀ t ∈ toks, t ∈ BridgeOps.demoVocab3) (w align : Int)
    (o0 : Options (List Int)) :
    (∃ r : List (List Int),
      Editor.wrapOpts cxA (.root toks.flatten o0.flat) w {} = .ok (.root r.flatten o0.flat) ∧
      Editor.wrapOpts cxA (.root (toks.map demoG).flatten o0.flat) w {} =
        .ok (.root (r.map demoG).flatten o0.flat) ∧
      clusters cxA r.flatten = r ∧ clusters cxA (r.map demoG).flatten = r.map demoG) ∧
    (∃ r : List (List Int),
      Editor.alignOpts cxA (.root toks.flatten o0.flat) align w {} =
        .ok (.root r.flatten o0.flat) ∧
      Editor.alignOpts cxA (.root (toks.map demoG).flatten o0.flat) align w {} =
        .ok (.root (r.map demoG).flatten o0.flat)) ∧
    (∃ r : List (List Int),
      Editor.collapseSpaceOpts cxA (.root toks.flatten o0.flat) {} =
        .ok (.root r.flatten o0.flat) ∧
      Editor.collapseSpaceOpts cxA (.root (toks.map demoG).flatten o0.flat) {} =
        .ok (.root (r.map demoG).flatten o0.flat)) := by
  obtain ⟨hS, hS', hSV, hfix, hinv⟩ := demo_sep default_lineSep_B
  refine ⟨?_, ?_, ?_⟩
  · obtain ⟨r, h1, h2, h3, h4, -⟩ := C03_wrapOpts_code_points BridgeOps.demoVocab3_stable
      BridgeOps.demoVocab3_sp BridgeOps.demoVocab3_hy BridgeOps.demoVocab3_spTail
      demoVocabNFC_stable (by decide) demoVocabNFC_spTail demoG demoG_hg demoG_ws rfl rfl toks ht
      w o0 {} rfl hS hS' hSV hfix hinv
    exact ⟨r, h1, h2, h3, h4⟩
  · exact alignOpts_natural BridgeOps.demoVocab3_stable demoVocabNFC_stable demoG demoG_hg demoG_ws
      rfl rfl toks ht align w o0 {} rfl hS hS' hfix hinv
  · exact collapseSpaceOpts_natural BridgeOps.demoVocab3_stable BridgeOps.demoVocab3_sp
      BridgeOps.demoVocab3_spTail demoVocabNFC_stable (by decide) demoVocabNFC_spTail demoG
      demoG_hg demoG_ws rfl rfl toks ht o0 {} hS hS' hfix hinv

/-- JustifyOpts, IndentOpts, InsertTwoColumnsOpts and InsertDefinitionsTableOpts on the demo
vocabularies, default call options (line separator U+000A, indent
TAB, paragraph separator two line feeds; `JustifyLastLine` off — and on): every text, column,
term and definition over `demoVocab3`, every numeric argument, every options value `o0` carried by
the editor -/
example (toks l r : List (List Int)) (ht : ∀ t ∈ toks, t ∈ BridgeOps.demoVocab3)
    (hl : ∀ t ∈ l, t ∈ BridgeOps.demoVocab3) (hr : ∀ t ∈ r, t ∈ BridgeOps.demoVocab3)
    (defs : List (List (List Int) × List (List Int)))
    (hd1 : ∀ d ∈ defs, ∀ t ∈ d.1, t ∈ BridgeOps.demoVocab3)
    (hd2 : ∀ d ∈ defs, ∀ t ∈ d.2, t ∈ BridgeOps.demoVocab3)
    (w level pos gap : Int) (pct : Pct) (o0 : Options (List Int)) :
    (∃ x : List (List Int),
      Editor.justifyOpts cxA (.root toks.flatten o0.flat) w {} = .ok (.root x.flatten o0.flat) ∧
      Editor.justifyOpts cxA (.root (toks.map demoG).flatten o0.flat) w {} =
        .ok (.root (x.map demoG).flatten o0.flat) ∧
      clusters cxA x.flatten = x ∧ clusters cxA (x.map demoG).flatten = x.map demoG) ∧
    (∃ x : List (List Int),
      Editor.justifyOpts cxA (.root toks.flatten o0.flat) w
        ({ justifyLast := true } : Options (List Int)).flat = .ok (.root x.flatten o0.flat) ∧
      Editor.justifyOpts cxA (.root (toks.map demoG).flatten o0.flat) w
        ({ justifyLast := true } : Options (List Int)).flat =
          .ok (.root (x.map demoG).flatten o0.flat)) ∧
    (∃ x : List (List Int),
      Editor.indentOpts cxA (.root toks.flatten o0.flat) level {} =
        .ok (.root x.flatten o0.flat) ∧
      Editor.indentOpts cxA (.root (toks.map demoG).flatten o0.flat) level {} =
        .ok (.root (x.map demoG).flatten o0.flat) ∧
      clusters cxA x.flatten = x ∧ clusters cxA (x.map demoG).flatten = x.map demoG) ∧
    (∃ x : List (List Int),
      Editor.insertTwoColumnsOpts cxA (.root toks.flatten o0.flat) pos l.flatten r.flatten gap w
        pct {} = .ok (.root x.flatten o0.flat) ∧
      Editor.insertTwoColumnsOpts cxA (.root (toks.map demoG).flatten o0.flat) pos
        (l.map demoG).flatten (r.map demoG).flatten gap w pct {} =
          .ok (.root (x.map demoG).flatten o0.flat) ∧
      clusters cxA x.flatten = x ∧ clusters cxA (x.map demoG).flatten = x.map demoG) ∧
    (∃ x : List (List Int),
      Editor.insertDefTableOpts cxA (.root toks.flatten o0.flat) pos
        (defs.map fun d => (d.1.flatten, d.2.flatten)) w {} = .ok (.root x.flatten o0.flat) ∧
      Editor.insertDefTableOpts cxA (.root (toks.map demoG).flatten o0.flat) pos
        (defs.map fun d => ((d.1.map demoG).flatten, (d.2.map demoG).flatten)) w {} =
          .ok (.root (x.map demoG).flatten o0.flat) ∧
      clusters cxA x.flatten = x ∧ clusters cxA (x.map demoG).flatten = x.map demoG) := by
  obtain ⟨hS, hS', hSV, hfix, hinv⟩ := demo_sep default_lineSep_B
  obtain ⟨hS1, hS1', -, hfix1, hinv1⟩ := demo_sep
    (BridgeEditorOps.lineSep_nl_of ({ justifyLast := true } : Options (List Int)) (Or.inl rfl))
  have hIV : ∀ s ∈ (({} : Options (List Int)).withDefaults cxB).indentStr,
      s ∈ BridgeOps.demoVocab3 := by rw [default_indentStr_B]; decide
  have hfixI : ∀ s ∈ (({} : Options (List Int)).withDefaults cxB).indentStr, demoG s = s := by
    rw [default_indentStr_B]; decide
  have hPV : ∀ s ∈ (({} : Options (List Int)).withDefaults cxB).paraSep,
      s ∈ BridgeOps.demoVocab3 := by rw [default_paraSep_B]; decide
  have hfixP : ∀ s ∈ (({} : Options (List Int)).withDefaults cxB).paraSep, demoG s = s := by
    rw [default_paraSep_B]; decide
  have hsp' : [0x20] ∈ demoVocabNFC := by decide
  refine ⟨?_, ?_, ?_, ?_, ?_⟩
  · obtain ⟨x, h1, h2, h3, h4, -⟩ := C03_justifyOpts_code_points BridgeOps.demoVocab3_stable
      BridgeOps.demoVocab3_sp BridgeOps.demoVocab3_spTail demoVocabNFC_stable hsp'
      demoVocabNFC_spTail demoG demoG_hg demoG_ws rfl rfl toks ht w o0 {} rfl hS hS' hSV hfix hinv
    exact ⟨x, h1, h2, h3, h4⟩
  · exact justifyOpts_natural BridgeOps.demoVocab3_stable BridgeOps.demoVocab3_sp
      BridgeOps.demoVocab3_spTail demoVocabNFC_stable hsp' demoVocabNFC_spTail demoG demoG_hg
      demoG_ws rfl rfl toks ht w o0 { justifyLast := true } rfl hS1 hS1' hfix1 hinv1
  · obtain ⟨x, h1, h2, h3, h4, -⟩ := C03_indentOpts_code_points BridgeOps.demoVocab3_stable
      demoVocabNFC_stable demoG demoG_hg toks ht level o0 {} rfl hS hS' hSV hfix hinv hIV hfixI
    exact ⟨x, h1, h2, h3, h4⟩
  · obtain ⟨x, h1, h2, h3, h4, -⟩ := C03_twoColumns_code_points BridgeOps.demoVocab3_stable
      BridgeOps.demoVocab3_sp BridgeOps.demoVocab3_hy BridgeOps.demoVocab3_spTail
      demoVocabNFC_stable hsp' demoVocabNFC_spTail demoG demoG_hg demoG_ws rfl rfl toks ht o0 pos
      l r hl hr gap w pct {} hS hS' hSV hfix hinv
    exact ⟨x, h1, h2, h3, h4⟩
  · obtain ⟨x, h1, h2, h3, h4, -⟩ := C03_defTable_code_points BridgeOps.demoVocab3_stable
      BridgeOps.demoVocab3_sp BridgeOps.demoVocab3_hy BridgeOps.demoVocab3_spTail
      demoVocabNFC_stable hsp' demoVocabNFC_spTail demoG demoG_hg demoG_ws rfl rfl toks ht o0 pos
      defs hd1 hd2 w {} hS hS' hSV hfix hinv hPV hfixP
    exact ⟨x, h1, h2, h3, h4⟩

/-- InsertTableOpts on `BridgeComposite.demoVocab4` → `demoVocabNFC4`: any ragged data with cells
over the vocabulary, any width and position, headers and borders on or off, default character set,
line separator unset (or "\n") -/
example (toks : List (List Int)) (ht : ∀ t ∈ toks, t ∈ demoVocab4)
    (o0 : Options (List Int)) (pos : Int) (data : List (List (List (List Int))))
    (hdata : ∀ row ∈ data, ∀ cell ∈ row, ∀ t ∈ cell, t ∈ demoVocab4) (width : Int)
    (o : Options (List Int)) (hls : o.lineSep = [] ∨ o.lineSep = [[0x0A]])
    (hcs : o.charset = []) :
    ∃ x : List (List Int),
      Editor.insertTableOpts cxA (.root toks.flatten o0.flat) pos
        (data.map (List.map List.flatten)) width o.flat = .ok (.root x.flatten o0.flat) ∧
      Editor.insertTableOpts cxA (.root (toks.map demoG4).flatten o0.flat) pos
        ((data.map (List.map (List.map demoG4))).map (List.map List.flatten)) width o.flat =
          .ok (.root (x.map demoG4).flatten o0.flat) ∧
      clusters cxA x.flatten = x ∧ clusters cxA (x.map demoG4).flatten = x.map demoG4 := by
  have hc : ∀ t ∈ o.charset, t ∈ demoVocab4 := by rw [hcs]; exact BridgeWrap.over_nil
  have hcd := defaulted_charset_over o hc (V := demoVocab4) (by decide) (by decide) (by decide)
  have hcd3 := defaulted_charset_over o (V := [[0x2B], [0x7C], [0x2D]])
    (by rw [hcs]; exact BridgeWrap.over_nil) (by decide) (by decide) (by decide)
  have hfixC : ∀ t ∈ (o.withDefaults cxB).charset, demoG4 t = t := by
    intro t h
    have := hcd3 t h
    simp only [List.mem_cons, List.not_mem_nil, or_false] at this
    rcases this with rfl | rfl | rfl <;> decide
  obtain ⟨x, h1, h2, h3, h4, -⟩ := C03_table_code_points demoVocab4_stable (by decide)
    demoVocabNFC4_stable demoG4 demoG4_hg demoG4_ws rfl rfl toks ht o0 pos data hdata width o
    (by rw [defaulted_lineSep_nl o hls]; decide) (by rw [defaulted_lineSep_nl o hls]; decide)
    hc hcd (by rw [hcs]; intro t h; cases h) hfixC (fun _ => demoVocab4_upper)
    (fun _ => demoVocabNFC4_upper) (fun _ => demoG4_upper)
  exact ⟨x, h1, h2, h3, h4⟩

/-- paragraph mode, default separators (`"\n"`, `"\n\n"`: the look-ahead of the paragraph loop is
active), default indent; `BridgeEditorParas.demoVocabA` (decomposed `é`, flag, `A`) into
`demoVocabNFCA` by the non-injective `BridgeNatural.demoG`: every text, alignment value, width and
level -/
example (toks : List (List Int)) (ht : ∀ t ∈ toks, t ∈ demoVocabA) (align width level : Int)
    (o0 : Options (List Int)) :
    (∃ r : List (List Int),
      Editor.wrapOpts cxA (.root toks.flatten o0.flat) width
        ({ preservePara := true } : Options (List Int)).flat = .ok (.root r.flatten o0.flat) ∧
      Editor.wrapOpts cxA (.root (toks.map demoG).flatten o0.flat) width
        ({ preservePara := true } : Options (List Int)).flat =
          .ok (.root (r.map demoG).flatten o0.flat)) ∧
    (∃ r : List (List Int),
      Editor.justifyOpts cxA (.root toks.flatten o0.flat) width
        ({ preservePara := true } : Options (List Int)).flat = .ok (.root r.flatten o0.flat) ∧
      Editor.justifyOpts cxA (.root (toks.map demoG).flatten o0.flat) width
        ({ preservePara := true } : Options (List Int)).flat =
          .ok (.root (r.map demoG).flatten o0.flat)) ∧
    (∃ r : List (List Int),
      Editor.alignOpts cxA (.root toks.flatten o0.flat) align width
        ({ preservePara := true } : Options (List Int)).flat = .ok (.root r.flatten o0.flat) ∧
      Editor.alignOpts cxA (.root (toks.map demoG).flatten o0.flat) align width
        ({ preservePara := true } : Options (List Int)).flat =
          .ok (.root (r.map demoG).flatten o0.flat)) ∧
    (∃ r : List (List Int),
      Editor.indentOpts cxA (.root toks.flatten o0.flat) level
        ({ preservePara := true } : Options (List Int)).flat = .ok (.root r.flatten o0.flat) ∧
      Editor.indentOpts cxA (.root (toks.map demoG).flatten o0.flat) level
        ({ preservePara := true } : Options (List Int)).flat =
          .ok (.root (r.map demoG).flatten o0.flat)) := by
  obtain ⟨hL, hP⟩ := default_seps ({ preservePara := true } : Options (List Int)) rfl rfl
  obtain ⟨hG, hG', hfix, hinv, hfixP, hinvP⟩ := demoA_seps hL hP
  have hind : (({ preservePara := true } : Options (List Int)).withDefaults cxB).indentStr =
      [[0x09]] := by
    rw [Options.indentStr_withDefaults]; exact dIndent_B
  have hg : ∀ t ∈ demoVocabA, demoG t ∈ demoVocabNFCA := by decide
  have hspT : ∀ t ∈ demoVocabA, (0x20 : Int) ∉ t.tail := BridgeWrap.spTail_of_spOnly (by decide)
  have hspT' : ∀ t ∈ demoVocabNFCA, (0x20 : Int) ∉ t.tail := by decide
  refine ⟨?_, ?_, ?_, ?_⟩
  · obtain ⟨r, h1, h2, -⟩ := C03_wrapOpts_para_code_points demoVocabA_stable (by decide) (by decide)
      (by decide) hspT demoVocabNFCA_stable hspT' demoG hg demoG_ws rfl rfl rfl toks ht width o0
      { preservePara := true } rfl hG hG' hfix hinv hfixP hinvP (by rw [hL]; decide)
    exact ⟨r, h1, h2⟩
  · obtain ⟨r, h1, h2, -⟩ := C03_justifyOpts_para_code_points demoVocabA_stable (by decide)
      (by decide) hspT demoVocabNFCA_stable hspT' demoG hg demoG_ws rfl rfl rfl toks ht width o0
      { preservePara := true } rfl hG hG' hfix hinv hfixP hinvP (by rw [hL]; decide)
    exact ⟨r, h1, h2⟩
  · obtain ⟨r, h1, h2, -⟩ := C03_alignOpts_para_code_points demoVocabA_stable (by decide)
      demoVocabNFCA_stable demoG hg demoG_ws rfl rfl toks ht align width o0
      { preservePara := true } rfl hG hG' hfix hinv hfixP hinvP
    exact ⟨r, h1, h2⟩
  · obtain ⟨r, h1, h2, -⟩ := C03_indentOpts_para_code_points demoVocabA_stable demoVocabNFCA_stable
      demoG hg toks ht level o0 { preservePara := true } rfl hG hG' hfix hinv hfixP hinvP
      (by rw [hind]; decide) (by rw [hind]; decide)
    exact ⟨r, h1, h2⟩

end demo

end RosedVerif.Props
