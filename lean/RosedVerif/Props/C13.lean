/-
C13 — Align pads every line to the exact width on the correct side.   (layer B: one token per cluster)
Per line: shape, exact-width and long-line clauses for the specification functions `Spec.alignLeft/Right/Center`,
every token type.  The models of manip.AlignLineLeft/Right/Center are these functions whenever every atom is its
own cluster (`C13_refines`), and on a stable vocabulary their output on code points, re-segmented with the real
segmentation, is the specification's result on the clusters (`C13_code_points`).  Editor level, any context:
`C13_none_unchanged`, `C13_line_count`; `C13_alignOpts_code_points*`: the public AlignOpts on code points is the
flattening of the run on clusters, paragraph mode included.  The model functions are tied to the Go source by
`Model/GenEq/Align`, `AlignOpts`; ./check C13 compares real outputs with the specification on stable vocabularies.
-/
import RosedVerif.Spec.AlignLemmas
import RosedVerif.Model.AlignRefine
import RosedVerif.Model.BridgeAlign
import RosedVerif.Model.OpsStructure
import RosedVerif.Model.BridgeEditorOps
import RosedVerif.Model.BridgeEditorParas
namespace RosedVerif.Props
open RosedVerif.Spec
variable {α : Type} (tk : Toks α)

/-- Left: leading whitespace stripped (exactly the maximal whitespace prefix), padded on the right only -/
theorem C13_left_shape (w : Int) (l : List α) :
    (∃ n, Spec.alignLeft tk w l = stripLeft tk l ++ List.replicate n tk.sp) ∧
    (∃ p, l = p ++ stripLeft tk l ∧ (∀ c ∈ p, tk.ws c = true) ∧
      (∀ c, (stripLeft tk l).head? = some c → tk.ws c = false)) :=
  ⟨alignLeft_shape tk w l, stripLeft_spec tk l⟩

/-- … exactly w clusters wide when the kept text is at most w; longer lines keep their text -/
theorem C13_left_width (w : Int) (l : List α) (h : ((stripLeft tk l).length : Int) ≤ w) :
    ((Spec.alignLeft tk w l).length : Int) = w := alignLeft_length tk w l h
theorem C13_left_long (w : Int) (l : List α) (h : w ≤ (stripLeft tk l).length) :
    Spec.alignLeft tk w l = stripLeft tk l := alignLeft_long tk w l h

/-- Right: trailing whitespace stripped, padded on the left only -/
theorem C13_right_shape (w : Int) (l : List α) :
    (∃ n, Spec.alignRight tk w l = List.replicate n tk.sp ++ stripRight tk l) ∧
    (∃ q, l = stripRight tk l ++ q ∧ (∀ c ∈ q, tk.ws c = true) ∧
      (∀ c, (stripRight tk l).getLast? = some c → tk.ws c = false)) :=
  ⟨alignRight_shape tk w l, stripRight_spec tk l⟩
theorem C13_right_width (w : Int) (l : List α) (h : ((stripRight tk l).length : Int) ≤ w) :
    ((Spec.alignRight tk w l).length : Int) = w := alignRight_length tk w l h
theorem C13_right_long (w : Int) (l : List α) (h : w ≤ (stripRight tk l).length) :
    Spec.alignRight tk w l = stripRight tk l := alignRight_long tk w l h

/-- Center: both sides stripped, padded on both sides with the left pad equal to or one more than the right -/
theorem C13_center_shape (w : Int) (l : List α) :
    ∃ a b, Spec.alignCenter tk w l =
        List.replicate a tk.sp ++ stripRight tk (stripLeft tk l) ++ List.replicate b tk.sp ∧
      (a = b ∨ a = b + 1) := alignCenter_shape tk w l
theorem C13_center_width (w : Int) (l : List α) (h : ((stripRight tk (stripLeft tk l)).length : Int) ≤ w) :
    ((Spec.alignCenter tk w l).length : Int) = w := alignCenter_length tk w l h
theorem C13_center_long (w : Int) (l : List α) (h : w ≤ (stripRight tk (stripLeft tk l)).length) :
    Spec.alignCenter tk w l = stripRight tk (stripLeft tk l) := alignCenter_long tk w l h

/-- **refinement**: for every context in which each atom is its own cluster, the models of
manip.AlignLineLeft/Right/Center (IndexFunc / LastIndexFunc / Sub / RepeatStr, transliterated)
compute exactly the specification above — every width, every line -/
theorem C13_refines [DecidableEq α] (cx : RosedVerif.Ctx α) (htriv : ∀ s, cx.ends s = List.range' 1 s.length)
    (s : List α) (w : Int) :
    RosedVerif.alignLeft cx s w = Spec.alignLeft ⟨cx.isSpace, cx.sp, cx.hy⟩ w s ∧
    RosedVerif.alignRight cx s w = Spec.alignRight ⟨cx.isSpace, cx.sp, cx.hy⟩ w s ∧
    RosedVerif.alignCenter cx s w = Spec.alignCenter ⟨cx.isSpace, cx.sp, cx.hy⟩ w s :=
  ⟨RosedVerif.alignLeft_triv cx htriv s w, RosedVerif.alignRight_triv cx htriv s w,
    RosedVerif.alignCenter_triv cx htriv s w⟩

/-! non-vacuity: widths ≤ 0, whitespace-only line, odd padding -/
example : Spec.alignCenter ⟨(· == 0), 0, 99⟩ 6 [0, 1, 2, 3, 0] = [0, 0, 1, 2, 3, 0] := by decide
example : Spec.alignLeft ⟨(· == 0), 0, 99⟩ (-2) [0, 0] = [] := by decide

/-- **bridge to code points**: on a stable vocabulary containing the space, the model of
AlignLineLeft/Right/Center run on CODE POINTS with the real UAX #29 segmentation returns a text
whose clusters are exactly the specification's result on the input's clusters — so the shape,
exact-width and long-line clauses above hold for code-point text, whatever the encoding of its
clusters.  (No side condition on hidden spaces is needed here.) -/
theorem C13_code_points {V : List (List Int)} (hV : VocabStable V = true) (hsp : [0x20] ∈ V)
    (toks : List (List Int)) (ht : ∀ t ∈ toks, t ∈ V) (w : Int) :
    clusters cxA (RosedVerif.alignLeft cxA toks.flatten w) =
      Spec.alignLeft ⟨cxB.isSpace, cxB.sp, cxB.hy⟩ w toks ∧
    clusters cxA (RosedVerif.alignRight cxA toks.flatten w) =
      Spec.alignRight ⟨cxB.isSpace, cxB.sp, cxB.hy⟩ w toks ∧
    clusters cxA (RosedVerif.alignCenter cxA toks.flatten w) =
      Spec.alignCenter ⟨cxB.isSpace, cxB.sp, cxB.hy⟩ w toks :=
  ⟨alignLeft_bridge_clusters hV hsp toks ht w, alignRight_bridge_clusters hV hsp toks ht w,
   alignCenter_bridge_clusters hV hsp toks ht w⟩

open RosedVerif.OpsStructure

/-- alignment None or an unknown value returns the editor unchanged (any context, any editor, paragraph mode too) -/
theorem C13_none_unchanged {α : Type} [DecidableEq α] (cx : Ctx α) (ed : Editor α)
    (align width : Int)
    (o : Options α)
    (hal : align = Gen.alignNone ∨
      (align ≠ Gen.alignLeft ∧ align ≠ Gen.alignRight ∧ align ≠ Gen.alignCenter)) :
    ed.alignOpts cx align width o = .ok ed :=
  alignOpts_none cx ed align width o hal

/-- Align leaves the number of lines unchanged, and output line i is the aligned input line i (any context and
editor, non-paragraph mode; for an unbordered separator that no aligned line contains — both conditions are
needed, `OpsStructure` has the counterexamples); the Options on the result are the receiver's -/
theorem C13_line_count {α : Type} [DecidableEq α] (cx : Ctx α) (ed : Editor α)
    (align width : Int)
    (o : Options α)
    (hal : align = Gen.alignLeft ∨ align = Gen.alignRight ∨ align = Gen.alignCenter)
    (hpp : (o.withDefaults cx).preservePara = false)
    (hsep : (o.withDefaults cx).lineSep ≠ [])
    (hu : Unbordered (o.withDefaults cx).lineSep)
    (hfree : ∀ l ∈ inLines cx ed o,
      indexOf (o.withDefaults cx).lineSep (alignFn cx align l width) = none) :
    ∃ r, ed.alignOpts cx align width o = .ok r ∧ r.opts = ed.opts ∧
      (splitOn r.text (o.withDefaults cx).lineSep).length =
        (splitOn ed.text (o.withDefaults cx).lineSep).length ∧
      ∀ i, i < (inLines cx ed o).length →
        (splitOn r.text (o.withDefaults cx).lineSep).getD i [] =
          alignFn cx align ((inLines cx ed o).getD i []) width ∧
        (splitOn ed.text (o.withDefaults cx).lineSep).getD i [] = (inLines cx ed o).getD i [] :=
  alignOpts_lines cx ed align width o hal hpp hsep hu hfree

open RosedVerif.BridgeOps RosedVerif.BridgeEditorOps RosedVerif.BridgeEditorParas RosedVerif.OpsStructure

/-- the PUBLIC operation AlignOpts on code points, non-paragraph mode, any editor (sub-editors included), every
value of the alignment: the code-point run of the model is the flattening of the cluster run (`GoodSep`: the
line separator cannot be found across cluster boundaries) -/
theorem C13_alignOpts_code_points {V : List (List Int)} (hV : VocabStable V = true)
    (ed : Editor (List Int))
    (ht : ∀ t ∈ ed.text, t ∈ V)
    (align width : Int)
    (o : Options (List Int))
    (hpp : o.preservePara = false)
    (hS : GoodSep V (o.withDefaults cxB).lineSep) :
    Editor.alignOpts cxA ed.flat align width o.flat =
      (Editor.alignOpts cxB ed align width o).map Editor.flat :=
  alignOpts_bridge hV ed ht align width o hpp hS

/-- … in closed form: the result is the specification's alignment of every input line (on clusters), joined by
the separator, with the trailing-separator rule -/
theorem C13_alignOpts_code_points_closed {V : List (List Int)} (hV : VocabStable V = true)
    (ed : Editor (List Int))
    (ht : ∀ t ∈ ed.text, t ∈ V)
    (align width : Int)
    (o : Options (List Int))
    (hal : align = Gen.alignLeft ∨ align = Gen.alignRight ∨ align = Gen.alignCenter)
    (hpp : o.preservePara = false)
    (hS : GoodSep V (o.withDefaults cxB).lineSep) :
    Editor.alignOpts cxA ed.flat align width o.flat =
      .ok (ed.withText (joinWith (o.withDefaults cxB).lineSep
        ((inLines cxB ed o).map (specAlign align width) ++ trailing cxB ed o))).flat :=
  alignOpts_bridge_closed hV ed ht align width o hal hpp hS

/-- the same in paragraph mode (`GoodPara`: neither separator can be found across cluster boundaries) -/
theorem C13_alignOpts_code_points_para {V : List (List Int)} (hV : VocabStable V = true)
    (hsp : [0x20] ∈ V)
    (ed : Editor (List Int))
    (ht : ∀ t ∈ ed.text, t ∈ V)
    (align width : Int)
    (o : Options (List Int))
    (hpp : o.preservePara = true)
    (hG : GoodPara V (o.withDefaults cxB).lineSep (o.withDefaults cxB).paraSep) :
    Editor.alignOpts cxA ed.flat align width o.flat =
      (Editor.alignOpts cxB ed align width o).map Editor.flat :=
  alignOpts_bridge_para hV hsp ed ht align width o hpp hG

end RosedVerif.Props
