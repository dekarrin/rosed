/-
C19 — Grapheme strings are pure values: cached boundaries never go stale.
Layer H (Heap/Model.lean) models gem.String with its shared, lazily filled cache cells; the
invariant `Inv` says every cell is either empty or holds exactly the boundaries of its value's
content.  The only non-trivial step (Sub: slice + rebase of cached ends) is discharged by the
context-freeness of the segmentation at boundaries (`sliceOK` in Model/InstAFacts.lean, from
`split_slice` in Gem/Theory.lean).
-/
import RosedVerif.Heap.Lemmas
import RosedVerif.Model.InstAFacts
import RosedVerif.Heap.Histories
namespace RosedVerif.Props
open RosedVerif RosedVerif.H

/-- the invariant holds initially … -/
theorem C19_init : Inv Heap.init [] := inv_init

/-- … and is preserved by every operation the property quantifies over, with the result appended to
the pool (so: in every history).  Each is `H.inv_call_value` (`H.inv_call` for an observer) at one
call; for the observers `Call.run` is unfolded by `simp only` first: left to itself the unifier
unfolds the operation instead. -/
theorem C19_new (h pool rs) (hi : Inv h pool) : Inv (new rs h).1 ((new rs h).2.1 :: pool) :=
  inv_call_value sliceOK (.new rs) hi nofun
theorem C19_add (h pool v w) (hi : Inv h pool) : Inv (add v w h).1 ((add v w h).2.1 :: pool) :=
  inv_call_value sliceOK (.add v w) hi nofun
theorem C19_sub (h pool v st en) (hi : Inv h pool) (hv : v ∈ pool) :
    Inv (sub v st en h).1 ((sub v st en h).2.1 :: pool) :=
  inv_call_value sliceOK (.sub v st en) hi (recv_mem hv)
theorem C19_setCharAt (h pool v i r) (hi : Inv h pool) :
    match (setCharAt v i r h).2.1 with
    | .ok res => Inv (setCharAt v i r h).1 (res :: pool)
    | .error _ => Inv (setCharAt v i r h).1 pool := by
  have I := inv_call_value sliceOK (.setCharAt v i r) hi nofun
  simp only [Call.value, Call.run] at I
  split <;> next e => rw [e] at I; exact I
theorem C19_repeat (h pool v count) (hi : Inv h pool) :
    Inv («repeat» v count h).1 ((«repeat» v count h).2.1 :: pool) :=
  inv_call_value sliceOK (.repeat v count) hi nofun
theorem C19_len (h pool v) (hi : Inv h pool) (hv : v ∈ pool) : Inv (len v h).1 pool := by
  simpa only [Call.run] using inv_call (.len v) hi (recv_mem hv)
theorem C19_charAt (h pool v i) (hi : Inv h pool) (hv : v ∈ pool) : Inv (charAt v i h).1 pool := by
  simpa only [Call.run] using inv_call (.charAt v i) hi (recv_mem hv)
theorem C19_graphemeIndexes (h pool v) (hi : Inv h pool) (hv : v ∈ pool) :
    Inv (graphemeIndexes v h).1 pool := by
  simpa only [Call.run] using inv_call (.graphemeIndexes v) hi (recv_mem hv)
theorem C19_runes (h pool v) (hi : Inv h pool) : Inv (runes v h).1 pool := by
  simpa only [Call.run] using inv_call (.runes v) hi nofun

/-- under the invariant every observer answers exactly as a value freshly built from the same content
would (`cxA.ends = splitRunes` is the fresh segmentation) -/
theorem C19_len_pure {h pool v} (hi : Inv h pool) (hv : v ∈ zero :: pool) :
    (len v h).2.1 = gLen cxA v.runes := (pool_pure hi hv).1
theorem C19_boundaries_pure {h pool v} (hi : Inv h pool) (hv : v ∈ zero :: pool) :
    (graphemeIndexes v h).2.1 = splitRunes v.runes := (pool_pure hi hv).2.1
theorem C19_charAt_pure {h pool v} (i : Int) (hi : Inv h pool) (hv : v ∈ zero :: pool) :
    (charAt v i h).2.1 = gCharAt cxA v.runes i := (pool_pure hi hv).2.2.1 i
theorem C19_sub_pure {h pool v} (st en : Int) (hi : Inv h pool) (hv : v ∈ zero :: pool) :
    (sub v st en h).2.1.runes = gSub cxA v.runes st en := sub_pure cxA cxA_ends st en (hi.ok' hv)
theorem C19_setCharAt_pure {h pool v} (i : Int) (r : List Int) (hi : Inv h pool) (hv : v ∈ zero :: pool) :
    (setCharAt v i r h).2.1.map GStr.runes = gSetCharAt cxA v.runes i r :=
  setCharAt_pure cxA cxA_ends i r (hi.ok' hv)
theorem C19_add_pure (v w : GStr) (h : Heap) : (add v w h).2.1.runes = v.runes ++ w.runes :=
  (add_spec v w h).2.1
theorem C19_repeat_pure (v : GStr) (count : Int) (h : Heap) :
    («repeat» v count h).2.1.runes = gRepeat v.runes count := repeat_pure v count h

/-- no operand is altered: a filled cache cell never changes, under ANY call -/
theorem C19_frame (k : Call) (h : Heap) (c : Nat) (x : List Nat) (hx : h.get c = some x) :
    (k.run h).1.get c = some x := frame k h c x hx

/-- boundaries always partition the code points — strictly increasing, ending at the length, no
empty cluster — for arbitrary rune values -/
theorem C19_partition (s : List Int) : Part (splitRunes s) s.length := part_splitRunes s

/-- the context-freeness that makes `Sub` correct, for strings of any length -/
theorem C19_slice : SliceOK := sliceOK

/-! a concrete `Sub`: clusters 1 and 2 of "éab", "é" being two code points -/
example : (sub ⟨[0x65, 0x301, 0x61, 0x62], none⟩ 1 3 Heap.init).2.1.runes = [0x61, 0x62] := by decide +kernel


/-! ### C19 over ALL histories (pool machine `H.Op` / `H.step` / `H.run`, Heap/Histories.lean) -/

/-- after any sequence of New/Add/Sub/SetCharAt/Repeat/Len/CharAt/GraphemeIndexes/Runes over a pool of
values including the shared zero value, the invariant holds -/
theorem C19_histories (ops : List H.Op) : Inv (H.run ops).1 (H.run ops).2 := H.histories_inv ops

/-- … also when the history starts from any state satisfying the invariant (e.g. a pool holding
never-initialized `gem.String{}` values) -/
theorem C19_histories_from (s : Heap × List GStr) (ops : List H.Op) (hi : Inv s.1 s.2) :
    Inv (H.runFrom s ops).1 (H.runFrom s ops).2 := H.runFrom_inv s ops hi

/-- every value of every history observes exactly as a value freshly built from the same content -/
theorem C19_histories_pure (ops : List H.Op) : ∀ v ∈ zero :: (H.run ops).2,
    (len v (H.run ops).1).2.1 = gLen cxA v.runes ∧
    (graphemeIndexes v (H.run ops).1).2.1 = splitRunes v.runes ∧
    (∀ i : Int, (charAt v i (H.run ops).1).2.1 = gCharAt cxA v.runes i) ∧
    (runes v (H.run ops).1).2.1 = v.runes := H.histories_pure ops

/-- … literally: as `New(v.runes)` executed at the end of any other history `ops'` observes -/
theorem C19_histories_pure_fresh (ops ops' : List H.Op) : ∀ v ∈ zero :: (H.run ops).2,
    (len v (H.run ops).1).2.1 = (len (new v.runes (H.run ops').1).2.1 (new v.runes (H.run ops').1).1).2.1 ∧
    (graphemeIndexes v (H.run ops).1).2.1 =
      (graphemeIndexes (new v.runes (H.run ops').1).2.1 (new v.runes (H.run ops').1).1).2.1 ∧
    (∀ i : Int, (charAt v i (H.run ops).1).2.1 =
      (charAt (new v.runes (H.run ops').1).2.1 i (new v.runes (H.run ops').1).1).2.1) ∧
    (runes v (H.run ops).1).2.1 = (runes (new v.runes (H.run ops').1).2.1 (new v.runes (H.run ops').1).1).2.1 :=
  H.histories_pure_fresh ops ops'

/-- no operand is altered by the next step of any history -/
theorem C19_histories_operands_unchanged (ops : List H.Op) (op : H.Op) :
    ((H.step (H.run ops) op).2 = (H.run ops).2 ∨ ∃ r, (H.step (H.run ops) op).2 = r :: (H.run ops).2) ∧
    (∀ i, i < (H.run ops).2.length → H.pick (H.step (H.run ops) op).2 i = H.pick (H.run ops).2 i) ∧
    (∀ v ∈ zero :: (H.run ops).2,
      (len v (H.step (H.run ops) op).1).2.1 = (len v (H.run ops).1).2.1 ∧
      (graphemeIndexes v (H.step (H.run ops) op).1).2.1 = (graphemeIndexes v (H.run ops).1).2.1 ∧
      (∀ i : Int, (charAt v i (H.step (H.run ops) op).1).2.1 = (charAt v i (H.run ops).1).2.1) ∧
      (runes v (H.step (H.run ops) op).1).2.1 = (runes v (H.run ops).1).2.1 ∧
      (∀ c x, v.cell = some c → (H.run ops).1.get c = some x → (H.step (H.run ops) op).1.get c = some x)) :=
  H.histories_operands_unchanged ops op

/-- boundaries of every value of every history partition its code points -/
theorem C19_histories_partition (ops : List H.Op) :
    ∀ v ∈ (H.run ops).2, Part (splitRunes v.runes) v.runes.length := H.histories_partition ops

/-- … including what the cache cell actually holds and what `GraphemeIndexes` actually returns -/
theorem C19_histories_partition_cached (ops : List H.Op) : ∀ v ∈ zero :: (H.run ops).2,
    Part (graphemeIndexes v (H.run ops).1).2.1 v.runes.length ∧
    ∀ c e, v.cell = some c → (H.run ops).1.get c = some e → Part e v.runes.length :=
  H.histories_partition_cached ops

end RosedVerif.Props
