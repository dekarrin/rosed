/-
C12 — Justify fills lines to the exact width with even gaps.
The space-distribution loop of JustifyLine (model: `distribute`, a transliteration of the Go loop including its
index arithmetic) never indexes out of range, adds exactly the missing spaces, and leaves gap sizes that differ
by at most one, for every number of gaps and every deficit (`C12_distribute_total`, `C12_even_gaps`).  Per line:
`C12_line` (every atom its own cluster) and `C12_code_points` (code points over a stable vocabulary, real
segmentation) give `JustifyPost`: exact width, the same words, even gaps.  Editor level, any well-formed context:
`C12_last_line_untouched`, `C12_line_count*`; `C12_justifyOpts_code_points*`: the public JustifyOpts on code
points is the flattening of the run on clusters.  The model functions are tied to the Go source by
`Model/GenEq/Justify`, `JustifyOpts`.
-/
import RosedVerif.Model.JustifyLemmas
import RosedVerif.Model.InstAFacts
import RosedVerif.Model.AlignRefine
import RosedVerif.Model.BridgeAlignCRLF
import RosedVerif.Model.OpsStructure
import RosedVerif.Model.BridgeEditorOps
import RosedVerif.Model.BridgeEditorParas
namespace RosedVerif.Props
open RosedVerif

/-- the loop is total (the odd-gap correction keeps the index in range) and adds exactly `n` spaces -/
theorem C12_distribute_total (g : Nat) (hg : 0 < g) (n : Nat) :
    ∃ r, distribute (g : Int) (if g % 2 == 0 then 0 else 1) n 0 false (List.replicate g 0) = .ok r ∧
      r.length = g ∧ r.sum = n := distribute_total g hg n

/-- runs of spaces differ by at most one -/
theorem C12_even_gaps (g : Nat) (hg : 0 < g) (n : Nat) (r : List Nat)
    (h : distribute (g : Int) (if g % 2 == 0 then 0 else 1) n 0 false (List.replicate g 0) = .ok r) :
    ∀ x ∈ r, ∀ y ∈ r, x ≤ y + 1 := distribute_even g hg n r h

/-- exact width: words interleaved with gaps of 1 + extra[i] spaces have length
Σ|word| + gaps + Σ extra — with Σ extra = w − len this is exactly w -/
theorem C12_exact_width {α : Type} [DecidableEq α] (cx : Ctx α) (ws : List (List α)) (extra : List Nat)
    (h1 : ws ≠ []) (h2 : extra.length = ws.length - 1) :
    (interleave cx ws extra).length = (ws.map List.length).sum + (ws.length - 1) + extra.sum :=
  interleave_length cx ws extra h1 h2

/-- the same words, in order -/
theorem C12_words {α : Type} [DecidableEq α] (cx : Ctx α) (ws : List (List α)) (extra : List Nat)
    (h : ∀ w ∈ ws, cx.sp ∉ w) : (interleave cx ws extra).filter (fun a => a != cx.sp) = ws.flatten :=
  interleave_words cx ws extra h

/-- **C12, per line, at cluster level**: with c the space-collapsed line — if c has no space or is already
at least w wide the result is c; otherwise the result is exactly w wide, has the same words in order,
and is the words interleaved with gaps whose sizes differ by at most one (leading and trailing runs
count as gaps, as in the code) -/
theorem C12_line {α : Type} [DecidableEq α] (cx : Ctx α) (htriv : ∀ s, cx.ends s = List.range' 1 s.length)
    (hsp : cx.isSpace cx.sp = true) (hnl : cx.isSpace cx.nl = true) (line : List α) (w : Int) :
    ∃ r, justifyLine cx line w = .ok r ∧
      JustifyPost cx (Spec.collapse ⟨cx.isSpace, cx.sp, cx.hy⟩ line) w r :=
  justifyLine_triv cx htriv hsp hnl line w

/-- JustifyLine on arbitrary code-point text returns normally -/
theorem C12_total (text : List Int) (w : Int) : ∃ r, justifyLine cxA text w = .ok r :=
  justifyLine_total cxA_Sane text w

/-! non-vacuity: odd and even gap counts, deficit larger than the number of gaps -/
example : distribute 3 1 5 0 false [0, 0, 0] = .ok [1, 2, 2] := rfl
example : distribute 4 0 6 0 false [0, 0, 0, 0] = .ok [2, 1, 1, 2] := rfl

/-- **bridge to code points**: on a stable vocabulary (space included, no U+0020 hidden inside a
cluster; CR LF clusters allowed) the model of JustifyLine on CODE POINTS with the real segmentation
returns normally, and the clusters of its output satisfy the per-line statement `JustifyPost`
(unchanged when too long or gap-less, otherwise exactly `w` clusters wide, same words, gaps
differing by at most one) with respect to the space-collapsed clusters of the input. -/
theorem C12_code_points {V : List (List Int)} (hV : VocabStable V = true) (hsp : [0x20] ∈ V)
    (hspTail : ∀ t ∈ V, (0x20 : Int) ∉ t.tail) (toks : List (List Int)) (ht : ∀ t ∈ toks, t ∈ V)
    (w : Int) :
    ∃ out, justifyLine cxA toks.flatten w = .ok out ∧
      JustifyPost cxB (Spec.collapse ⟨cxB.isSpace, cxB.sp, cxB.hy⟩ toks) w (clusters cxA out) :=
  justifyLine_bridge_general_post hV hsp hspTail toks ht w

/-- the side condition is needed (Prepend + space is one cluster hiding a U+0020) -/
theorem C12_code_points_needs_spTail :
    VocabStable [[0x61], [0x20], [0x600, 0x20]] = true ∧
    justifyLine cxA ([[0x600, 0x20], [0x20], [0x61]] : List (List Int)).flatten 0 =
      .ok [0x600, 0x20, 0x61] ∧
    justifyLine cxB [[0x600, 0x20], [0x20], [0x61]] 0 = .ok [[0x600, 0x20], [0x20], [0x61]] :=
  BridgeAlignCRLF.spTail_needed_justify

open RosedVerif.OpsStructure

/-- JustifyLastLine off (the default), non-paragraph mode, any well-formed context (arbitrary code points
included) and any editor, sub-editors too: every line but the last is replaced by its justification, and the
last line WITH EVERYTHING AFTER IT (its terminator, the trailing separator) is byte-for-byte the input's tail;
the result carries the receiver's Options -/
theorem C12_last_line_untouched {α : Type} [DecidableEq α] (cx : Ctx α) (hs : cx.Sane)
    (hd : cx.dLineSep ≠ [])
    (ed : Editor α)
    (width : Int)
    (o : Options α)
    (hpp : (o.withDefaults cx).preservePara = false)
    (hjl : (o.withDefaults cx).justifyLast = false) :
    ed.justifyOpts cx width o =
        .ok (ed.withText
          ((((inLines cx ed o).dropLast).map
              (fun l => justified cx l width ++ (o.withDefaults cx).lineSep)).flatten ++
            ed.text.drop (headText (o.withDefaults cx).lineSep (inLines cx ed o)).length)) ∧
      ed.text = headText (o.withDefaults cx).lineSep (inLines cx ed o) ++
        ed.text.drop (headText (o.withDefaults cx).lineSep (inLines cx ed o)).length :=
  justifyOpts_notLast_sane cx hs hd ed width o hpp hjl

/-- Justify leaves the number of lines unchanged: output line i is the justified input line i, the last line is
the input's last line (unbordered separator that no justified line contains) -/
theorem C12_line_count {α : Type} [DecidableEq α] (cx : Ctx α) (hb : ∀ a, 0 < cx.blen a)
    (hd : cx.dLineSep ≠ [])
    (ed : Editor α)
    (width : Int)
    (o : Options α)
    (J : List α → List α)
    (hpp : (o.withDefaults cx).preservePara = false)
    (hjl : (o.withDefaults cx).justifyLast = false)
    (hJ : ∀ l ∈ (inLines cx ed o).dropLast, justifyLine cx l width = .ok (J l))
    (hnil : (o.withDefaults cx).noTrailing = true → justifyLine cx [] width = .ok [])
    (hu : Unbordered (o.withDefaults cx).lineSep)
    (hfree : ∀ l ∈ (inLines cx ed o).dropLast, indexOf (o.withDefaults cx).lineSep (J l) = none) :
    ∃ r, ed.justifyOpts cx width o = .ok r ∧ r.opts = ed.opts ∧
      (splitOn r.text (o.withDefaults cx).lineSep).length =
        (splitOn ed.text (o.withDefaults cx).lineSep).length ∧
      ∀ i, i < (inLines cx ed o).length →
        (splitOn r.text (o.withDefaults cx).lineSep).getD i [] =
          (if i + 1 < (inLines cx ed o).length then J ((inLines cx ed o).getD i [])
           else (inLines cx ed o).getD i []) ∧
        (splitOn ed.text (o.withDefaults cx).lineSep).getD i [] = (inLines cx ed o).getD i [] :=
  justifyOpts_notLast_lines cx hb hd ed width o J hpp hjl hJ hnil hu hfree

/-- the same with JustifyLastLine on: every line, the last included, is replaced by its justification and the
line count is unchanged -/
theorem C12_line_count_justifyLast {α : Type} [DecidableEq α] (cx : Ctx α) (ed : Editor α)
    (width : Int)
    (o : Options α)
    (J : List α → List α)
    (hpp : (o.withDefaults cx).preservePara = false)
    (hjl : (o.withDefaults cx).justifyLast = true)
    (hJ : ∀ l ∈ inLines cx ed o, justifyLine cx l width = .ok (J l))
    (hsep : (o.withDefaults cx).lineSep ≠ [])
    (hu : Unbordered (o.withDefaults cx).lineSep)
    (hfree : ∀ l ∈ inLines cx ed o, indexOf (o.withDefaults cx).lineSep (J l) = none) :
    ∃ r, ed.justifyOpts cx width o = .ok r ∧ r.opts = ed.opts ∧
      (splitOn r.text (o.withDefaults cx).lineSep).length =
        (splitOn ed.text (o.withDefaults cx).lineSep).length ∧
      ∀ i, i < (inLines cx ed o).length →
        (splitOn r.text (o.withDefaults cx).lineSep).getD i [] = J ((inLines cx ed o).getD i []) ∧
        (splitOn ed.text (o.withDefaults cx).lineSep).getD i [] = (inLines cx ed o).getD i [] :=
  justifyOpts_all_lines cx ed width o J hpp hjl hJ hsep hu hfree

open RosedVerif.BridgeOps RosedVerif.BridgeEditorOps RosedVerif.BridgeEditorParas RosedVerif.OpsStructure

/-- the PUBLIC operation JustifyOpts on code points, non-paragraph mode, JustifyLastLine on or off, any editor
(sub-editors included): the code-point run of the model (LinesTo(-1), per-line JustifyLine, Commit — byte
offsets included) is the flattening of the cluster run -/
theorem C12_justifyOpts_code_points {V : List (List Int)} (hV : VocabStable V = true)
    (hsp : [0x20] ∈ V)
    (hspTail : ∀ t ∈ V, (0x20 : Int) ∉ t.tail)
    (ed : Editor (List Int))
    (ht : ∀ t ∈ ed.text, t ∈ V)
    (width : Int)
    (o : Options (List Int))
    (hpp : o.preservePara = false)
    (hS : GoodSep V (o.withDefaults cxB).lineSep) :
    Editor.justifyOpts cxA ed.flat width o.flat =
      (Editor.justifyOpts cxB ed width o).map Editor.flat :=
  justifyOpts_bridge hV hsp hspTail ed ht width o hpp hS

/-- the same in paragraph mode.  `hA`: the vocabulary contains the letter `A`, the stand-in with which JustifyOpts
pads a paragraph for the affixes of the paragraph separator.  `hAL`: `A` is not a rune of the line separator;
when it is, the code takes another letter (`cxA.placeholder`, `C07_wrapOpts_para_placeholder_fresh`), which need
not be a cluster of `V` (finding D18). -/
theorem C12_justifyOpts_code_points_para {V : List (List Int)} (hV : VocabStable V = true)
    (hsp : [0x20] ∈ V)
    (hA : [0x41] ∈ V)
    (hspTail : ∀ t ∈ V, (0x20 : Int) ∉ t.tail)
    (ed : Editor (List Int))
    (ht : ∀ t ∈ ed.text, t ∈ V)
    (width : Int)
    (o : Options (List Int))
    (hpp : o.preservePara = true)
    (hG : GoodPara V (o.withDefaults cxB).lineSep (o.withDefaults cxB).paraSep)
    (hAL : (0x41 : Int) ∉ ((o.withDefaults cxB).lineSep).flatten) :
    Editor.justifyOpts cxA ed.flat width o.flat =
      (Editor.justifyOpts cxB ed width o).map Editor.flat :=
  justifyOpts_bridge_para hV hsp hA hspTail ed ht width o hpp hG hAL

open RosedVerif.BridgeEditorParas in
/-- the hypotheses are satisfiable: the default separators, any text over `demoVocabA` -/
example (toks : List (List Int)) (ht : ∀ t ∈ toks, t ∈ demoVocabA) (width : Int)
    (o0 o : Options (List Int)) (hpp : o.preservePara = true) (hl : o.lineSep = [])
    (hp : o.paraSep = []) :
    Editor.justifyOpts cxA (.root toks.flatten o0.flat) width o.flat =
      (Editor.justifyOpts cxB (.root toks o0) width o).map Editor.flat :=
  C12_justifyOpts_code_points_para demoVocabA_stable (by decide) (by decide)
    (BridgeWrap.spTail_of_spOnly (by decide)) (.root toks o0) ht width o hpp
    (by rw [(default_seps o hl hp).1, (default_seps o hl hp).2]; exact demoVocabA_goodPara)
    (by rw [(default_seps o hl hp).1]; decide)

/-- the witness of finding D18 at its second site: `"x y\n\nz w"` justified to width 5 in paragraph mode with the
line separator `"A"` is unchanged: each paragraph's only line is its last line (stand-in `B`).  With the
stand-in `A` the stand-ins are split off as lines of their own and the first paragraph comes out as `"x   y"`. -/
theorem C12_justifyOpts_para_D18_witness :
    (Editor.justifyOpts cxA (.root [0x78, 0x20, 0x79, 0x0A, 0x0A, 0x7A, 0x20, 0x77] {}) 5
        { preservePara := true, lineSep := [0x41] }).map Editor.text =
      .ok [0x78, 0x20, 0x79, 0x0A, 0x0A, 0x7A, 0x20, 0x77] :=
  BridgeWrap.of_okEq (by decide +kernel)

end RosedVerif.Props
