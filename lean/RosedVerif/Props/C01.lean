/-
C01 — Grapheme segmentation obeys the UAX #29 extended-cluster rules.
The proofs are in Gem/SpecProof.lean, Gem/RulesLemmas.lean and Gem/Corollaries.lean; proved here are
`C01_rule_chain` (an evaluation over the regenerated rule list) and what follows from unfolding
`Boundary` once.
-/
import RosedVerif.Gem.SpecProof
import RosedVerif.Gem.RulesLemmas
import RosedVerif.Gen.Rules
import RosedVerif.Gem.Corollaries
namespace RosedVerif.Props
open RosedVerif Cls Spec

/-- class level: for EVERY class string (any length, any order) the transliterated Go rule
chain yields exactly the cluster ends that GB1–GB999 specify -/
theorem C01_class (cs : List Cls) : split cs = specSplit cs := split_eq_specSplit cs

/-- code-point level, source-faithful form: `gem.Split` over the 14 Go predicates with the
REGENERATED tables equals the specification applied to the classes of the code points -/
theorem C01 (rs : List Int) : splitGo rs = specSplit (rs.map classOf) := by
  rw [splitGo_eq_splitRunes]; exact split_eq_specSplit _

/-- the executable model used by the driver and by every other layer is the same function -/
theorem C01_model (rs : List Int) : splitRunes rs = specSplit (rs.map classOf) :=
  split_eq_specSplit _

/-- **regenerated tie of the rule chain**: the ordered guards of `shouldBreakAfter`, re-extracted from
the source on every run (Gen/Rules.lean), evaluate to the model's rule chain `brkCore` for every class
pair and both context bits (GB11 scan result, RI parity).  A harmless reordering of independent rules
re-proves by itself; a harmful edit fails here.  When the function no longer has the shape the
extractor knows, `Gen.rulesExtracted = false` and the rule chain is tied by the G-split
correspondence alone (the check's evidence says which). -/
theorem C01_rule_chain (hx : Gen.rulesExtracted = true) (r nx : Cls) (ep re : Bool) :
    evalRules Gen.rulesDefault r nx ep re Gen.rules = brkCore r nx ep re := by
  decide +revert +kernel

/-! ### corollaries named in the property -/

/-- GB3: CR LF is never split -/
theorem C01_crlf (pre : List Cls) : ¬ Boundary pre cr lf := fun h => h.1 ⟨rfl, rfl⟩

/-- GB4: a control (or CR, or LF) is always separated from what follows (except CR LF) -/
theorem C01_control_after (pre : List Cls) (r nx : Cls) (h : isCtl r) (h3 : ¬ (r = cr ∧ nx = lf)) :
    Boundary pre r nx := ⟨h3, Or.inl h⟩

/-- GB5: … and from what precedes -/
theorem C01_control_before (pre : List Cls) (r nx : Cls) (h : isCtl nx) (h3 : ¬ (r = cr ∧ nx = lf)) :
    Boundary pre r nx := ⟨h3, Or.inr (Or.inl h)⟩

/-- GB9/GB9a: nothing is split before Extend, ZWJ or SpacingMark unless a control precedes -/
theorem C01_no_break_before_mark (pre : List Cls) (r nx : Cls)
    (hn : nx = extend ∨ nx = zwj ∨ nx = spacing) (hr : ¬ isCtl r) : ¬ Boundary pre r nx := by
  rintro ⟨_, h | h | h⟩
  · exact hr h
  · rcases hn with rfl | rfl | rfl <;> simp [isCtl] at h
  · apply h
    unfold NoBreakRule
    rcases hn with rfl | rfl | rfl <;> simp

/-- GB12/13: within a run of regional indicators that starts the text or follows a non-RI,
there is no break after an odd number of them and a break after an even number -/
theorem C01_ri_pairs (p : List Cls) (hp : p = [] ∨ ∃ q x, p = q ++ [x] ∧ x ≠ ri) (n : Nat) :
    Boundary (p ++ List.replicate (n + 1) ri) ri ri ↔ n % 2 = 1 :=
  ri_pairs_boundary p hp n

/-! ### non-vacuity: concrete strings exercising the unbounded look-behinds -/

-- GB9b before GB11, Extend* look-behind, odd RI run: Prepend ExtPict Extend Extend ZWJ ExtPict RI RI RI
example : split [prepend, extpict, extend, extend, zwj, extpict, ri, ri, ri] = [6, 8, 9] := by
  decide +kernel
-- lone marks and a lone ZWJ at the start of text, CR LF, control
example : split [extend, zwj, spacing, cr, lf, control, extend] = [3, 5, 6, 7] := by decide +kernel
-- Hangul syllable sequences
example : split [l, l, v, t, t, lv, t, lvt, t, l] = [5, 7, 9, 10] := by decide +kernel

/-! ### the corollaries over strings of any length (`Gem/Corollaries.lean`), under the property's name -/

/-- a Control, CR or LF that is not half of a CR LF pair is a cluster by itself, and CR LF is a
cluster (never split, separated on both sides); `IsCluster cs a b`: `[a, b)` is a cluster of `cs` -/
theorem C01_controls_alone (cs : List Cls) (i : Nat) (c : Cls) (hi : cs[i]? = some c) (hc : isCtl c) :
    (¬ (c = cr ∧ cs[i + 1]? = some lf) → ¬ (c = lf ∧ ∃ k, i = k + 1 ∧ cs[k]? = some cr) →
        IsCluster cs i (i + 1)) ∧
    (c = cr → cs[i + 1]? = some lf → IsCluster cs i (i + 2)) :=
  ⟨controls_alone cs i c hi hc, fun h h1 => crlf_cluster cs i (h ▸ hi) h1⟩

/-- `L* (V | LV) V* T*`, `L* LVT T*`, `L+` are ONE cluster, for all repetition counts -/
theorem C01_hangul_syllable (s : List Cls) (h : IsHangulSyllable s) : split s = [s.length] :=
  hangul_syllable s h

/-- a non-control base followed by any Extend / ZWJ / SpacingMark in any order is one cluster -/
theorem C01_marks_attach (x : Cls) (marks : List Cls) (hx : ¬ isCtl x)
    (hm : ∀ m ∈ marks, m = extend ∨ m = zwj ∨ m = spacing) : split (x :: marks) = [marks.length + 1] :=
  marks_attach x marks hx hm

/-- `Prepend^n x` is one cluster for a non-control `x` -/
theorem C01_prepend_attaches (n : Nat) (x : Cls) (hx : ¬ isCtl x) :
    split (List.replicate n prepend ++ [x]) = [n + 1] := prepend_attaches n x hx

/-- … also with any Extend / ZWJ / SpacingMark after `x` -/
theorem C01_prepend_attaches_marks (n : Nat) (x : Cls) (marks : List Cls) (hx : ¬ isCtl x)
    (hm : ∀ m ∈ marks, m = extend ∨ m = zwj ∨ m = spacing) :
    split (List.replicate n prepend ++ x :: marks) = [n + 1 + marks.length] :=
  prepend_attaches_marks n x marks hx hm

/-- ill-formed: marks without a base at the very start of the text are one cluster -/
theorem C01_leading_marks (marks : List Cls) (hne : marks ≠ [])
    (hm : ∀ m ∈ marks, m = extend ∨ m = zwj ∨ m = spacing) : split marks = [marks.length] :=
  leading_marks marks hne hm

/-- `ExtPict Extend^k ZWJ ExtPict` is one cluster for every `k`, and so is the iterated sequence
`(ExtPict Extend* ZWJ)^m ExtPict` for every number of links and of Extend in each link -/
theorem C01_emoji_zwj (k : Nat) (ks : List Nat) :
    split ([extpict] ++ List.replicate k extend ++ [zwj, extpict]) = [k + 3] ∧
    split (emojiSeq ks) = [(emojiSeq ks).length] := ⟨emoji_zwj k, emoji_zwj_seq ks⟩

/-- two ZWJs in a row: a boundary before the following ExtPict, whatever precedes -/
theorem C01_double_zwj_breaks :
    split [extpict, zwj, zwj, extpict] = [3, 4] ∧
    (∀ pre : List Cls, Boundary (pre ++ [zwj, zwj]) zwj extpict) ∧
    (∀ (cs : List Cls) (i : Nat), cs[i]? = some zwj → cs[i + 1]? = some zwj →
      cs[i + 2]? = some extpict → i + 2 ∈ split cs) :=
  ⟨double_zwj_breaks, double_zwj_boundary, double_zwj_end⟩

/-- a run of `n` regional indicators at the start of the text or after a non-RI: cluster ends
`2, 4, …` and a final `n` when `n` is odd (`riEnds n`), i.e. `⌈n/2⌉` clusters; and in any continuation
of the text the ends strictly inside the run are the even positions -/
theorem C01_ri_run (p : List Cls) (hp : p = [] ∨ ∃ q x, p = q ++ [x] ∧ x ≠ ri) (n : Nat) :
    split (List.replicate n ri) = riEnds n ∧
    (split (p ++ List.replicate n ri)).filter (fun j => decide (p.length < j)) =
      (riEnds n).map (· + p.length) ∧
    riEnds n = (List.range (n / 2)).map (fun k => 2 * k + 2) ++ (if n % 2 = 1 then [n] else []) ∧
    (riEnds n).length = (n + 1) / 2 ∧
    (∀ (s : List Cls) (k : Nat), k + 1 < n →
      (p.length + (k + 1) ∈ split (p ++ List.replicate n ri ++ s) ↔ (k + 1) % 2 = 0)) :=
  ⟨ri_run_start n, ri_run_after p hp n, riEnds_eq n, riEnds_length n,
    fun s k hk => ri_run_inside p s hp n k hk⟩

/-- nothing else joined: two neighbours `r`, `nx` inside one cluster are joined by a context-free rule
(`joins`: GB3, GB6–GB9b), by GB11 or by GB12/13; and conversely -/
theorem C01_nothing_else_joined (p : List Cls) (r nx : Cls) :
    ¬ Boundary (p ++ [r]) r nx ↔
      (joins r nx = true ∨ (GB11ctx (p ++ [r]) ∧ nx = extpict) ∨ (GB1213ctx (p ++ [r]) ∧ nx = ri)) :=
  no_boundary_iff p r nx

theorem C01_nothing_else_joined_split (cs : List Cls) (i : Nat) (r nx : Cls) (h0 : cs[i]? = some r)
    (h1 : cs[i + 1]? = some nx) (h : i + 1 ∉ split cs) :
    joins r nx = true ∨ (GB11ctx (cs.take (i + 1)) ∧ nx = extpict) ∨
      (GB1213ctx (cs.take (i + 1)) ∧ nx = ri) := joined_only_by_rule cs i r nx h0 h1 h

/-- Other·Other, Other·ExtPict, ExtPict·ExtPict, Hangul·Other, … (`plainBreak`, a decidable table):
always a boundary, whatever precedes -/
theorem C01_plain_pairs_break (p : List Cls) (r nx : Cls) (h : plainBreak r nx = true) :
    Boundary (p ++ [r]) r nx := boundary_of_plainBreak p r nx h

end RosedVerif.Props
