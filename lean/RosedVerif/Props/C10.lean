/-
C10 — Line count, per-line callbacks and line selection agree and round-trip.
The line separator of an editor is `(ed.opts.withDefaults cxA).lineSep`; the decomposition is
`Spec.linePieces` (each line with its terminator).
-/
import RosedVerif.Model.InstAFacts
import RosedVerif.Model.LinesLemmas
namespace RosedVerif.Props
open RosedVerif

theorem dLineSep_ne : cxA.dLineSep ≠ [] := by decide

/-- the pieces — each line with its terminator — concatenate back to the original text, for every
non-empty separator and both trailing-separator policies -/
theorem C10_pieces_roundtrip (text sep : List Int) (nt : Bool) (h : sep ≠ []) :
    (Spec.linePieces text sep nt).flatten = text := Spec.linePieces_flatten text sep nt h

/-- LineCount = number of pieces; the lines an Apply callback sees are the pieces without terminators -/
theorem C10_lineCount (ed : Editor Int) :
    ed.lineCount cxA = (Spec.linePieces ed.text (ed.opts.withDefaults cxA).lineSep ed.opts.noTrailing).length :=
  lineCount_eq_linePieces_length cxA dLineSep_ne ed

theorem C10_lines (ed : Editor Int) :
    ed.lines cxA = Spec.bareLines ed.text (ed.opts.withDefaults cxA).lineSep ed.opts.noTrailing :=
  lines_eq_bareLines cxA ed

/-- Apply: callbacks run over the lines in order with indexes 0..n-1, returned line lists are spliced
in place, the trailing separator is kept exactly when the input had one (default policy) -/
theorem C10_apply (ed : Editor Int) (f : Nat → List Int → List (List Int)) (o : Options Int) :
    ed.applyOpts cxA f o = .ok (ed.withText
      (Spec.apply ed.text (o.withDefaults cxA).lineSep (o.withDefaults cxA).noTrailing f)) :=
  applyOpts_eq_spec cxA ed f o

/-- a callback returning its argument reproduces the text exactly, for EVERY separator (the defaulted
separator is never empty) — also a self-overlapping one such as "aa" or "--" -/
theorem C10_apply_identity (ed : Editor Int) (o : Options Int) :
    ed.applyOpts cxA (fun _ l => [l]) o = .ok ed :=
  applyOpts_id cxA dLineSep_ne ed o

/-- the same at the specification level, for every non-empty separator and both policies -/
theorem C10_apply_identity_spec (text sep : List Int) (nt : Bool) (h : sep ≠ []) :
    Spec.apply text sep nt (fun _ l => [l]) = text := Spec.apply_id text sep nt h

/-- with the self-overlapping separator "aa" the identity callback reproduces "aaa" (the split is
["", "a"]: the last line "a" is unterminated although the text ends with the characters of the
separator) … -/
example : Spec.apply [0x61, 0x61, 0x61] [0x61, 0x61] false (fun _ l => [l]) = [0x61, 0x61, 0x61] := by
  decide
/-- … also through the model's `ApplyOpts`, … -/
example : (Editor.root [0x61, 0x61, 0x61] {}).applyOpts cxA (fun _ l => [l])
    { lineSep := [0x61, 0x61] } = .ok (Editor.root [0x61, 0x61, 0x61] {}) :=
  C10_apply_identity _ _
/-- … and "a---" with separator "--" ("a", "-": the `-` is an unterminated last line) -/
example : Spec.apply [0x61, 0x2d, 0x2d, 0x2d] [0x2d, 0x2d] false (fun _ l => [l]) =
    [0x61, 0x2d, 0x2d, 0x2d] := by decide
/-- a text that really ends with a terminated line keeps its separator: "a--" ↦ "a--" -/
example : Spec.apply [0x61, 0x2d, 0x2d] [0x2d, 0x2d] false (fun _ l => l :: []) =
    [0x61, 0x2d, 0x2d] := by decide

/-- `Lines` selects exactly the pieces of the documented normalised range, as a sub-editor whose byte
range is [|before|, |before ++ selected|) (`LinesFrom`, `LinesTo`: `linesFrom_eq_spec`, `linesTo_eq_spec`) -/
theorem C10_lines_select (ed : Editor Int) (s e : Int) :
    ed.linesSel cxA s e =
      .ok (.sub
        (Spec.selectLines ed.text (ed.opts.withDefaults cxA).lineSep ed.opts.noTrailing s e).2.1
        ed.opts ed
        (byteLen cxA
          (Spec.selectLines ed.text (ed.opts.withDefaults cxA).lineSep ed.opts.noTrailing s e).1)
        (byteLen cxA
          ((Spec.selectLines ed.text (ed.opts.withDefaults cxA).lineSep ed.opts.noTrailing s e).1 ++
           (Spec.selectLines ed.text (ed.opts.withDefaults cxA).lineSep ed.opts.noTrailing s e).2.1))) :=
  linesSel_eq_spec cxA dLineSep_ne ed (fun a _ => utf8Len_pos a) s e

theorem C10_select_concat (text sep : List Int) (nt : Bool) (s e : Int) (h : sep ≠ []) :
    (Spec.selectLines text sep nt s e).1 ++ (Spec.selectLines text sep nt s e).2.1 ++
      (Spec.selectLines text sep nt s e).2.2 = text :=
  Spec.selectLines_concat text sep nt s e h

/-! non-vacuity: "\r\n" separator, unterminated last line, negative position -/
example : Spec.linePieces [0x61, 0xd, 0xa, 0xd, 0xa, 0x62] [0xd, 0xa] false = [[0x61, 0xd, 0xa], [0xd, 0xa], [0x62]] := by
  decide
example : (Spec.selectLines [0x61, 0xa, 0x62, 0xa] [0xa] false (-1) Gen.endSentinel) = ([0x61, 0xa], [0x62, 0xa], []) := by
  decide

end RosedVerif.Props
