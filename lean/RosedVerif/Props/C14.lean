/-
C14 — Two-column layout is the aligned juxtaposition of two wrapped texts.
(a) clauses proved of the SPECIFICATION `Spec.twoColumns` (written from the property statement, every
token type); (b) the MODEL of InsertTwoColumnsOpts at cluster level has exactly that shape
(CombineColumnBlocks, the float percentage arithmetic and both Wrap calls included).
-/
import RosedVerif.Model.InstAFacts
import RosedVerif.Model.CompositeLemmas
import RosedVerif.Spec.CompositeLemmas
import RosedVerif.Model.WrapFits
import RosedVerif.Model.BridgeComposite
import RosedVerif.Model.NoLossModel
namespace RosedVerif.Props
open RosedVerif

/-- both columns are at least 2 wide and, with the gap, fill exactly the minimum-clamped width, for
every percentage from below 0 to above 1, every width, every gap ≥ 0 -/
theorem C14_widths (gap width : Int) (pct : Pct) (hg : 0 ≤ gap) :
    2 ≤ (Spec.colWidths gap width pct).1 ∧ 2 ≤ (Spec.colWidths gap width pct).2 ∧
    ((Spec.colWidths gap width pct).1 : Int) + gap + (Spec.colWidths gap width pct).2 = max width (gap + 4) :=
  Spec.colWidths_spec gap width pct hg

/-- line i is the i-th wrapped left line padded to the left width plus the gap, followed by the i-th
wrapped right line; the right column starts at the same cluster offset on every line; no line exceeds
the total width; max(left, right) lines -/
theorem C14_lines {α : Type} (tk : Spec.Toks α) (left right : List α) (gap width : Int) (pct : Pct)
    (hg : 0 ≤ gap) (i : Nat) (hi : i < (Spec.twoColumns tk left right gap width pct).length) :
    let lw := (Spec.colWidths gap width pct).1
    let rw := (Spec.colWidths gap width pct).2
    let wl := Spec.wrapLines tk lw left
    let wr := Spec.wrapLines tk rw right
    (Spec.twoColumns tk left right gap width pct)[i] =
        Spec.padTo tk (lw + gap.toNat) (wl.getD i []) ++ wr.getD i [] ∧
    ((Spec.twoColumns tk left right gap width pct)[i]).take (lw + gap.toNat) =
        Spec.padTo tk (lw + gap.toNat) (wl.getD i []) ∧
    (Spec.padTo tk (lw + gap.toNat) (wl.getD i [])).length = lw + gap.toNat ∧
    (((Spec.twoColumns tk left right gap width pct)[i]).length : Int) ≤ max width (gap + 4) :=
  Spec.twoColumns_line tk left right gap width pct hg i hi

theorem C14_line_count {α : Type} (tk : Spec.Toks α) (left right : List α) (gap width : Int) (pct : Pct) :
    (Spec.twoColumns tk left right gap width pct).length =
      max (Spec.wrapLines tk (Spec.colWidths gap width pct).1 left).length
          (Spec.wrapLines tk (Spec.colWidths gap width pct).2 right).length :=
  Spec.twoColumns_length tk left right gap width pct

/-- **the model** at cluster level: for every percentage, width, gap ≥ 0 the operation inserts (at the
normalised position, C09) a block whose line i is `left_i ++ spaces up to leftW+gap ++ right_i`, with
both widths ≥ 2 summing to the clamped total, no line longer than the total, trailing separator
exactly when trailing separators are on (`Block.join` with `!noTrailing`) -/
theorem C14_model {α : Type} [DecidableEq α] (cx : Ctx α) (htriv : ∀ s, cx.ends s = List.range' 1 s.length)
    (hsp : cx.isSpace cx.sp = true) (ed : Editor α) (pos : Int) (l r : List α) (gap width : Int) (pct : Pct)
    (o : Options α) (hne : ¬(l.isEmpty ∧ r.isEmpty)) (hg : 0 ≤ gap) :
    ∃ (leftW rightW : Int) (ls : List (List α)), 2 ≤ leftW ∧ 2 ≤ rightW ∧
      leftW + gap + rightW = max width (gap + 4) ∧
      ed.insertTwoColumnsOpts cx pos l r gap width pct o =
        ed.insert cx pos (Block.mk ls (o.withDefaults cx).lineSep (!(o.withDefaults cx).noTrailing)).join ∧
      ls.length = max (colLines cx l leftW (o.withDefaults cx).lineSep).length
        (colLines cx r rightW (o.withDefaults cx).lineSep).length ∧
      (∀ line ∈ ls, (line.length : Int) ≤ max width (gap + 4)) ∧
      ∀ (i : Nat) (hi : i < ls.length),
        ls[i] = (colLines cx l leftW (o.withDefaults cx).lineSep).getD i [] ++
          List.replicate ((leftW + gap).toNat -
            ((colLines cx l leftW (o.withDefaults cx).lineSep).getD i []).length) cx.sp ++
          (colLines cx r rightW (o.withDefaults cx).lineSep).getD i [] ∧
        (ls[i].take (leftW + gap).toNat).length = (leftW + gap).toNat ∧
        ls[i].drop (leftW + gap).toNat = (colLines cx r rightW (o.withDefaults cx).lineSep).getD i [] :=
  insertTwoColumnsOpts_triv_width cx htriv hsp ed pos l r gap width pct o hne hg

/-- on arbitrary code-point texts the operation returns normally (any gap) and never reaches the
explicit panic of the source, whatever the percentage -/
theorem C14_total (ed : Editor Int) (p : Int) (l r : List Int) (g w : Int) (pct : Pct) (o : Options Int) :
    ∃ x, ed.insertTwoColumnsOpts cxA p l r g w pct o = .ok x :=
  insertTwoColumnsOpts_total_A_any ed p l r g w pct o

/-- both texts empty: nothing is inserted -/
theorem C14_empty {α : Type} [DecidableEq α] (cx : Ctx α) (ed : Editor α) (p g w : Int) (pct : Pct)
    (o : Options α) : ed.insertTwoColumnsOpts cx p [] [] g w pct o = .ok ed := rfl

/-- **bridge to code points** (the public operation, root editor, any options in which the line separator cannot be found across cluster boundaries, `GoodSep`): on a stable vocabulary containing the space and the hyphen, the model of InsertTwoColumnsOpts run on CODE POINTS with the real UAX #29 segmentation returns the flattening of the cluster-level block; every line re-segments to its cluster line, is at most the clamped width in real clusters, has the shape left ++ padding ++ right, and the re-segmented right column starts at cluster `leftW + gap` on every line -/
theorem C14_code_points {V : List (List Int)} (hV : VocabStable V = true)
    (hsp : [0x20] ∈ V)
    (hhy : [0x2D] ∈ V)
    (hspTail : ∀ t ∈ V, (0x20 : Int) ∉ t.tail)
    (toks : List (List Int))
    (ht : ∀ t ∈ toks, t ∈ V)
    (o0 : Options (List Int))
    (pos : Int)
    (l r : List (List Int))
    (hl : ∀ t ∈ l, t ∈ V)
    (hr : ∀ t ∈ r, t ∈ V)
    (gap width : Int)
    (pct : Pct)
    (o : Options (List Int))
    (hS : BridgeOps.GoodSep V (o.withDefaults cxB).lineSep)
    (hne : ¬(l.isEmpty ∧ r.isEmpty))
    (hg : 0 ≤ gap) :
    ∃ (leftW rightW : Int) (ls : List (List (List Int))), 2 ≤ leftW ∧ 2 ≤ rightW ∧
      leftW + gap + rightW = max width (gap + 4) ∧
      Editor.insertTwoColumnsOpts cxA (.root toks.flatten o0.flat) pos l.flatten r.flatten gap width
          pct o.flat =
        .ok (.root (toks.take (Spec.normPos toks.length pos).toNat ++
          (Block.mk ls (o.withDefaults cxB).lineSep (!(o.withDefaults cxB).noTrailing)).join ++
          toks.drop (Spec.normPos toks.length pos).toNat).flatten o0.flat) ∧
      ls.length = max (colLines cxB l leftW (o.withDefaults cxB).lineSep).length
        (colLines cxB r rightW (o.withDefaults cxB).lineSep).length ∧
      (∀ line ∈ ls, clusters cxA line.flatten = line ∧
        (gLen cxA line.flatten : Int) ≤ max width (gap + 4)) ∧
      ∀ (i : Nat) (hi : i < ls.length),
        ls[i] = (colLines cxB l leftW (o.withDefaults cxB).lineSep).getD i [] ++
          List.replicate ((leftW + gap).toNat -
            ((colLines cxB l leftW (o.withDefaults cxB).lineSep).getD i []).length) cxB.sp ++
          (colLines cxB r rightW (o.withDefaults cxB).lineSep).getD i [] ∧
        ((clusters cxA ls[i].flatten).take (leftW + gap).toNat).length = (leftW + gap).toNat ∧
        (clusters cxA ls[i].flatten).drop (leftW + gap).toNat =
          (colLines cxB r rightW (o.withDefaults cxB).lineSep).getD i [] :=
  insertTwoColumnsOpts_bridge_C14 hV hsp hhy hspTail toks ht o0 pos l r hl hr gap width pct o hS hne hg

open RosedVerif.Spec RosedVerif.WrapRefine

/-- no text is lost: the words (units) of the left text are recovered in order from the left parts of the lines, those of the right text from the parts after column leftW + gap -/
theorem C14_no_loss {α : Type} (tk : Spec.Toks α) (hsp : tk.ws tk.sp = true)
    (hhy : tk.ws tk.hy = false)
    (left right : List α)
    (gap width : Int)
    (pct : Pct)
    (hg : 0 ≤ gap) :
    let lw := (colWidths gap width pct).1
    let rw := (colWidths gap width pct).2
    let cols := twoColumns tk left right gap width pct
    (cols.map (List.take (lw + gap.toNat))).flatMap (words tk) = units tk lw left ∧
    (cols.map (List.drop (lw + gap.toNat))).flatMap (words tk) = units tk rw right :=
  twoColumns_units tk hsp hhy left right gap width pct hg

/-- the same for the MODEL of InsertTwoColumnsOpts at cluster level -/
theorem C14_model_no_loss {α : Type} [DecidableEq α] (cx : Ctx α) (htriv : ∀ s, cx.ends s = List.range' 1 s.length)
    (hsp : cx.isSpace cx.sp = true)
    (hhy : cx.isSpace cx.hy = false)
    (ed : Editor α)
    (pos : Int)
    (l r : List α)
    (gap width : Int)
    (pct : Pct)
    (o : Options α)
    (hne : ¬(l.isEmpty ∧ r.isEmpty))
    (hg : 0 ≤ gap) :
    ∃ (leftW rightW : Int) (ls : List (List α)), 2 ≤ leftW ∧ 2 ≤ rightW ∧
      leftW + gap + rightW = max width (gap + 4) ∧
      ed.insertTwoColumnsOpts cx pos l r gap width pct o =
        ed.insert cx pos (Block.mk ls (o.withDefaults cx).lineSep (!(o.withDefaults cx).noTrailing)).join ∧
      (ls.map (List.take (leftW + gap).toNat)).flatMap (words (toks cx)) =
        units (toks cx) leftW.toNat (replaceAll' cx l (o.withDefaults cx).lineSep) ∧
      (ls.map (List.drop (leftW + gap).toNat)).flatMap (words (toks cx)) =
        units (toks cx) rightW.toNat (replaceAll' cx r (o.withDefaults cx).lineSep) ∧
      (HyOK (toks cx) leftW.toNat (replaceAll' cx l (o.withDefaults cx).lineSep) →
        dehyphen (toks cx) leftW.toNat (ls.map (List.take (leftW + gap).toNat)) =
          words (toks cx) (replaceAll' cx l (o.withDefaults cx).lineSep)) ∧
      (HyOK (toks cx) rightW.toNat (replaceAll' cx r (o.withDefaults cx).lineSep) →
        dehyphen (toks cx) rightW.toNat (ls.map (List.drop (leftW + gap).toNat)) =
          words (toks cx) (replaceAll' cx r (o.withDefaults cx).lineSep)) := by
  obtain ⟨L, R, ls, hL, hR, hsum, heq, hlen, _, hline⟩ :=
    insertTwoColumnsOpts_triv_width cx htriv hsp ed pos l r gap width pct o hne hg
  have hu := juxt_units (toks cx) (lw := L.toNat) (rw := R.toNat) (by omega) (by omega) hsp hhy
    (L + gap).toNat (by omega) (replaceAll' cx l (o.withDefaults cx).lineSep)
    (replaceAll' cx r (o.withDefaults cx).lineSep) ls hlen (fun i hi => (hline i hi).1)
  refine ⟨L, R, ls, hL, hR, hsum, heq, hu.1, hu.2, ?_, ?_⟩
  · intro h
    unfold dehyphen
    rw [hu.1, Spec.rejoin_units (toks cx) (by omega) _ h]
  · intro h
    unfold dehyphen
    rw [hu.2, Spec.rejoin_units (toks cx) (by omega) _ h]

end RosedVerif.Props
