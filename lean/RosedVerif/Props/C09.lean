/-
C09 — Insert, Delete and Overtype edit exactly the addressed clusters.
-/
import RosedVerif.Model.InstAFacts
import RosedVerif.Model.BridgeEdit
namespace RosedVerif.Props
open RosedVerif

/-- Insert yields clusters[0:p] + new + clusters[p:] for every integer p -/
theorem C09_insert (ed : Editor Int) (p : Int) (x : List Int) :
    ed.insert cxA p x = .ok (ed.withText (Spec.insert cxA ed.text p x)) :=
  Editor.insert_eq_spec cxA_WF.1 ed (cxA_WF.pos _) p x

/-- Delete yields clusters[0:s] + clusters[e:] for every pair of integers -/
theorem C09_delete (ed : Editor Int) (s e : Int) :
    ed.delete cxA s e = .ok (ed.withText (Spec.delete cxA ed.text s e)) :=
  Editor.delete_eq_spec cxA_WF ed s e

/-- Overtype yields clusters[0:p] + new + clusters[min(p + len(new), n):].  The only proviso is that
the 64-bit sum p + len(new) does not wrap, i.e. the two texts together have fewer than 2^63 clusters. -/
theorem C09_overtype (ed : Editor Int) (p : Int) (x : List Int)
    (hno : (gLen cxA ed.text : Int) + (gLen cxA x : Int) < 2 ^ 63) :
    ed.overtype cxA p x = .ok (ed.withText (Spec.overtype cxA ed.text p x)) :=
  Editor.overtype_eq_spec cxA_WF ed p x hno

/-- deleting what was just inserted restores the text, whenever the insertion creates no junction
effect (the inserted clusters stay what they are next to their new neighbours) -/
theorem C09_roundtrip (t : List Int) (p : Int) (x : List Int)
    (h : clusters cxA (Spec.insert cxA t p x) =
      (clusters cxA t).take (Spec.posNat cxA t p) ++ clusters cxA x ++
        (clusters cxA t).drop (Spec.posNat cxA t p)) :
    Spec.delete cxA (Spec.insert cxA t p x) (Spec.posNat cxA t p : Nat)
      ((Spec.posNat cxA t p + (clusters cxA x).length : Nat) : Int) = t :=
  Spec.delete_insert_wf cxA_WF t p x h

/-! non-vacuity: the inputs of findings D2 (`Delete(-2, 1)`) and D3 (`Overtype(-3, "wxyz")`) of
DESIGN.md §12.4 -/
example : Spec.delete cxA [0x61, 0x62, 0x63, 0x64, 0x65, 0x66] (-2) 1 = [0x61, 0x62, 0x63, 0x64, 0x65, 0x66] := by
  decide +kernel
example : Spec.overtype cxA [0x61, 0x62, 0x63, 0x64, 0x65, 0x66] (-3) [0x77, 0x78, 0x79, 0x7a] =
    [0x61, 0x62, 0x63, 0x77, 0x78, 0x79, 0x7a] := by decide +kernel

/-- on code points over a stable vocabulary Insert has NO junction effect: the clusters of the result are clusters[0:p] ++ new ++ clusters[p:] (so the hypothesis of `C09_roundtrip` holds) -/
theorem C09_insert_code_points {V : List (List Int)} (hV : VocabStable V = true)
    (toks ins : List (List Int))
    (ht : ∀ t ∈ toks, t ∈ V)
    (hi : ∀ t ∈ ins, t ∈ V)
    (p : Int) :
    clusters cxA (Spec.insert cxA toks.flatten p ins.flatten) =
      toks.take (Spec.posNat cxA toks.flatten p) ++ ins ++
        toks.drop (Spec.posNat cxA toks.flatten p) :=
  insert_clusters_stable hV toks ins ht hi p

/-- deleting what was just inserted restores the text, for the model on code points with the real segmentation, any editor (root or sub-editor) whose text and the inserted text are over a stable vocabulary, every integer position -/
theorem C09_roundtrip_code_points {V : List (List Int)} (hV : VocabStable V = true)
    (ed : Editor Int)
    (toks ins : List (List Int))
    (hed : ed.text = toks.flatten)
    (ht : ∀ t ∈ toks, t ∈ V)
    (hi : ∀ t ∈ ins, t ∈ V)
    (p : Int) :
    (ed.insert cxA p ins.flatten >>= fun e =>
        e.delete cxA (Spec.posNat cxA toks.flatten p : Nat)
          ((Spec.posNat cxA toks.flatten p + ins.length : Nat) : Int)) = .ok ed :=
  editor_delete_insert_stable_gen hV ed toks ins hed ht hi p

/-- Overtype on code points over a stable vocabulary: the clusters of the result are clusters[0:p] ++ new ++ clusters[min(p+len(new), n):] -/
theorem C09_overtype_code_points {V : List (List Int)} (hV : VocabStable V = true)
    (toks ins : List (List Int))
    (ht : ∀ t ∈ toks, t ∈ V)
    (hi : ∀ t ∈ ins, t ∈ V)
    (p : Int) :
    clusters cxA (Spec.overtype cxA toks.flatten p ins.flatten) =
      toks.take (Spec.posNat cxA toks.flatten p) ++ ins ++
        toks.drop (min (Spec.posNat cxA toks.flatten p + ins.length) toks.length) :=
  overtype_clusters_stable hV toks ins ht hi p

end RosedVerif.Props
