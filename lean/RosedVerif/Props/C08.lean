/-
C08 — Editors are immutable values; operations are deterministic.
In the functional model immutability and determinism hold by construction (operations are functions
from values to values); it is stated as the specification the POOL refinement check compares the real
code against.  What carries content here are (a) the frame facts regenerated from the typed source —
no function of package rosed assigns through a pointer, all its methods have value receivers — and
(b) the layer-H theorem that the only shared mutable state (gem.String cache cells) never changes an
observable of any existing value.
-/
import RosedVerif.Gen.Facts
import RosedVerif.Model.EditorHistories
namespace RosedVerif.Props
open RosedVerif

/-- the pool machine: a step appends its result and leaves every earlier member as it was -/
def poolStep {σ : Type} (pool : List σ) (op : List σ → σ) : List σ := pool ++ [op pool]

theorem C08_pool_frame {σ : Type} (pool : List σ) (ops : List (List σ → σ)) (i : Nat) (hi : i < pool.length) :
    (ops.foldl poolStep pool)[i]? = pool[i]? := by
  induction ops generalizing pool with
  | nil => rfl
  | cons op rest ih =>
    have : (poolStep pool op)[i]? = pool[i]? := by
      unfold poolStep; rw [List.getElem?_append_left hi]
    rw [List.foldl_cons, ih (poolStep pool op) (by unfold poolStep; simp; omega), this]

/-- all receivers in package rosed and gem are value receivers -/
theorem C08_value_receivers :
    (Gen.pointerReceiverMethods.filter fun m => m.1 == "rosed" || m.1 == "gem") = [] := by decide +kernel

/-- no function of package rosed writes through a pointer or into a caller-visible slice element -/
theorem C08_rosed_writes_nothing :
    (Gen.heapWrites.filter fun w => w.1 == "rosed") = [] := by decide +kernel

/-- determinism of `Commit` in the form the pool refinement check compares the real code against.
In the model `Editor.commit` is a function of the sub-editor value (a new parent value is built, the
stored one only read), so the statement holds of any term -/
theorem C08_commit_deterministic (e : Editor Int) : ∀ r₁ r₂, e.commit cxA = r₁ → e.commit cxA = r₂ → r₁ = r₂ :=
  fun _ _ h₁ h₂ => h₁ ▸ h₂

/-- shared cache cells never change what an existing value reports (C19's frame theorem) -/
theorem C08_cache_frame (k : H.Call) (h : H.Heap) (c : Nat) (x : List Nat) (hx : h.get c = some x) :
    (k.run h).1.get c = some x := H.frame k h c x hx

/-- one more call — any operation, any arguments, failing or not — leaves the pool of previously
obtained Editors a prefix of the new pool: same values at the same indexes -/
theorem C08_pool_prefix (ops : List (EdOp Int)) (op : EdOp Int) :
    runEd cxA ops <+: runEd cxA (ops ++ [op]) := runEd_prefix_snoc ops op

/-- … and so does any sequence of calls -/
theorem C08_pool_prefix_any (ops more : List (EdOp Int)) :
    runEd cxA ops <+: runEd cxA (ops ++ more) := runEd_prefix ops more

/-- every previously obtained Editor still reports the same text, options, counts, `String()`,
`Commit()` and ancestors as when it was obtained -/
theorem C08_pool_observables (ops more : List (EdOp Int)) (i : Nat) (ed : Editor Int)
    (h : (runEd cxA ops)[i]? = some ed) :
    ∃ ed', (runEd cxA (ops ++ more))[i]? = some ed' ∧ ed'.text = ed.text ∧ ed'.opts = ed.opts ∧
      ed'.charCount cxA = ed.charCount cxA ∧ ed'.lineCount cxA = ed.lineCount cxA ∧
      ed'.string cxA = ed.string cxA ∧ ed'.commit cxA = ed.commit cxA ∧ ed'.ancestry = ed.ancestry :=
  runEd_observables ops more i ed h

/-- the program semantics is a function: same pool, same call, same result -/
theorem C08_step_deterministic (pool : List (Editor Int)) (op : EdOp Int) :
    ∀ p₁ p₂, stepEd cxA pool op = p₁ → stepEd cxA pool op = p₂ → p₁ = p₂ :=
  stepEd_deterministic pool op

/-- a text-changing operation returns its receiver with another text: options, parent snapshot,
byte range and the whole ancestor chain are the receiver's -/
theorem C08_ancestors_untouched (pool : List (Editor Int)) (op : EdOp Int) (i : Nat) (r : Editor Int)
    (hop : op.textChange = some i) (h : evalEd cxA pool op = some r) :
    ∃ ed, pool[i]? = some ed ∧ ed.SameBut r ∧ r.opts = ed.opts ∧ r.link = ed.link ∧
      r.ancestry = ed.ancestry := evalEd_textChange hop h

/-- `WithOptions` changes the options and nothing else -/
theorem C08_withOptions_untouched (pool : List (Editor Int)) (i : Nat) (o : Options Int)
    (r : Editor Int) (h : evalEd cxA pool (.withOptions i o) = some r) :
    ∃ ed, pool[i]? = some ed ∧ r = ed.withOpts o ∧ r.text = ed.text ∧ r.opts = o ∧
      r.link = ed.link ∧ r.ancestry = ed.ancestry := evalEd_withOptions h

end RosedVerif.Props
