/-
C18 — Every public operation is total: no panics, terminates, valid UTF-8 out.
In the model Go panics are `Except.error` values and every loop is structural or carries fuel, so
"returns normally" is `∃ r, op … = .ok r`; termination of the model functions is accepted by Lean's
termination checker (fuel exhaustion would be the error `.fuel`, excluded by these theorems); a
result is a list of code points, i.e. valid UTF-8, and sub-editor byte offsets are proved to lie on
code-point boundaries (`CutAtAtoms`).  Instance A: real segmentation (`cxA_Sane` from the finite-state
theory).
-/
import RosedVerif.Model.InstAFacts
import RosedVerif.Model.LinesLemmas
import RosedVerif.Model.Totality2
import RosedVerif.Model.WrapFits
namespace RosedVerif.Props
open RosedVerif

theorem C18_collapseSpace (text sep : List Int) : ∃ r, collapseSpace cxA text sep = .ok r :=
  collapseSpace_total cxA_Sane text sep
theorem C18_wrapLines (text : List Int) (w : Int) (sep : List Int) : ∃ r, wrapLines cxA text w sep = .ok r :=
  wrapLines_total cxA_Sane text w sep
theorem C18_justifyLine (text : List Int) (w : Int) : ∃ r, justifyLine cxA text w = .ok r :=
  justifyLine_total cxA_Sane text w
theorem C18_combineColumns (l r : List (List Int)) (gap : Int) (hg : 0 ≤ gap) :
    ∃ x, combineColumns cxA l r gap = .ok x := combineColumns_total cxA l r gap hg

theorem C18_chars (ed : Editor Int) (s e : Int) : ∃ r, ed.chars cxA s e = .ok r ∧ ed.CutAtAtoms cxA r :=
  chars_total' cxA_Sane ed s e
theorem C18_lines (ed : Editor Int) (s e : Int) : ∃ r, ed.linesSel cxA s e = .ok r ∧ ed.CutAtAtoms cxA r :=
  linesSel_total' cxA_Sane ed s e
theorem C18_commit (ed r : Editor Int) (h : ed.CutAtAtoms cxA r) (t : List Int) (o : Options Int) :
    ∃ r', ((r.withText t).withOpts o).commit cxA = .ok r' := commit_total_of_cut cxA_Sane ed r h t o
theorem C18_insert (ed : Editor Int) (p : Int) (t : List Int) : ∃ r, ed.insert cxA p t = .ok r :=
  insert_total cxA_Sane ed p t
theorem C18_delete (ed : Editor Int) (s e : Int) : ∃ r, ed.delete cxA s e = .ok r := delete_total cxA_Sane ed s e
theorem C18_overtype (ed : Editor Int) (p : Int) (t : List Int) : ∃ r, ed.overtype cxA p t = .ok r :=
  overtype_total cxA_Sane ed p t
theorem C18_collapseSpaceOpts (ed : Editor Int) (o : Options Int) : ∃ r, ed.collapseSpaceOpts cxA o = .ok r :=
  collapseSpaceOpts_total cxA_Sane ed o
theorem C18_insertTable (ed : Editor Int) (p : Int) (d : List (List (List Int))) (w : Int) (o : Options Int) :
    ∃ r, ed.insertTableOpts cxA p d w o = .ok r := insertTableOpts_total cxA_Sane ed p d w o
theorem C18_apply (ed : Editor Int) (f : Nat → List Int → List (List Int)) (o : Options Int) :
    ∃ r, ed.applyOpts cxA f o = .ok r := ⟨_, applyOpts_eq_spec cxA ed f o⟩

/-! the public layout operations, every argument tuple, every option combination -/
theorem C18_wrapOpts (ed : Editor Int) (w : Int) (o : Options Int) : ∃ r, ed.wrapOpts cxA w o = .ok r :=
  wrapOpts_total cxA_Sane ed w o
theorem C18_justifyOpts (ed : Editor Int) (w : Int) (o : Options Int) : ∃ r, ed.justifyOpts cxA w o = .ok r :=
  justifyOpts_total cxA_Sane ed w o
/-- AlignOpts, paragraph mode included (an empty paragraph there is the input of finding D5) -/
theorem C18_alignOpts (ed : Editor Int) (al w : Int) (o : Options Int) : ∃ r, ed.alignOpts cxA al w o = .ok r :=
  alignOpts_total ed al w o
theorem C18_indentOpts (ed : Editor Int) (lv : Int) (o : Options Int) : ∃ r, ed.indentOpts cxA lv o = .ok r :=
  indentOpts_total ed lv o
theorem C18_insertDefTable (ed : Editor Int) (p : Int) (d : List (List Int × List Int)) (w : Int)
    (o : Options Int) : ∃ r, ed.insertDefTableOpts cxA p d w o = .ok r :=
  insertDefTableOpts_total cxA_Sane ed p d w o
theorem C18_applyParas (ed : Editor Int) (op : Nat → List Int → List Int → List Int → R (List (List Int)))
    (o : Options Int) (hop : ∀ i p a b, ∃ r, op i p a b = .ok r) : ∃ r, ed.applyParasM cxA op o = .ok r :=
  applyParasM_total ed op o hop

/-- String / CommitAll on sub-editors of any nesting depth obtained by Chars* / Lines* (and edited
in between): every link of the parent chain is cut on code-point boundaries (`WellCut`) -/
theorem C18_string (ed : Editor Int) (h : ed.WellCut cxA) : ∃ s, ed.string cxA = .ok s := string_total cxA_Sane h
theorem C18_chars_wellCut {ed r : Editor Int} (h : ed.WellCut cxA) (s e : Int) (hr : ed.chars cxA s e = .ok r) :
    r.WellCut cxA := chars_wellCut cxA_Sane h s e hr
theorem C18_lines_wellCut {ed r : Editor Int} (h : ed.WellCut cxA) (s e : Int) (hr : ed.linesSel cxA s e = .ok r) :
    r.WellCut cxA := linesSel_wellCut cxA_Sane h s e hr

/-- the explicit panic of InsertTwoColumnsOpts is unreachable for EVERY percentage, width and gap
(both columns are at least 2 wide); the only other failure the model admits is a negative
`strings.Repeat` count, excluded when wrapped lines fit their width -/
theorem C18_twoColumns_no_explicit_panic (ed : Editor Int) (p : Int) (l r : List Int) (g w : Int) (pct : Pct)
    (o : Options Int) : ed.insertTwoColumnsOpts cxA p l r g w pct o ≠ .error .explicit :=
  insertTwoColumnsOpts_ne_explicit cxA_Sane ed p l r g w pct o

theorem C18_twoColumns_partial (ed : Editor Int) (p : Int) (l r : List Int) (g w : Int) (pct : Pct)
    (o : Options Int) :
    (∃ x, ed.insertTwoColumnsOpts cxA p l r g w pct o = .ok x) ∨
      ed.insertTwoColumnsOpts cxA p l r g w pct o = .error .repeatNeg :=
  insertTwoColumnsOpts_ok_or cxA_Sane ed p l r g w pct o

/-- InsertTwoColumnsOpts is total on arbitrary code-point texts for EVERY minimum distance, every width, every
percentage, every position, every option combination.  The code takes a negative distance as 0; without that
clamp it reaches `strings.Repeat` as a negative count (finding D17). -/
theorem C18_twoColumns (ed : Editor Int) (p : Int) (l r : List Int) (g w : Int) (pct : Pct) (o : Options Int) :
    ∃ x, ed.insertTwoColumnsOpts cxA p l r g w pct o = .ok x :=
  insertTwoColumnsOpts_total_A_any ed p l r g w pct o

/-- at cluster level (one token per cluster) two-column layout is total outright -/
theorem C18_twoColumns_clusters {α : Type} [DecidableEq α] (cx : Ctx α)
    (htriv : ∀ s, cx.ends s = List.range' 1 s.length) (hb : ∀ a, 0 < cx.blen a) (ed : Editor α) (p : Int)
    (l r : List α) (g w : Int) (pct : Pct) (o : Options α) (hg : 0 ≤ g) :
    ∃ x, ed.insertTwoColumnsOpts cx p l r g w pct o = .ok x :=
  insertTwoColumnsOpts_total_triv cx htriv hb ed p l r g w pct o

/-! ### A negative width pads nothing, exactly like 0 (finding D20)

`AlignLineLeft/Right/Center` and `MakeTable` (and the model, `Model/Manip.lean`, `Model/Table.lean`) clamp a
negative width to 0 before they compute `width - len`, so that every subtraction is `w' - len` with `0 ≤ w'` and
`0 ≤ len`, which cannot leave Go's 64-bit `int` range.  Taken on the raw width, the difference wraps around to a
huge positive number for a width within `len` of `math.MinInt`, and `gem.RepeatStr` / the distribution loop run
practically for ever: that is finding D20.  The theorems below say that the clamp changes no result
(`…Core_clamp`: the unclamped ideal-integer functions agree with the clamped ones), i.e. every negative width
behaves as 0. -/

theorem C18_align_negative_width_is_zero {α : Type} (cx : Ctx α) (t : List α) (w : Int) (hw : w < 0) :
    alignLeft cx t w = alignLeft cx t 0 ∧ alignRight cx t w = alignRight cx t 0 ∧
      alignCenter cx t w = alignCenter cx t 0 := by
  unfold alignLeft alignRight alignCenter
  rw [if_pos hw, if_neg (by decide)]
  exact ⟨rfl, rfl, rfl⟩

theorem C18_makeTable_negative_width_is_zero {α : Type} (cx : Ctx α) (d : List (List (List α))) (w : Int)
    (hdr brd : Bool) (cs : List α) (hw : w < 0) :
    makeTable cx d w hdr brd cs = makeTable cx d 0 hdr brd cs := by
  unfold makeTable
  rw [if_pos hw, if_neg (by decide)]

/-- the same for InsertDefinitionsTableOpts (finding D21: on the raw width `width - leftWidth - minBetween` wraps
around and the definitions are not wrapped at all): every negative width behaves as 0 … -/
theorem C18_defTable_negative_width_is_zero {α : Type} [DecidableEq α] (cx : Ctx α) (ed : Editor α) (p : Int)
    (defs : List (List α × List α)) (w : Int) (o : Options α) (hw : w < 0) :
    ed.insertDefTableOpts cx p defs w o = ed.insertDefTableOpts cx p defs 0 o := by
  unfold Editor.insertDefTableOpts
  rw [if_pos hw, if_neg (by decide)]

/-- … and on ideal integers the unclamped function gives the same result (Wrap takes every width
below 2 as 2) -/
theorem C18_defTable_clamp_conservative {α : Type} [DecidableEq α] (cx : Ctx α) (ed : Editor α) (p : Int)
    (defs : List (List α × List α)) (w : Int) (o : Options α) :
    ed.insertDefTableOpts cx p defs w o = ed.insertDefTableOptsCore cx p defs w o :=
  Editor.insertDefTableOptsCore_clamp cx ed p defs w o

/-- the clamp is not a change of behaviour where nothing overflows: on ideal integers the unclamped
functions give the same results -/
theorem C18_align_clamp_conservative {α : Type} (cx : Ctx α) (t : List α) (w : Int) :
    alignLeft cx t w = alignLeftCore cx t w ∧ alignRight cx t w = alignRightCore cx t w ∧
      alignCenter cx t w = alignCenterCore cx t w :=
  ⟨alignLeftCore_clamp cx t w, alignRightCore_clamp cx t w, alignCenterCore_clamp cx t w⟩

theorem C18_makeTable_clamp_conservative {α : Type} (cx : Ctx α) (d : List (List (List α))) (w : Int)
    (hdr brd : Bool) (cs : List α) : makeTable cx d w hdr brd cs = makeTableCore cx d w hdr brd cs :=
  makeTableCore_clamp cx d w hdr brd cs

/-- "  one" aligned to the width `math.MinInt` (and `math.MinInt + 3`, the width at which `width - len` on the
raw width wraps around to `math.MaxInt`) -/
example : alignLeft cxA [0x20, 0x20, 0x6f, 0x6e, 0x65] (-9223372036854775808) = [0x6f, 0x6e, 0x65] ∧
    alignRight cxA [0x6f, 0x6e, 0x65, 0x20] (-9223372036854775806) = [0x6f, 0x6e, 0x65] ∧
    alignCenter cxA [0x20, 0x6f, 0x6e, 0x65, 0x20] (-9223372036854775805) = [0x6f, 0x6e, 0x65] := by decide
/-- the table of the D20 witness: [[a, b], [c, d]] at the width `math.MinInt` -/
example : makeTable cxA [[[0x61], [0x62]], [[0x63], [0x64]]] (-9223372036854775808) false false [] =
    [[0x61, 0x20, 0x20, 0x62], [0x63, 0x20, 0x20, 0x64]] := by decide

/-! non-vacuity: the input of finding D5, an empty paragraph in paragraph mode -/
example : ∃ r, (Editor.root ([] : List Int) {}).alignOpts cxA 1 8 { preservePara := true } = .ok r := ⟨_, rfl⟩

end RosedVerif.Props
