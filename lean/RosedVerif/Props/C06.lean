/-
C06 — Wrap: no line exceeds the width; breaking is greedy and stable.

Layer B: a text is a list of tokens, one per grapheme cluster (`tk.ws` marks whitespace).  Clauses (1)-(5) are
proved for the greedy-wrap specification `Spec.wrapLines`, for every token type.  The model of manip.Wrap (the
transliterated Go loops with their fuel) is that specification whenever every atom is its own cluster
(`C06_refines`).  On code points with the real segmentation the width bound holds for every text
(`C06_width_all`), and on a stable vocabulary the run on code points is the flattening of the run on clusters
(`C06_code_points`, `C06_wrap_default_code_points`, `C06_wrapOpts_code_points`), which carries the other clauses
over.  Clauses (6) and (5) for the public `Editor.wrapOpts` are `C06_trailing_separator` and
`C06_wrapOpts_idempotent_code_points`.  The model functions are tied to the Go source by `Model/GenEq/Collapse`,
`Wrap`, `WrapOpts`; ./check C06 compares real outputs with `Spec.wrapLines` on stable vocabularies.
-/
import RosedVerif.Spec.WrapLemmas
import RosedVerif.Model.WrapRefine
import RosedVerif.Model.WrapFits
import RosedVerif.Model.BridgeWrap
import RosedVerif.Model.BridgeOps
import RosedVerif.Model.OpsStructure
import RosedVerif.Model.NoLossOps
import RosedVerif.Model.BridgeEditorOps
namespace RosedVerif.Props
open RosedVerif RosedVerif.Spec

variable {α : Type} (tk : Toks α)

/-- (1) after wrapping to width w ≥ 2 every line holds at most w clusters -/
theorem C06_width {w : Nat} (hw : 2 ≤ w) (l : List α) : ∀ line ∈ Spec.wrapLines tk w l, line.length ≤ w :=
  wrapLines_width tk hw l

/-- (2) no line is empty when the text has any word -/
theorem C06_no_empty_line {w : Nat} (hw : 2 ≤ w) (l : List α) (h : words tk l ≠ []) :
    ∀ line ∈ Spec.wrapLines tk w l, line ≠ [] := wrapLines_nonempty tk hw l h

/-- (2,3) the lines are an ordered partition of the units (words, or pieces of over-long words), each
line being its units joined by exactly ONE space — so no line starts or ends with a space —, and
breaking is greedy: the first unit of a line would not have fitted on the previous line -/
theorem C06_greedy {w : Nat} (hw : 2 ≤ w) (l : List α) (h : l ≠ []) :
    ∃ groups : List (List (List α)), groups.flatten = units tk w l ∧ (∀ g ∈ groups, g ≠ []) ∧
      Spec.wrapLines tk w l = groups.map (joinSp tk) ∧ Greedy tk w groups ∧
      (∀ g ∈ groups, (joinSp tk g).length ≤ w) := wrapLines_partition tk hw l h

/-- (4) a word is split only when it is longer than w … -/
theorem C06_split_only_long {w : Nat} (word : List α) (f : Nat) (h : word.length ≤ w) :
    pieces tk w f word = [word] := pieces_single tk word f h

/-- … every non-final piece is exactly w-1 clusters plus a hyphen, and removing those hyphens gives
back the word -/
theorem C06_piece_shape {w : Nat} (hw : 2 ≤ w) (word : List α) (f : Nat) (hf : word.length ≤ f) :
    ∀ p ∈ (pieces tk w f word).dropLast, p.length = w ∧ p.getLast? = some tk.hy :=
  pieces_shape tk hw word f hf

theorem C06_unhyphen {w : Nat} (hw : 2 ≤ w) (word : List α) (f : Nat) (hf : word.length ≤ f) :
    unhyphen (pieces tk w f word) = word := pieces_unhyphen tk hw word f hf

/-- (5) wrapping already wrapped text (lines rejoined by a separator, which acts as a space) to the
same width changes nothing -/
theorem C06_idempotent {w : Nat} (hw : 2 ≤ w) (hsp : tk.ws tk.sp = true) (hhy : tk.ws tk.hy = false)
    (l : List α) (h : words tk l ≠ []) :
    Spec.wrapLines tk w (List.intercalate [tk.sp] (Spec.wrapLines tk w l)) = Spec.wrapLines tk w l :=
  wrapLines_idem tk hw hsp hhy l h

/-- **refinement**: for every context in which each atom is its own cluster, the model of manip.Wrap
(CollapseSpace + the character loop + appendWordToWrappedLine, all widths incl. the clamp to 2, all
separators) computes exactly the specification above -/
theorem C06_refines [DecidableEq α] (cx : Ctx α) (htriv : ∀ s, cx.ends s = List.range' 1 s.length)
    (hsp : cx.isSpace cx.sp = true) (text : List α) (w : Int) (sep : List α) :
    RosedVerif.wrapLines cx text w sep =
      .ok (Spec.wrapLines ⟨cx.isSpace, cx.sp, cx.hy⟩ (max w 2).toNat (replaceAll' cx text sep)) :=
  wrapLines_triv cx htriv hsp text w sep

/-- **(1) for ALL texts**: on arbitrary code points — lone marks, Prepend characters, odd flag halves,
any whitespace — with the real segmentation, no line produced by the model of manip.Wrap exceeds the
(clamped) width.  Uses sub-additivity of the cluster count, `len (a ++ b) ≤ len a + len b`, itself
proved from the finite-state form of the rule chain. -/
theorem C06_width_all (text : List Int) (w : Int) (sep : List Int) (r : List (List Int))
    (h : RosedVerif.wrapLines cxA text w sep = .ok r) : ∀ l ∈ r, (gLen cxA l : Int) ≤ max w 2 :=
  wrapLines_width_all text w sep r h

theorem C06_subadditive (a b : List Int) :
    (splitRunes (a ++ b)).length ≤ (splitRunes a).length + (splitRunes b).length :=
  splitRunes_length_append_le a b

/-- **bridge to code points**: on a stable vocabulary `V` (decidable: every concatenation of
vocabulary clusters segments back into those clusters, `VocabStable`), containing the space and the
hyphen and with no U+0020 hidden in a non-head position of a cluster, the model of manip.Wrap run
on CODE POINTS with the real UAX #29 segmentation succeeds, and segmenting its lines gives back
exactly the greedy specification on clusters.  Hence every clause above (width, single spaces,
greedy, hyphenation shape, idempotence) holds for such code-point text — precomposed or
decomposed accents, flags, ZWJ sequences, jamo alike. -/
theorem C06_code_points {V : List (List Int)} (hV : VocabStable V = true) (hsp : [0x20] ∈ V)
    (hhy : [0x2D] ∈ V) (hspTail : ∀ t ∈ V, (0x20 : Int) ∉ t.tail)
    (toks : List (List Int)) (ht : ∀ t ∈ toks, t ∈ V) (w : Int) :
    ∃ r, RosedVerif.wrapLines cxA toks.flatten w [] = .ok r ∧
      r.map (clusters cxA) = Spec.wrapLines ⟨cxB.isSpace, cxB.sp, cxB.hy⟩ (max w 2).toNat toks ∧
      r.map (gLen cxA) =
        (Spec.wrapLines ⟨cxB.isSpace, cxB.sp, cxB.hy⟩ (max w 2).toNat toks).map List.length :=
  wrapLines_bridge_clusters hV hsp hhy hspTail toks ht w

/-- the side condition is needed: with the cluster ⟨U+0600 U+0020⟩ (Prepend + space) in the
vocabulary the rune-level space collapsing merges a space INSIDE a cluster with the next one -/
theorem C06_code_points_needs_spTail :
    VocabStable [[0x61], [0x20], [0x600, 0x20]] = true ∧
    collapseSpace cxA ([[0x600, 0x20], [0x20], [0x61]] : List (List Int)).flatten [] =
      .ok [0x600, 0x20, 0x61] := by
  exact ⟨BridgeWrap.spTail_needed.1, BridgeWrap.spTail_needed.2.1⟩

/-- non-vacuity of the bridge: a vocabulary with a decomposed accent, a flag and a tab -/
example : VocabStable BridgeWrap.demoVocab2 = true ∧ [0x20] ∈ BridgeWrap.demoVocab2 ∧
    [0x2D] ∈ BridgeWrap.demoVocab2 ∧ ∀ t ∈ BridgeWrap.demoVocab2, (0x20 : Int) ∉ t.tail :=
  ⟨BridgeWrap.demoVocab2_stable, by decide, by decide, BridgeWrap.demoVocab2_spTail⟩

/-- **the public operation on code points**: `Edit(text).Wrap(w)` with default options, `text` any
concatenation of clusters of a stable vocabulary (space, hyphen included; U+0020 and U+000A in no
other cluster) that is empty or has a non-whitespace cluster.  The model of Editor.WrapOpts — line
separator pre-pass, CollapseSpace, the wrap loop, Block.Join, trailing-separator rule — run on
the CODE POINTS with the real segmentation returns a text whose lines (split at U+000A), each
re-segmented, are exactly the greedy specification's lines on the clusters, followed by one empty
line exactly when the input ended with the separator ("ends with a line separator exactly when
the input did"). -/
theorem C06_wrap_default_code_points {V : List (List Int)} (hV : VocabStable V = true)
    (hsp : [0x20] ∈ V) (hhy : [0x2D] ∈ V)
    (hspTail : ∀ t ∈ V, (0x20 : Int) ∉ t.tail) (hnl : ∀ t ∈ V, (0x0A : Int) ∈ t → t = [0x0A])
    (toks : List (List Int)) (ht : ∀ t ∈ toks, t ∈ V) (w : Int)
    (hne : toks = [] ∨ ∃ t ∈ toks, cxB.isSpace t = false) :
    ∃ e, Editor.wrapOpts cxA (.root toks.flatten {}) w {} = .ok e ∧
      (splitOn e.text [0x0A]).map (clusters cxA) =
        Spec.wrapLines ⟨cxB.isSpace, cxB.sp, cxB.hy⟩ (max w 2).toNat
            (replaceAll' cxB toks [[0x0A]]) ++
          (if ([[0x0A]] : List (List Int)).isSuffixOf toks then [[]] else []) :=
  wrapOpts_default_bridge_lines' hV hsp hhy hspTail hnl toks ht w hne

/-- the same bridge for ANY options in non-paragraph mode and any editor (sub-editors included),
as an equation between the two instances of the model: the code-point run is the flattening of
the cluster run.  `GoodSep` (decidable-in-practice side condition on the line separator: single
rune, single multi-rune cluster such as CR LF, or a list of marker clusters such as "\n\n") says
the separator cannot be found across cluster boundaries. -/
theorem C06_wrapOpts_code_points {V : List (List Int)} (hV : VocabStable V = true) (hsp : [0x20] ∈ V)
    (hspTail : ∀ t ∈ V, (0x20 : Int) ∉ t.tail)
    (ed : Editor (List Int)) (ht : ∀ t ∈ ed.text, t ∈ V) (w : Int) (o' : Options (List Int))
    (hpp : o'.preservePara = false) (hS : BridgeOps.GoodSep V (o'.withDefaults cxB).lineSep) :
    Editor.wrapOpts cxA ed.flat w o'.flat = (Editor.wrapOpts cxB ed w o').map Editor.flat :=
  BridgeOps.wrapOpts_bridge_good hV hsp hspTail ed ht w o' hpp hS

/-! non-vacuity -/
example : Spec.wrapLines ⟨(· == 0), 0, 99⟩ 5 [1, 2, 3, 0, 4, 5, 6, 7, 8, 9, 0, 1] =
    [[1, 2, 3], [4, 5, 6, 7, 99], [8, 9, 0, 1]] := by decide

open RosedVerif.OpsStructure

/-- (6) the public operation, any well-formed context (so: arbitrary code points with the real segmentation,
`cxA_Sane`), any editor, non-paragraph mode: the result is the wrapped lines joined by the line separator, plus
ONE more separator exactly when the input ended with one — "the result ends with a line separator exactly when
the input did" (up to a last wrapped line that itself spells the separator, e.g. separator "-" and a hyphenated
break) -/
theorem C06_trailing_separator {α : Type} [DecidableEq α] (cx : Ctx α) (hs : cx.Sane)
    (ed : Editor α)
    (width : Int)
    (o : Options α)
    (hpp : (o.withDefaults cx).preservePara = false) :
    ∃ lines', wrapLines cx ed.text (max width 2) (o.withDefaults cx).lineSep = .ok lines' ∧
      ed.wrapOpts cx width o =
        .ok (ed.withText (joinWith (o.withDefaults cx).lineSep lines' ++
          (if (o.withDefaults cx).lineSep.isSuffixOf ed.text then (o.withDefaults cx).lineSep
           else []))) :=
  wrapOpts_structure_sane cx hs ed width o hpp

section C06_public
open RosedVerif.NoLossOps RosedVerif.BridgeOps

/-- **(5) at the public level**: wrapping already wrapped text to the same width with the same
options changes nothing — code points over a stable vocabulary with space and hyphen,
non-paragraph mode, any editor, line separator = ONE vocabulary cluster other than the hyphen.
(The trailing-separator clause is `C06_trailing_separator`.) -/
theorem C06_wrapOpts_idempotent_code_points {V : List (List Int)} (hV : VocabStable V = true)
    (hsp : [0x20] ∈ V) (hhy : [0x2D] ∈ V) (hspTail : ∀ t ∈ V, (0x20 : Int) ∉ t.tail)
    (ed : Editor (List Int)) (ht : ∀ t ∈ ed.text, t ∈ V) (w : Int) (o : Options (List Int))
    (hpp : o.preservePara = false) (s : List Int) (hs : (o.withDefaults cxB).lineSep = [s])
    (hsV : s ∈ V) (hshy : s ≠ [0x2D]) (hS : GoodSep V [s]) :
    (Editor.wrapOpts cxA ed.flat w o.flat >>= fun e => Editor.wrapOpts cxA e w o.flat) =
      Editor.wrapOpts cxA ed.flat w o.flat :=
  wrapOpts_idempotent_code_points hV hsp hhy hspTail ed ht w o hpp s hs hsV hshy hS

/-- the separator must not be the hyphen (FINDING, documented caveat of `C06_trailing_separator`):
`"abcd"`, width 3, separator `"-"` → `"ab--cd"` → `"ab-cd"` -/
theorem C06_wrapOpts_idempotent_needs_not_hyphen :
    VocabStable [[0x61], [0x62], [0x63], [0x64], [0x20], [0x2D]] = true ∧
    (Editor.wrapOpts cxA (.root [0x61, 0x62, 0x63, 0x64] {}) 3 { lineSep := [0x2D] }).map
        Editor.text = .ok [0x61, 0x62, 0x2D, 0x2D, 0x63, 0x64] ∧
    (Editor.wrapOpts cxA (.root [0x61, 0x62, 0x63, 0x64] {}) 3 { lineSep := [0x2D] } >>=
      fun e => Editor.wrapOpts cxA e 3 { lineSep := [0x2D] }).map Editor.text =
        .ok [0x61, 0x62, 0x2D, 0x63, 0x64] :=
  wrapOpts_idem_needs_not_hyphen

/-- `[0x2D] ∈ V` restricts no text: the hyphen can be added to every stable vocabulary with the space -/
theorem C06_hyphen_can_be_added {V : List (List Int)} (hV : VocabStable V = true)
    (hsp : [0x20] ∈ V) : VocabStable ([0x2D] :: V) = true :=
  vocabStable_cons_hyphen hV hsp

end C06_public

end RosedVerif.Props
