/-
C11 — Paragraphs are split, transformed independently and rejoined losslessly.

Three groups. `C11_identity` … `C11_homomorphism` describe the paragraph driver itself and are stated
over code points (at `cxA` where a context occurs); the underlying lemmas of ParaLemmas hold for any `Ctx`. The two
`*_code_points_para` theorems are bridge statements: the code-point run is the flattening of the
grapheme-cluster run (`cxB`). `C11_*_paragraphwise` and `C11_*_single` hold for any `Ctx α`.
-/
import RosedVerif.Model.BridgeEditorParas
import RosedVerif.Model.ParaStructure
namespace RosedVerif.Props
open RosedVerif

/-- returning each piece unchanged reproduces the editor exactly — for ALL separator pairs,
including the ambiguous case where paragraph and line separators overlap -/
theorem C11_identity (ed : Editor Int) (o : Options Int) :
    ed.applyParasM cxA (fun _ p _ _ => pure [p]) o = .ok ed := applyParas_id' cxA ed o

/-- the pieces handed to the callback rejoin to the text -/
theorem C11_pieces_rejoin (text : List Int) (o : Options Int) :
    joinWith o.paraSep (paragraphsOf text o) = text := joinWith_paragraphsOf text o

/-- the callback is invoked exactly once per piece — k+1 times for k separators —, in order, with
indexes 0..k, with the documented separator prefix/suffix (none before the first / after the last) -/
theorem C11_calls (ed : Editor Int)
    (op : Nat → List Int → List Int → List Int → R (List (List Int))) (o : Options Int) :
    ed.applyParasM cxA op o =
      ((paraCallsOf ed.text (o.withDefaults cxA)).mapM (fun c => op c.1 c.2.1 c.2.2.1 c.2.2.2) >>=
        fun outs => pure (ed.withText (joinWith (o.withDefaults cxA).paraSep outs.flatten))) :=
  applyParasM_eq_mapM cxA ed op o

theorem C11_call_count (text : List Int) (o : Options Int) :
    (paraCallsOf text o).length = (splitOn text o.paraSep).length := paraCallsOf_length text o

theorem C11_call_indexes (lineSep prevSuffix nextPrefix : List Int) (ambig : Bool) (cur : List Int)
    (rest : List (List Int)) :
    (paraCalls lineSep prevSuffix nextPrefix ambig 0 cur rest).map (·.1) = List.range' 0 (rest.length + 1) :=
  paraCalls_indexes lineSep prevSuffix nextPrefix ambig 0 cur rest

theorem C11_call_affixes (lineSep prevSuffix nextPrefix : List Int) (ambig : Bool) (cur : List Int)
    (rest : List (List Int)) :
    (paraCalls lineSep prevSuffix nextPrefix ambig 0 cur rest).map (·.2.2.1) =
        (List.range' 0 (rest.length + 1)).map (fun i => if i = 0 then [] else nextPrefix) ∧
    (paraCalls lineSep prevSuffix nextPrefix ambig 0 cur rest).map (·.2.2.2) =
        List.replicate rest.length prevSuffix ++ [[]] :=
  ⟨paraCalls_prefixes _ _ _ _ _ _ _, paraCalls_suffixes _ _ _ _ _ _ _⟩

/-- homomorphism skeleton: a per-paragraph operation `f` applied in paragraph mode yields the
separator-join of the per-paragraph results; every paragraph separator stays in place -/
theorem C11_homomorphism (ed : Editor Int) (f : List Int → R (List Int)) (o : Options Int) :
    ed.applyParasM cxA (fun _ p _ _ => do pure [← f p]) o =
      ((paragraphsOf ed.text (o.withDefaults cxA)).mapM f >>=
        fun rs => pure (ed.withText (joinWith (o.withDefaults cxA).paraSep rs))) :=
  applyParasM_single cxA ed f o

/-! non-vacuity: the ambiguous sequence paraSep·lineSep with the default separators -/
example : paragraphsOf [0x61, 0xa, 0xa, 0xa, 0x62] { lineSep := [0xa], paraSep := [0xa, 0xa] } =
    [[0x61, 0xa], [0x62]] := by decide

open RosedVerif.BridgeOps RosedVerif.BridgeEditorOps RosedVerif.BridgeEditorParas RosedVerif.OpsStructure

/-- paragraph mode on code points: WrapOpts with PreserveParagraphs on a text over a stable vocabulary (with space, hyphen and the placeholder `A`), separators that cannot be found across cluster boundaries (`GoodPara`): the code-point run of the model — paragraph splitting with its look-ahead, affix placeholders, per-paragraph wrap, re-join — is the flattening of the cluster run, for any editor.
`hAL` (the letter `A` is not a rune of the line separator): WrapOpts pads a paragraph with stand-ins
for the paragraph separator's affixes — the letter `A`, or another letter (`cxA.placeholder`,
`C07_wrapOpts_para_placeholder_fresh`) when the line separator contains `A` — and the other letter
need not be a cluster of `V`. -/
theorem C11_wrapOpts_code_points_para {V : List (List Int)} (hV : VocabStable V = true)
    (hsp : [0x20] ∈ V)
    (hhy : [0x2D] ∈ V)
    (hA : [0x41] ∈ V)
    (hspTail : ∀ t ∈ V, (0x20 : Int) ∉ t.tail)
    (ed : Editor (List Int))
    (ht : ∀ t ∈ ed.text, t ∈ V)
    (width : Int)
    (o : Options (List Int))
    (hpp : o.preservePara = true)
    (hG : GoodPara V (o.withDefaults cxB).lineSep (o.withDefaults cxB).paraSep)
    (hAL : (0x41 : Int) ∉ ((o.withDefaults cxB).lineSep).flatten) :
    Editor.wrapOpts cxA ed.flat width o.flat = (Editor.wrapOpts cxB ed width o).map Editor.flat :=
  wrapOpts_bridge_para hV hsp hhy hA hspTail ed ht width o hpp hG hAL

/-- the hypotheses are satisfiable: the default separators, any text over `demoVocabA` (ASCII
letters, space, hyphen, tab, a decomposed `é`, a flag, newline, `A`), any editor options -/
example (toks : List (List Int)) (ht : ∀ t ∈ toks, t ∈ demoVocabA) (width : Int)
    (o0 o : Options (List Int)) (hpp : o.preservePara = true) (hl : o.lineSep = [])
    (hp : o.paraSep = []) :
    Editor.wrapOpts cxA (.root toks.flatten o0.flat) width o.flat =
      (Editor.wrapOpts cxB (.root toks o0) width o).map Editor.flat :=
  C11_wrapOpts_code_points_para demoVocabA_stable (by decide) (by decide) (by decide)
    (BridgeWrap.spTail_of_spOnly (by decide)) (.root toks o0) ht width o hpp
    (by rw [(default_seps o hl hp).1, (default_seps o hl hp).2]; exact demoVocabA_goodPara)
    (by rw [(default_seps o hl hp).1]; decide)

/-- the same for IndentOpts in paragraph mode -/
theorem C11_indentOpts_code_points_para {V : List (List Int)} (hV : VocabStable V = true)
    (ed : Editor (List Int))
    (ht : ∀ t ∈ ed.text, t ∈ V)
    (level : Int)
    (o : Options (List Int))
    (hpp : o.preservePara = true)
    (hG : GoodPara V (o.withDefaults cxB).lineSep (o.withDefaults cxB).paraSep)
    (hi : ∀ t ∈ o.indentStr, t ≠ []) :
    Editor.indentOpts cxA ed.flat level o.flat =
      (Editor.indentOpts cxB ed level o).map Editor.flat :=
  indentOpts_bridge_para hV ed ht level o hpp hG hi

open RosedVerif.ParaStructure

/-- PreserveParagraphs, separator without visible affixes (`AffixFree`: decidable; holds for `\n\n` with `\n`, for any repetition of the line separator, and for an unbordered line separator that is prefix and suffix of the paragraph separator), any well-formed context — arbitrary code points included — and any editor: Wrap returns the paragraph-separator join of `wrapPara` applied to each paragraph; every paragraph separator stays in place (same number of pieces), each piece depends on its own paragraph only, the Options are the receiver's -/
theorem C11_wrap_paragraphwise {α : Type} [DecidableEq α] (cx : Ctx α) (hs : cx.Sane)
    (ed : Editor α)
    (width : Int)
    (o : Options α)
    (hpp : (o.withDefaults cx).preservePara = true)
    (haf : AffixFree (o.withDefaults cx)) :
    ParagraphWise ed (o.withDefaults cx) (wrapPara cx width (o.withDefaults cx).lineSep)
      (ed.wrapOpts cx width o) :=
  wrapOpts_paragraphWise cx hs ed width o hpp haf

/-- the same for Justify -/
theorem C11_justify_paragraphwise {α : Type} [DecidableEq α] (cx : Ctx α) (hs : cx.Sane)
    (ed : Editor α)
    (width : Int)
    (o : Options α)
    (hpp : (o.withDefaults cx).preservePara = true)
    (haf : AffixFree (o.withDefaults cx)) :
    ParagraphWise ed (o.withDefaults cx)
      (justifyParaWith (fun l => justified cx l width) (o.withDefaults cx).lineSep
        (o.withDefaults cx).justifyLast)
      (ed.justifyOpts cx width o) :=
  justifyOpts_paragraphWise cx hs ed width o hpp haf

/-- the same for Align (Left, Right, Center) -/
theorem C11_align_paragraphwise {α : Type} [DecidableEq α] (cx : Ctx α) (hs : cx.Sane)
    (ed : Editor α)
    (align width : Int)
    (o : Options α)
    (hal : align = Gen.alignLeft ∨ align = Gen.alignRight ∨ align = Gen.alignCenter)
    (hpp : (o.withDefaults cx).preservePara = true)
    (haf : AffixFree (o.withDefaults cx)) :
    ParagraphWise ed (o.withDefaults cx)
      (alignParaWith (fun l => alignFn cx align l width) (o.withDefaults cx).lineSep)
      (ed.alignOpts cx align width o) :=
  alignOpts_paragraphWise cx hs ed align width o hal hpp haf

/-- the same for Indent — for EVERY separator pair (the Indent callback ignores the affixes) -/
theorem C11_indent_paragraphwise {α : Type} [DecidableEq α] (cx : Ctx α) (ed : Editor α)
    (level : Int)
    (o : Options α)
    (hl : 1 ≤ level)
    (hpp : (o.withDefaults cx).preservePara = true) :
    ParagraphWise ed (o.withDefaults cx)
      (indentPara (List.replicate level.toNat (o.withDefaults cx).indentStr).flatten
        (o.withDefaults cx).lineSep (o.withDefaults cx).noTrailing)
      (ed.indentOpts cx level o) :=
  indentOpts_paragraphWise cx ed level o hl hpp

/-- … and the per-paragraph result IS the result for the single paragraph: `wrapPara` of a paragraph is the text of the non-paragraph Wrap of that paragraph as an editor of its own (trailing-separator rule included: a paragraph that ends in the line separator gets it back, DESIGN.md §12.4 D15) -/
theorem C11_wrap_single {α : Type} [DecidableEq α] (cx : Ctx α) (hs : cx.Sane)
    (width : Int)
    (o : Options α)
    (p : List α) :
    (Editor.root p (single o)).wrapOpts cx width (single o) =
      .ok (Editor.root (wrapPara cx width (o.withDefaults cx).lineSep p) (single o)) :=
  wrapOpts_single cx hs width o p

/-- the same link for Align — for EVERY non-empty line separator, also a self-overlapping one -/
theorem C11_align_single {α : Type} [DecidableEq α] (cx : Ctx α) (align width : Int)
    (o : Options α)
    (hal : align = Gen.alignLeft ∨ align = Gen.alignRight ∨ align = Gen.alignCenter)
    (hsep : (o.withDefaults cx).lineSep ≠ [])
    (p : List α) :
    (Editor.root p (single o)).alignOpts cx align width (single o) =
      .ok (Editor.root (alignParaWith (fun l => alignFn cx align l width)
        (o.withDefaults cx).lineSep p) (single o)) :=
  alignOpts_single cx align width o hal hsep p

/-- the same link for Justify — for EVERY line separator, also a self-overlapping one -/
theorem C11_justify_single {α : Type} [DecidableEq α] (cx : Ctx α) (hs : cx.Sane)
    (hd : cx.dLineSep ≠ [])
    (width : Int)
    (o : Options α)
    (p : List α) :
    (Editor.root p (single o)).justifyOpts cx width (single o) =
      .ok (Editor.root (justifyParaWith (fun l => justified cx l width)
        (o.withDefaults cx).lineSep (o.withDefaults cx).justifyLast p) (single o)) :=
  justifyOpts_single cx hs hd width o p

/-- the same link for Indent. Only `preservePara` is reset, not `noTrailing` as in `single`: the
Indent callback passes the caller's `noTrailing` on to `indentPara`, so the single-paragraph editor
must keep it. -/
theorem C11_indent_single {α : Type} [DecidableEq α] (cx : Ctx α) (level : Int)
    (o : Options α)
    (hl : 1 ≤ level)
    (p : List α) :
    (Editor.root p { o with preservePara := false }).indentOpts cx level
        { o with preservePara := false } =
      .ok (Editor.root (indentPara (List.replicate level.toNat (o.withDefaults cx).indentStr).flatten
        (o.withDefaults cx).lineSep (o.withDefaults cx).noTrailing p)
        { o with preservePara := false }) :=
  indentOpts_single cx level o hl p

end RosedVerif.Props
