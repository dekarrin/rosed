/-
Clauses of C14 / C15 proved of the composite specifications (every token type).
-/
import RosedVerif.Spec.Composite
import RosedVerif.Spec.WrapLemmas
namespace RosedVerif.Spec
variable {α : Type} (tk : Toks α)

section getD
variable {β : Type} {l : List β} {i : Nat}

theorem getD_of_lt (h : i < l.length) (d : β) : l.getD i d = l[i] :=
  (List.getElem_eq_getD d).symm

theorem getD_of_le (h : l.length ≤ i) (d : β) : l.getD i d = d := by
  rw [List.getD_eq_getElem?_getD, List.getElem?_eq_none h, Option.getD_none]

theorem getD_forall {P : β → Prop} {d : β} (hd : P d) (h : ∀ x ∈ l, P x) (i : Nat) :
    P (l.getD i d) := by
  by_cases hi : i < l.length
  · rw [getD_of_lt hi]
    exact h _ (List.getElem_mem hi)
  · rw [getD_of_le (Nat.le_of_not_lt hi)]
    exact hd

end getD

theorem length_padTo (n : Nat) (l : List α) : (padTo tk n l).length = max n l.length := by
  simp only [padTo, List.length_append, List.length_replicate]; omega

/-- both columns are at least 2 wide and, with the gap, fill exactly the (minimum-clamped) width —
for every percentage, every width, every gap ≥ 0 -/
theorem colWidths_spec (gap width : Int) (pct : Pct) (hg : 0 ≤ gap) :
    2 ≤ (colWidths gap width pct).1 ∧ 2 ≤ (colWidths gap width pct).2 ∧
    ((colWidths gap width pct).1 : Int) + gap + (colWidths gap width pct).2 = max width (gap + 4) := by
  unfold colWidths
  simp only
  generalize (mulRoundTrunc _ _ _ : Nat) = m
  -- name the clamped width `W`, then the left width `c` clamped to `[2, W - gap - 2]`, keeping of
  -- each only its bounds: a single `omega` over all the nested `if`s is several times slower
  generalize hW : (if width < gap + 4 then gap + 4 else width) = W
  rw [show max width (gap + 4) = W by omega]
  replace hW : gap + 4 ≤ W := by omega
  generalize hl : (if (m : Int) < 2 then 2 else (m : Int)) = l
  replace hl : 2 ≤ l := by omega
  generalize hc : (if l > W - gap - 2 then W - gap - 2 else l) = c
  replace hc : 2 ≤ c ∧ c ≤ W - gap - 2 := by omega
  omega

/-- number of lines = max(left, right) -/
theorem twoColumns_length (left right : List α) (gap width : Int) (pct : Pct) :
    (twoColumns tk left right gap width pct).length =
      max (wrapLines tk (colWidths gap width pct).1 left).length
          (wrapLines tk (colWidths gap width pct).2 right).length := by
  simp only [twoColumns, List.length_map, List.length_range]

/-- the right column starts at the same cluster offset `leftWidth + gap` on every line, and no line
exceeds the (minimum-clamped) total width -/
theorem twoColumns_line (left right : List α) (gap width : Int) (pct : Pct) (hg : 0 ≤ gap) (i : Nat)
    (hi : i < (twoColumns tk left right gap width pct).length) :
    let lw := (colWidths gap width pct).1
    let rw := (colWidths gap width pct).2
    let wl := wrapLines tk lw left
    let wr := wrapLines tk rw right
    (twoColumns tk left right gap width pct)[i] = padTo tk (lw + gap.toNat) (wl.getD i []) ++ wr.getD i [] ∧
    ((twoColumns tk left right gap width pct)[i]).take (lw + gap.toNat) = padTo tk (lw + gap.toNat) (wl.getD i []) ∧
    (padTo tk (lw + gap.toNat) (wl.getD i [])).length = lw + gap.toNat ∧
    (((twoColumns tk left right gap width pct)[i]).length : Int) ≤ max width (gap + 4) := by
  intro lw rw wl wr
  have hw := colWidths_spec gap width pct hg
  have e : (twoColumns tk left right gap width pct)[i] =
      padTo tk (lw + gap.toNat) (wl.getD i []) ++ wr.getD i [] := by
    simp only [twoColumns, List.getElem_map, List.getElem_range]
    rfl
  have hl : (wl.getD i []).length ≤ lw :=
    getD_forall (P := fun x : List α => x.length ≤ lw) (Nat.zero_le _) (wrapLines_width tk hw.1 left) i
  have hr : (wr.getD i []).length ≤ rw :=
    getD_forall (P := fun x : List α => x.length ≤ rw) (Nat.zero_le _) (wrapLines_width tk hw.2.1 right) i
  have hp : (padTo tk (lw + gap.toNat) (wl.getD i [])).length = lw + gap.toNat := by
    rw [length_padTo]
    exact Nat.max_eq_left (Nat.le_trans hl (Nat.le_add_right _ _))
  refine ⟨e, ?_, hp, ?_⟩
  · rw [e]; exact List.take_left' hp
  · rw [e, List.length_append, hp]
    have := hw.2.2
    omega

/-- the width at which the definitions are wrapped: `max (w − (T + 2) − 2 − 2) 2` -/
def defWidth (T : Nat) (w : Int) : Nat :=
  (if w - (T + 2) - 2 - 2 < 2 then 2 else w - (T + 2) - 2 - 2).toNat

theorem two_le_defWidth (T : Nat) (w : Int) : 2 ≤ defWidth T w := by
  unfold defWidth; split <;> omega

/-- the wrapped lines of a definition (at least the one line that carries the marker) -/
def defLines (T : Nat) (w : Int) (defn : List α) : List (List α) :=
  let rightW : Int := w - (T + 2) - 2 - 2
  let ls := wrapLines tk (if rightW < 2 then 2 else rightW).toNat defn
  if ls.isEmpty then [[]] else ls

theorem defLines_eq (T : Nat) (w : Int) (defn : List α) :
    defLines tk T w defn =
      if (wrapLines tk (defWidth T w) defn).isEmpty then [[]] else wrapLines tk (defWidth T w) defn :=
  rfl

theorem defParagraph_length (T : Nat) (w : Int) (term defn : List α) :
    (defParagraph tk T w term defn).length = (defLines tk T w defn).length := by
  simp only [defParagraph, defLines, List.length_map, List.length_range]

/-- in every line of a definition's paragraph the definition text starts at cluster column T + 6:
line 0 is `··term<pad>··-·` (T + 6 clusters when the term is at most T wide) followed by the first
wrapped line, every continuation line is T + 6 spaces followed by its wrapped line -/
theorem defParagraph_column (T : Nat) (w : Int) (term defn : List α) (ht : term.length ≤ T) (i : Nat)
    (hi : i < (defParagraph tk T w term defn).length) :
    ∃ pre, (defParagraph tk T w term defn)[i] = pre ++ (defLines tk T w defn).getD i [] ∧
      pre.length = T + 6 ∧
      (i = 0 → pre = [tk.sp, tk.sp] ++ padTo tk T term ++ [tk.sp, tk.sp, tk.hy, tk.sp]) ∧
      (i ≠ 0 → pre = List.replicate (T + 6) tk.sp) := by
  by_cases h0 : i = 0
  · subst h0
    refine ⟨[tk.sp, tk.sp] ++ padTo tk T term ++ [tk.sp, tk.sp, tk.hy, tk.sp], ?_, ?_, fun _ => rfl,
      fun h => absurd rfl h⟩
    · simp only [defParagraph, defLines, List.getElem_map, List.getElem_range, beq_self_eq_true,
        if_true]
    · simp only [List.length_append, length_padTo, List.length_cons, List.length_nil]; omega
  · refine ⟨List.replicate (T + 6) tk.sp, ?_, List.length_replicate, fun h => absurd h h0,
      fun _ => rfl⟩
    have hne : (i == 0) = false := by simpa using h0
    simp only [defParagraph, defLines, List.getElem_map, List.getElem_range, hne]
    rfl

/-- one paragraph per definition (that paragraph `j` is the one of `defs[j]`:
`defTable_getElem` in `NoLoss.lean`) -/
theorem defTable_length (defs : List (List α × List α)) (w : Int) :
    (defTable tk defs w).length = defs.length := by simp only [defTable, List.length_map]

theorem defTable_nil (w : Int) : defTable tk ([] : List (List α × List α)) w = [] := rfl

theorem le_foldl_max {β : Type} (f : β → Nat) (l : List β) (m0 : Nat) :
    m0 ≤ l.foldl (fun m d => max m (f d)) m0 ∧ ∀ d ∈ l, f d ≤ l.foldl (fun m d => max m (f d)) m0 := by
  induction l generalizing m0 with
  | nil => exact ⟨Nat.le_refl _, nofun⟩
  | cons x t ih =>
    obtain ⟨h0, ht⟩ := ih (max m0 (f x))
    exact ⟨Nat.le_trans (Nat.le_max_left ..) h0,
      List.forall_mem_cons.2 ⟨Nat.le_trans (Nat.le_max_right ..) h0, ht⟩⟩

/-- the common term width `T` of `defTable`: the longest term -/
def termWidth (defs : List (List α × List α)) : Nat := defs.foldl (fun m d => max m d.1.length) 0

theorem term_le_T (defs : List (List α × List α)) : ∀ d ∈ defs, d.1.length ≤ termWidth defs :=
  (le_foldl_max (fun d : List α × List α => d.1.length) defs 0).2

end RosedVerif.Spec
