/-
Theorems about the specification of Align (alignLeft / alignRight / alignCenter) and
CollapseSpace (collapse) over tokens.
-/
import RosedVerif.Spec.Layout
namespace RosedVerif.Spec

variable {α : Type} (tk : Toks α)

theorem length_pad (n : Nat) : (pad tk n).length = n := List.length_replicate

theorem filter_pad (hsp : tk.ws tk.sp = true) (n : Nat) :
    (pad tk n).filter (fun c => !tk.ws c) = [] :=
  List.filter_replicate_of_neg (by simp [hsp])

theorem filter_dropWhile_ws (l : List α) :
    (l.dropWhile tk.ws).filter (fun c => !tk.ws c) = l.filter (fun c => !tk.ws c) := by
  induction l with
  | nil => rfl
  | cons a t ih => cases ha : tk.ws a <;> simp [ha, ih]

/-! ## stripLeft removes exactly the leading whitespace -/

theorem stripLeft_suffix (l : List α) : stripLeft tk l <:+ l :=
  List.dropWhile_suffix _

theorem stripLeft_decomp (l : List α) : l = l.takeWhile tk.ws ++ stripLeft tk l :=
  (List.takeWhile_append_dropWhile).symm

theorem stripLeft_removed_ws (l : List α) : ∀ c ∈ l.takeWhile tk.ws, tk.ws c = true :=
  List.all_eq_true.1 List.all_takeWhile

theorem stripLeft_head_not_ws (l : List α) :
    ∀ c, (stripLeft tk l).head? = some c → tk.ws c = false := by
  intro c h
  have := List.head?_dropWhile_not tk.ws l
  rwa [show (l.dropWhile tk.ws).head? = some c from h] at this

theorem stripLeft_spec (l : List α) :
    ∃ p, l = p ++ stripLeft tk l ∧ (∀ c ∈ p, tk.ws c = true) ∧
      (∀ c, (stripLeft tk l).head? = some c → tk.ws c = false) :=
  ⟨l.takeWhile tk.ws, stripLeft_decomp tk l, stripLeft_removed_ws tk l, stripLeft_head_not_ws tk l⟩

/-- "exactly": any decomposition into an all-whitespace prefix and a rest whose head is not
whitespace is the `stripLeft` decomposition. -/
theorem stripLeft_unique (p s : List α) (hp : ∀ c ∈ p, tk.ws c = true)
    (hs : ∀ c, s.head? = some c → tk.ws c = false) : stripLeft tk (p ++ s) = s := by
  rw [stripLeft, List.dropWhile_append_of_pos hp]
  cases s with
  | nil => rfl
  | cons a t => exact List.dropWhile_cons_of_neg (by simp [hs a rfl])

theorem stripLeft_idem (l : List α) : stripLeft tk (stripLeft tk l) = stripLeft tk l :=
  stripLeft_unique tk [] (stripLeft tk l) (fun _ h => nomatch h) (stripLeft_head_not_ws tk l)

theorem stripLeft_length_le (l : List α) : (stripLeft tk l).length ≤ l.length :=
  (stripLeft_suffix tk l).length_le

theorem stripLeft_filter (l : List α) :
    (stripLeft tk l).filter (fun c => !tk.ws c) = l.filter (fun c => !tk.ws c) :=
  filter_dropWhile_ws tk l

/-! ## stripRight removes exactly the trailing whitespace: `stripLeft` on the reversed list -/

theorem stripRight_eq (l : List α) : stripRight tk l = (stripLeft tk l.reverse).reverse := rfl

theorem stripRight_decomp (l : List α) :
    l = stripRight tk l ++ (l.reverse.takeWhile tk.ws).reverse := by
  rw [stripRight_eq, ← List.reverse_append, ← stripLeft_decomp, List.reverse_reverse]

theorem stripRight_prefix (l : List α) : stripRight tk l <+: l :=
  ⟨_, (stripRight_decomp tk l).symm⟩

theorem stripRight_removed_ws (l : List α) :
    ∀ c ∈ (l.reverse.takeWhile tk.ws).reverse, tk.ws c = true :=
  fun c hc => stripLeft_removed_ws tk l.reverse c (List.mem_reverse.1 hc)

theorem stripRight_last_not_ws (l : List α) :
    ∀ c, (stripRight tk l).getLast? = some c → tk.ws c = false := by
  intro c h
  rw [stripRight_eq, List.getLast?_reverse] at h
  exact stripLeft_head_not_ws tk l.reverse c h

theorem stripRight_spec (l : List α) :
    ∃ q, l = stripRight tk l ++ q ∧ (∀ c ∈ q, tk.ws c = true) ∧
      (∀ c, (stripRight tk l).getLast? = some c → tk.ws c = false) :=
  ⟨_, stripRight_decomp tk l, stripRight_removed_ws tk l, stripRight_last_not_ws tk l⟩

theorem stripRight_unique (s q : List α) (hq : ∀ c ∈ q, tk.ws c = true)
    (hs : ∀ c, s.getLast? = some c → tk.ws c = false) : stripRight tk (s ++ q) = s := by
  rw [stripRight_eq, List.reverse_append,
    stripLeft_unique tk q.reverse s.reverse (fun c hc => hq c (List.mem_reverse.1 hc))
      (fun c hc => hs c (by rwa [List.head?_reverse] at hc)),
    List.reverse_reverse]

theorem stripRight_idem (l : List α) : stripRight tk (stripRight tk l) = stripRight tk l := by
  have := stripRight_unique tk (stripRight tk l) [] (fun _ h => nomatch h)
    (stripRight_last_not_ws tk l)
  rwa [List.append_nil] at this

theorem stripRight_length_le (l : List α) : (stripRight tk l).length ≤ l.length :=
  (stripRight_prefix tk l).length_le

theorem stripRight_filter (l : List α) :
    (stripRight tk l).filter (fun c => !tk.ws c) = l.filter (fun c => !tk.ws c) := by
  simp only [stripRight, List.filter_reverse, filter_dropWhile_ws, List.reverse_reverse]

/-! ## the three alignments

Each puts the stripped text `t` between `a` and `b` spaces with `a + b = (w - |t|).toNat`; length,
the over-long case and the non-whitespace content depend on nothing else. -/

def padded (a b : Nat) (t : List α) : List α := pad tk a ++ t ++ pad tk b

section padded
variable {a b : Nat} {w : Int} {t : List α}

theorem length_padded_max (h : a + b = (w - t.length).toNat) :
    ((padded tk a b t).length : Int) = max w t.length := by
  simp only [padded, List.length_append, length_pad]
  omega

theorem padded_of_le (h : a + b = (w - t.length).toNat) (hw : w ≤ t.length) :
    padded tk a b t = t := by
  obtain ⟨rfl, rfl⟩ : a = 0 ∧ b = 0 := by omega
  exact List.append_nil _

theorem filter_padded (hsp : tk.ws tk.sp = true) :
    (padded tk a b t).filter (fun c => !tk.ws c) = t.filter (fun c => !tk.ws c) := by
  simp only [padded, List.filter_append, filter_pad tk hsp, List.append_nil, List.nil_append]

end padded

theorem alignLeft_padded (w : Int) (l : List α) :
    alignLeft tk w l = padded tk 0 (w - (stripLeft tk l).length).toNat (stripLeft tk l) := rfl

theorem alignRight_padded (w : Int) (l : List α) :
    alignRight tk w l = padded tk (w - (stripRight tk l).length).toNat 0 (stripRight tk l) :=
  (List.append_nil _).symm

theorem half_add_half (n : Int) : (n - n / 2).toNat + (n / 2).toNat = n.toNat := by omega

/-- left pad `need - need/2`, right pad `need/2` where `need = w - |t|`; when `need ≤ 0` both are
`0` (since `toNat` clamps). -/
theorem alignCenter_padded (w : Int) (l : List α) :
    alignCenter tk w l =
      padded tk ((w - ((stripRight tk (stripLeft tk l)).length : Int)) -
          (w - ((stripRight tk (stripLeft tk l)).length : Int)) / 2).toNat
        ((w - ((stripRight tk (stripLeft tk l)).length : Int)) / 2).toNat
        (stripRight tk (stripLeft tk l)) := by
  simp only [alignCenter]
  split
  · next h => exact (padded_of_le tk (half_add_half _) (Int.le_of_sub_nonpos h)).symm
  · rfl

/-! ### alignLeft -/

theorem alignLeft_length_max (w : Int) (l : List α) :
    ((alignLeft tk w l).length : Int) = max w (stripLeft tk l).length :=
  length_padded_max tk (Nat.zero_add _)

theorem alignLeft_length (w : Int) (l : List α) (h : ((stripLeft tk l).length : Int) ≤ w) :
    ((alignLeft tk w l).length : Int) = w := by
  rw [alignLeft_length_max, Int.max_eq_left h]

theorem alignLeft_long (w : Int) (l : List α) (h : w ≤ (stripLeft tk l).length) :
    alignLeft tk w l = stripLeft tk l :=
  padded_of_le tk (Nat.zero_add _) h

theorem alignLeft_shape (w : Int) (l : List α) :
    ∃ n, alignLeft tk w l = stripLeft tk l ++ List.replicate n tk.sp :=
  ⟨_, rfl⟩

theorem alignLeft_eq (w : Int) (l : List α) :
    alignLeft tk w l =
      stripLeft tk l ++ List.replicate (w - ((stripLeft tk l).length : Int)).toNat tk.sp := rfl

/-! ### alignRight -/

theorem alignRight_length_max (w : Int) (l : List α) :
    ((alignRight tk w l).length : Int) = max w (stripRight tk l).length := by
  rw [alignRight_padded]
  exact length_padded_max tk (Nat.add_zero _)

theorem alignRight_length (w : Int) (l : List α) (h : ((stripRight tk l).length : Int) ≤ w) :
    ((alignRight tk w l).length : Int) = w := by
  rw [alignRight_length_max, Int.max_eq_left h]

theorem alignRight_long (w : Int) (l : List α) (h : w ≤ (stripRight tk l).length) :
    alignRight tk w l = stripRight tk l := by
  rw [alignRight_padded]
  exact padded_of_le tk (Nat.add_zero _) h

theorem alignRight_shape (w : Int) (l : List α) :
    ∃ n, alignRight tk w l = List.replicate n tk.sp ++ stripRight tk l :=
  ⟨_, rfl⟩

theorem alignRight_eq (w : Int) (l : List α) :
    alignRight tk w l =
      List.replicate (w - ((stripRight tk l).length : Int)).toNat tk.sp ++ stripRight tk l := rfl

/-! ### alignCenter -/

theorem alignCenter_eq (w : Int) (l : List α) :
    alignCenter tk w l =
      List.replicate ((w - ((stripRight tk (stripLeft tk l)).length : Int)) -
          (w - ((stripRight tk (stripLeft tk l)).length : Int)) / 2).toNat tk.sp
        ++ stripRight tk (stripLeft tk l) ++
      List.replicate ((w - ((stripRight tk (stripLeft tk l)).length : Int)) / 2).toNat tk.sp :=
  alignCenter_padded tk w l

theorem alignCenter_length_max (w : Int) (l : List α) :
    ((alignCenter tk w l).length : Int) = max w (stripRight tk (stripLeft tk l)).length := by
  rw [alignCenter_padded]
  exact length_padded_max tk (half_add_half _)

theorem alignCenter_length (w : Int) (l : List α)
    (h : ((stripRight tk (stripLeft tk l)).length : Int) ≤ w) :
    ((alignCenter tk w l).length : Int) = w := by
  rw [alignCenter_length_max, Int.max_eq_left h]

theorem alignCenter_shape (w : Int) (l : List α) :
    ∃ a b, alignCenter tk w l =
        List.replicate a tk.sp ++ stripRight tk (stripLeft tk l) ++ List.replicate b tk.sp ∧
      (a = b ∨ a = b + 1) :=
  ⟨_, _, alignCenter_eq tk w l, by omega⟩

theorem alignCenter_long (w : Int) (l : List α)
    (h : w ≤ (stripRight tk (stripLeft tk l)).length) :
    alignCenter tk w l = stripRight tk (stripLeft tk l) := by
  rw [alignCenter_padded]
  exact padded_of_le tk (half_add_half _) h

/-! ### non-whitespace content is preserved (C07) -/

theorem alignLeft_nonws (hsp : tk.ws tk.sp = true) (w : Int) (l : List α) :
    (alignLeft tk w l).filter (fun c => !tk.ws c) = l.filter (fun c => !tk.ws c) := by
  rw [alignLeft_padded, filter_padded tk hsp, stripLeft_filter]

theorem alignRight_nonws (hsp : tk.ws tk.sp = true) (w : Int) (l : List α) :
    (alignRight tk w l).filter (fun c => !tk.ws c) = l.filter (fun c => !tk.ws c) := by
  rw [alignRight_padded, filter_padded tk hsp, stripRight_filter]

theorem alignCenter_nonws (hsp : tk.ws tk.sp = true) (w : Int) (l : List α) :
    (alignCenter tk w l).filter (fun c => !tk.ws c) = l.filter (fun c => !tk.ws c) := by
  rw [alignCenter_padded, filter_padded tk hsp, stripRight_filter, stripLeft_filter]

/-! ## collapse -/

theorem collapse_nil : collapse tk ([] : List α) = [] := rfl

theorem collapse_cons_nonws (c : α) (t : List α) (hc : tk.ws c = false) :
    collapse tk (c :: t) = c :: collapse tk t := by
  cases t <;> simp [collapse, hc]

theorem collapse_ws_ws (c d : α) (t : List α) (hc : tk.ws c = true) (hd : tk.ws d = true) :
    collapse tk (c :: d :: t) = collapse tk (d :: t) := by
  simp [collapse, hc, hd]

theorem collapse_ws_nonws (c d : α) (t : List α) (hc : tk.ws c = true) (hd : tk.ws d = false) :
    collapse tk (c :: d :: t) = tk.sp :: d :: collapse tk t := by
  rw [← collapse_cons_nonws tk d t hd]
  simp [collapse, hc, hd]

theorem collapse_ws_single (c : α) (hc : tk.ws c = true) : collapse tk [c] = [tk.sp] := by
  simp [collapse, hc]

theorem head?_collapse (l : List α) :
    (collapse tk l).head? = l.head?.map fun c => if tk.ws c then tk.sp else c := by
  fun_induction collapse tk l with
  | case1 | case2 | case4 => rfl
  | case3 c d t h ih => simp_all  -- `c` and `d` are both whitespace: either head becomes `sp`

/-- a whitespace head always yields a single `sp` at the head of the result -/
theorem collapse_head_ws (c : α) (t : List α) (hc : tk.ws c = true) :
    ∃ r, collapse tk (c :: t) = tk.sp :: r := by
  have := head?_collapse tk (c :: t)
  rw [List.head?_cons, Option.map_some, if_pos hc] at this
  exact List.head?_eq_some_iff.1 this

theorem collapse_nonws (hsp : tk.ws tk.sp = true) (l : List α) :
    (collapse tk l).filter (fun c => !tk.ws c) = l.filter (fun c => !tk.ws c) := by
  fun_induction collapse tk l with
  | case1 => rfl
  | case2 c => cases h : tk.ws c <;> simp [h, hsp]
  | case3 c d t h ih => simp_all  -- `c` is whitespace: dropped by `collapse` and by the filter
  | case4 c d t h ih => cases hc : tk.ws c <;> simp [List.filter_cons, ih, hc, hsp]

theorem collapse_only_sp' (l : List α) : ∀ c ∈ collapse tk l, tk.ws c = true → c = tk.sp := by
  have hd (a : α) : tk.ws (if tk.ws a = true then tk.sp else a) = true →
      (if tk.ws a = true then tk.sp else a) = tk.sp := by
    split
    · exact fun _ => rfl
    · exact fun h => absurd h ‹_›
  fun_induction collapse tk l with
  | case1 => nofun
  | case2 c => exact List.forall_mem_cons.2 ⟨hd c, nofun⟩
  | case3 c d t h ih => exact ih
  | case4 c d t h ih => exact List.forall_mem_cons.2 ⟨hd c, ih⟩

theorem collapse_only_sp (_hsp : tk.ws tk.sp = true) (l : List α) :
    ∀ c ∈ collapse tk l, tk.ws c = true → c = tk.sp :=
  collapse_only_sp' tk l

/-- structural form of "no two adjacent whitespace tokens" (core Lean has no `List.IsChain`) -/
def NoDoubleWs : List α → Prop
  | a :: b :: t => ¬(tk.ws a = true ∧ tk.ws b = true) ∧ NoDoubleWs (b :: t)
  | _ => True

theorem noDoubleWs_cons_cons (a b : α) (t : List α) :
    NoDoubleWs tk (a :: b :: t) ↔
      ¬(tk.ws a = true ∧ tk.ws b = true) ∧ NoDoubleWs tk (b :: t) := Iff.rfl

theorem noDoubleWs_cons_nonws (a : α) (t : List α) (ha : tk.ws a = false)
    (h : NoDoubleWs tk t) : NoDoubleWs tk (a :: t) := by
  cases t with
  | nil => trivial
  | cons b t => exact ⟨by simp [ha], h⟩

theorem noDoubleWs_iff_index (l : List α) :
    NoDoubleWs tk l ↔
      ∀ (i : Nat) (h : i + 1 < l.length),
        ¬(tk.ws (l[i]'(Nat.lt_of_succ_lt h)) = true ∧ tk.ws l[i + 1] = true) := by
  induction l with
  | nil => simp [NoDoubleWs]
  | cons a t ih =>
    cases t with
    | nil => simp [NoDoubleWs]
    | cons b t =>
      rw [noDoubleWs_cons_cons, ih]
      constructor
      · rintro ⟨h0, hs⟩ (_ | i) hi
        · exact h0
        · exact hs i (Nat.lt_of_succ_lt_succ hi)
      · intro h
        exact ⟨h 0 (Nat.succ_lt_succ (Nat.succ_pos _)), fun i hi => h (i + 1) (Nat.succ_lt_succ hi)⟩

theorem collapse_noDoubleWs (l : List α) : NoDoubleWs tk (collapse tk l) := by
  fun_induction collapse tk l with
  | case1 | case2 => trivial
  | case3 c d t h ih => exact ih
  | case4 c d t h ih =>
    cases hc : tk.ws c
    · exact noDoubleWs_cons_nonws tk _ _ (by simp [hc]) ih
    · have hd : tk.ws d = false := by simpa [hc] using h
      rw [collapse_cons_nonws tk d t hd] at ih ⊢
      exact ⟨by simp [hd], ih⟩

/-- no two adjacent elements of `collapse tk l` are both whitespace (index formulation) -/
theorem collapse_no_double (l : List α) :
    ∀ (i : Nat) (h : i + 1 < (collapse tk l).length),
      ¬(tk.ws (collapse tk l)[i] = true ∧ tk.ws (collapse tk l)[i + 1] = true) :=
  (noDoubleWs_iff_index tk _).mp (collapse_noDoubleWs tk l)

/-- `collapse` is the identity on lists whose whitespace tokens are all `sp` and never
adjacent. -/
theorem collapse_fixed (l : List α) (h1 : ∀ c ∈ l, tk.ws c = true → c = tk.sp)
    (h2 : NoDoubleWs tk l) : collapse tk l = l := by
  replace h1 : ∀ c ∈ l, (if tk.ws c = true then tk.sp else c) = c := fun c hc => by
    split
    · exact (h1 c hc ‹_›).symm
    · rfl
  fun_induction collapse tk l with
  | case1 => rfl
  | case2 c => rw [h1 c List.mem_cons_self]
  | case3 c d t h ih => exact absurd (by simpa using h) h2.1
  | case4 c d t h ih =>
    rw [h1 c List.mem_cons_self, ih h2.2 fun x hx => h1 x (List.mem_cons_of_mem _ hx)]

theorem collapse_idem' (l : List α) : collapse tk (collapse tk l) = collapse tk l :=
  collapse_fixed tk _ (collapse_only_sp' tk l) (collapse_noDoubleWs tk l)

theorem collapse_idem (_hsp : tk.ws tk.sp = true) (l : List α) :
    collapse tk (collapse tk l) = collapse tk l :=
  collapse_idem' tk l

theorem collapse_length_le (l : List α) : (collapse tk l).length ≤ l.length := by
  fun_induction collapse tk l with
  | case1 | case2 => exact Nat.le_refl _
  | case3 c d t h ih => exact Nat.le_succ_of_le ih
  | case4 c d t h ih => exact Nat.succ_le_succ ih

/-! ## examples: tokens = Nat, ws = (· == 0), sp = 0 -/

section Examples

def exTk : Toks Nat := { ws := (· == 0), sp := 0, hy := 99 }

example : stripLeft exTk [0, 0, 1, 0, 2, 0] = [1, 0, 2, 0] := by decide
example : stripRight exTk [0, 0, 1, 0, 2, 0, 0] = [0, 0, 1, 0, 2] := by decide
example : alignLeft exTk 6 [0, 0, 1, 0, 2] = [1, 0, 2, 0, 0, 0] := by decide
example : alignLeft exTk 2 [0, 0, 1, 0, 2] = [1, 0, 2] := by decide
example : alignLeft exTk (-3) [0, 0, 1, 0, 2] = [1, 0, 2] := by decide
example : alignLeft exTk 2 [0, 0, 0] = [0, 0] := by decide
example : alignRight exTk 6 [1, 0, 2, 0, 0] = [0, 0, 0, 1, 0, 2] := by decide
example : alignRight exTk 3 [1, 0, 2, 0, 0] = [1, 0, 2] := by decide
example : alignCenter exTk 6 [0, 1, 0, 2, 0] = [0, 0, 1, 0, 2, 0] := by decide
example : alignCenter exTk 7 [0, 1, 0, 2, 0] = [0, 0, 1, 0, 2, 0, 0] := by decide
example : alignCenter exTk 3 [0, 1, 0, 2, 0] = [1, 0, 2] := by decide
example : alignCenter exTk 0 [0, 0] = [] := by decide
example : alignCenter exTk (-1) [] = [] := by decide
example : alignCenter exTk 3 [0, 0] = [0, 0, 0] := by decide
example : collapse exTk [0, 0, 1, 0, 0, 0, 2, 3, 0] = [0, 1, 0, 2, 3, 0] := by decide
example : collapse exTk [0, 0, 0] = [0] := by decide
example : collapse exTk (collapse exTk [0, 0, 1, 0, 0, 2]) = collapse exTk [0, 0, 1, 0, 0, 2] := by
  decide

/-- without `hsp` the non-whitespace content is NOT preserved: here `sp = 7` is not
whitespace, so padding / collapsing introduces non-whitespace tokens. -/
def badTk : Toks Nat := { ws := (· == 0), sp := 7, hy := 99 }

example : (alignLeft badTk 3 [1]).filter (fun c => !badTk.ws c) ≠
    [1].filter (fun c => !badTk.ws c) := by decide
example : (collapse badTk [0, 1]).filter (fun c => !badTk.ws c) ≠
    [0, 1].filter (fun c => !badTk.ws c) := by decide

end Examples

end RosedVerif.Spec
