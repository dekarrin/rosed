/-
Specification level for the position family (C04, C05, C09, C10): the simplest
possible description of selections and edits in terms of the CLUSTER list of a
text.  Generic in the context like the model; deliberately independent of the
model's code paths (no byte offsets, no RangeToIndexes).
-/
import RosedVerif.Model.Ops
namespace RosedVerif.Spec
open RosedVerif

variable {α : Type} [DecidableEq α] (cx : Ctx α)

/-- documented normalisation of one position over `n` items: negative counts from the end, then
clamp to [0, n] (`normPos` maps End ↦ n first) -/
def normPosRaw (n p : Int) : Int :=
  let p := if p < 0 then p + n else p
  if p < 0 then 0 else if p > n then n else p

def normPos (n p : Int) : Int := normPosRaw n (if p == Gen.endSentinel then n else p)

/-- util.RangeToIndexes' contract (no End sentinel at that level) -/
def normRangeRaw (n s e : Int) : Int × Int :=
  let s' := normPosRaw n s
  let e' := normPosRaw n e
  (s', if e' < s' then s' else e')

/-- documented normalisation of a range: an end before the start gives the empty range at the start -/
def normRange (n s e : Int) : Int × Int :=
  let s' := normPos n s
  let e' := normPos n e
  (s', if e' < s' then s' else e')

def joinL (l : List (List α)) : List α := l.flatten

/-- selection of clusters [s, e): (before, selected, after) -/
def selectClusters (text : List α) (s e : Int) : List α × List α × List α :=
  let cl := clusters cx text
  let (s', e') := normRange cl.length s e
  (joinL (cl.take s'.toNat), joinL ((cl.drop s'.toNat).take (e' - s').toNat), joinL (cl.drop e'.toNat))

/-- Insert: clusters[0:p] + new + clusters[p:] -/
def insert (text : List α) (p : Int) (x : List α) : List α :=
  let cl := clusters cx text
  let p' := normPos cl.length p
  joinL (cl.take p'.toNat) ++ x ++ joinL (cl.drop p'.toNat)

/-- Delete: clusters[0:s] + clusters[e:] -/
def delete (text : List α) (s e : Int) : List α :=
  let (b, _, a) := selectClusters cx text s e
  b ++ a

/-- Overtype: clusters[0:p] + new + clusters[min(p + len(new), n):] -/
def overtype (text : List α) (p : Int) (x : List α) : List α :=
  let cl := clusters cx text
  let n : Int := cl.length
  let p' := normPos n p
  let k : Int := gLen cx x
  let e := if p' + k > n then n else p' + k
  joinL (cl.take p'.toNat) ++ x ++ joinL (cl.drop e.toNat)

/-- the line decomposition: each line WITH its terminator.  `parts` = leftmost split on `sep`.
Default policy: a text ending in `sep` has no further (empty) line. -/
def linePieces (text sep : List α) (noTrailing : Bool) : List (List α) :=
  let parts := splitOn text sep
  let k := parts.length - 1
  let terminated := (parts.take k).map (· ++ sep)
  let last := parts.getLastD []
  if !noTrailing && last.isEmpty then terminated else terminated ++ [last]

/-- lines without terminators, as an Apply callback sees them -/
def bareLines (text sep : List α) (noTrailing : Bool) : List (List α) :=
  let parts := splitOn text sep
  if !noTrailing && (parts.getLastD []).isEmpty then parts.dropLast else parts

/-- selection of lines [s, e): (before, selected, after) -/
def selectLines (text sep : List α) (noTrailing : Bool) (s e : Int) : List α × List α × List α :=
  let ps := linePieces text sep noTrailing
  let (s', e') := normRange ps.length s e
  (joinL (ps.take s'.toNat), joinL ((ps.drop s'.toNat).take (e' - s').toNat), joinL (ps.drop e'.toNat))

/-- Apply: the callback's outputs spliced in place, trailing separator kept iff the input had one
(default policy) — "had one" in the sense of the decomposition itself: the last piece of the split
is empty (`bareLines` dropped it).  For a separator that overlaps itself this is NOT the same as
"the text ends with the separator's characters": in `a---` with separator `--` the last line `-`
is unterminated. -/
def apply (text sep : List α) (noTrailing : Bool) (f : Nat → List α → List (List α)) : List α :=
  let ls := bareLines text sep noTrailing
  let out := ((List.range ls.length).map fun i => f i (ls.getD i [])).flatten
  let out := if !noTrailing && ((splitOn text sep).getLastD []).isEmpty then out ++ [[]] else out
  joinWith sep out

end RosedVerif.Spec
