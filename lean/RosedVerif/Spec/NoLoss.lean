/-
"No text is lost" for Wrap and for the composite layouts built from it (C07 for Wrap, C14 two
columns, C15 definitions table), at the specification level (every token type `α`).

1. Wrap.  Splitting every output line at whitespace gives EXACTLY the unit sequence
   (`wrapLines_flatMap_words`), the units are the pieces of the words, word after word, and
   un-hyphenating the piece list of a word gives the word back (`wrapLines_words`).  This form is
   exact for every text.  A FUNCTION of the output alone (`dehyphen`) recovers the words iff no
   word can be mistaken for a continuation piece; `HyOK` (every word that ENDS with the hyphen token
   is shorter than the width) suffices (`dehyphen_wrapLines`), and without it no function can work:
   two texts with different words have the same wrapped lines (`dehyphen_impossible`).
2. Two columns: the right part / left part of every line, and the words of both texts.
3. Definitions table: paragraphs, term, definition words.
-/
import RosedVerif.Spec.CompositeLemmas
import RosedVerif.Spec.AlignLemmas
namespace RosedVerif.Spec
variable {α : Type} (tk : Toks α)

/-! ### 1.  Wrap -/

theorem wordsAux_replicate_sp (hsp : tk.ws tk.sp = true) (k : Nat) :
    wordsAux tk [] (List.replicate k tk.sp) = [] := by
  induction k with
  | zero => rfl
  | succ k ih =>
    simp only [List.replicate_succ, wordsAux, hsp, if_true, List.isEmpty_nil, ih]

theorem wordsAux_append_pad (hsp : tk.ws tk.sp = true) (cur l : List α) (k : Nat) :
    wordsAux tk cur (l ++ List.replicate k tk.sp) = wordsAux tk cur l := by
  induction l generalizing cur with
  | nil =>
    cases k with
    | zero => rfl
    | succ k =>
      simp only [List.nil_append, List.replicate_succ, wordsAux, hsp, if_true,
        wordsAux_replicate_sp tk hsp k]
  | cons c t ih => simp only [List.cons_append, wordsAux, ih]

theorem flatMap_words_groups (hsp : tk.ws tk.sp = true) (groups : List (List (List α)))
    (hne : ∀ g ∈ groups, ∀ u ∈ g, u ≠ [])
    (hws : ∀ g ∈ groups, ∀ u ∈ g, ∀ c ∈ u, tk.ws c = false) :
    (groups.map (joinSp tk)).flatMap (words tk) = groups.flatten := by
  induction groups with
  | nil => rfl
  | cons g rest ih =>
    rw [List.map_cons, List.flatMap_cons, List.flatten_cons,
      words_joinSp tk hsp g (hne g List.mem_cons_self) (hws g List.mem_cons_self),
      ih (fun x hx => hne x (List.mem_cons_of_mem _ hx))
        (fun x hx => hws x (List.mem_cons_of_mem _ hx))]

theorem mem_of_mem_words {l wd : List α} (h : wd ∈ words tk l) : ∀ c ∈ wd, c ∈ l := by
  intro c hc
  have : c ∈ (words tk l).flatten := List.mem_flatten.2 ⟨wd, h, hc⟩
  rw [words_flatten] at this
  exact (List.mem_filter.1 this).1

theorem words_padTo (hsp : tk.ws tk.sp = true) (n : Nat) (l : List α) :
    words tk (padTo tk n l) = words tk l :=
  wordsAux_append_pad tk hsp [] l _

/-- **splitting every wrapped line at whitespace gives exactly the units, in order** (every text,
the empty and the whitespace-only ones included) -/
theorem wrapLines_flatMap_words {w : Nat} (hw : 2 ≤ w) (hsp : tk.ws tk.sp = true)
    (hhy : tk.ws tk.hy = false) (l : List α) :
    (wrapLines tk w l).flatMap (words tk) = units tk w l := by
  by_cases h : l = []
  · subst h; rfl
  · obtain ⟨groups, h1, _, h3, _⟩ := wrapLines_partition tk hw l h
    rw [h3, ← h1]
    apply flatMap_words_groups tk hsp
    · intro g hg u hu
      exact units_nonempty tk w l u (h1 ▸ List.mem_flatten.2 ⟨g, hg, hu⟩)
    · intro g hg u hu
      exact units_no_ws tk hhy w l u (h1 ▸ List.mem_flatten.2 ⟨g, hg, hu⟩)

/-- the piece lists of the words of a text, word after word -/
def wordPieces (w : Nat) (l : List α) : List (List (List α)) :=
  (words tk l).map fun wd => pieces tk w wd.length wd

theorem wordPieces_flatten (w : Nat) (l : List α) : (wordPieces tk w l).flatten = units tk w l := by
  simp only [wordPieces, units, List.flatMap_def]

theorem wordPieces_unhyphen (w : Nat) (l : List α) :
    (wordPieces tk w l).map unhyphen = words tk l := by
  simp only [wordPieces, List.map_map]
  conv => rhs; rw [← List.map_id (words tk l)]
  apply List.map_congr_left
  intro wd _
  exact pieces_unhyphen' tk w wd wd.length

/-- **Wrap loses no word** (exact form, every text and every hyphen usage): the tokens between
whitespace on the output lines, read line after line, are the pieces of the words of the input,
word after word; every piece but the last of a word is `w - 1` tokens of the word plus the
continuation hyphen, and removing those hyphens gives the words back, in order -/
theorem wrapLines_words {w : Nat} (hw : 2 ≤ w) (hsp : tk.ws tk.sp = true)
    (hhy : tk.ws tk.hy = false) (l : List α) :
    ∃ pss : List (List (List α)),
      (wrapLines tk w l).flatMap (words tk) = pss.flatten ∧
      pss.map unhyphen = words tk l ∧
      (∀ ps ∈ pss, ps ≠ [] ∧ ∀ p ∈ ps.dropLast, p.length = w ∧ p.getLast? = some tk.hy) ∧
      (l ≠ [] → ∃ groups : List (List (List α)), groups.flatten = pss.flatten ∧
        (∀ g ∈ groups, g ≠ []) ∧ wrapLines tk w l = groups.map (joinSp tk)) := by
  refine ⟨wordPieces tk w l, ?_, wordPieces_unhyphen tk w l, ?_, ?_⟩
  · rw [wrapLines_flatMap_words tk hw hsp hhy, wordPieces_flatten]
  · intro ps hps
    obtain ⟨wd, _, rfl⟩ := List.mem_map.1 hps
    exact ⟨pieces_ne_nil tk w _ _, pieces_shape' tk (by omega) wd wd.length⟩
  · intro h
    obtain ⟨groups, h1, h2, h3, _⟩ := wrapLines_partition tk hw l h
    exact ⟨groups, by rw [h1, wordPieces_flatten], h2, h3⟩

/-! #### the function form -/

section dehyphen
variable [DecidableEq α]

/-- a unit that looks like a continuation piece: exactly `w` tokens, the last one the hyphen -/
def isCont (w : Nat) (u : List α) : Bool := u.length == w && u.getLast? == some tk.hy

/-- glue continuation pieces to what follows them -/
def rejoin (w : Nat) : List (List α) → List α → List (List α)
  | [], acc => if acc.isEmpty then [] else [acc]
  | u :: us, acc =>
    if isCont tk w u then rejoin w us (acc ++ u.dropLast) else (acc ++ u) :: rejoin w us []

/-- recover the word sequence from wrapped lines: split every line at whitespace, then glue every
token run of exactly `w` tokens ending in the hyphen (minus that hyphen) to the next run -/
def dehyphen (w : Nat) (lines : List (List α)) : List (List α) :=
  rejoin tk w (lines.flatMap (words tk)) []

/-- the words of `l` cannot be mistaken for continuation pieces at width `w`: a word that ENDS with
the hyphen token is shorter than `w` (words containing hyphens elsewhere, and a lone `-`, are fine) -/
def HyOK (w : Nat) (l : List α) : Prop :=
  ∀ wd ∈ words tk l, wd.getLast? = some tk.hy → wd.length < w

omit [DecidableEq α] in
theorem HyOK_of_not_mem (w : Nat) (l : List α) (h : tk.hy ∉ l) : HyOK tk w l := by
  intro wd hwd hl
  exact absurd (mem_of_mem_words tk hwd _ (List.mem_of_getLast? hl)) h

omit [DecidableEq α] in
theorem HyOK_of_last (w : Nat) (l : List α)
    (h : ∀ wd ∈ words tk l, wd.getLast? ≠ some tk.hy) : HyOK tk w l :=
  fun wd hwd hl => absurd hl (h wd hwd)

theorem rejoin_cons_of_not_cont {w : Nat} (u : List α) (us : List (List α)) (acc : List α)
    (h : isCont tk w u = false) : rejoin tk w (u :: us) acc = (acc ++ u) :: rejoin tk w us [] := by
  rw [rejoin, if_neg (by simp [h])]

theorem rejoin_pieces {w : Nat} (hw : 1 ≤ w) (f : Nat) (wd : List α) (rest : List (List α)) (acc : List α)
    (h : wd.getLast? ≠ some tk.hy) :
    rejoin tk w (pieces tk w f wd ++ rest) acc = (acc ++ wd) :: rejoin tk w rest [] := by
  fun_induction pieces tk w f wd generalizing acc with
  | case1 wd => exact rejoin_cons_of_not_cont tk wd rest acc (by simp [isCont, h])
  | case2 f wd _ => exact rejoin_cons_of_not_cont tk wd rest acc (by simp [isCont, h])
  | case3 f wd hlen ih =>
    have hc : isCont tk w (wd.take (w - 1) ++ [tk.hy]) = true := by
      simp [isCont, List.length_take]; omega
    rw [List.cons_append, rejoin, if_pos hc, ih _ (by rwa [List.getLast?_drop, if_neg (by omega)]),
      List.dropLast_concat, List.append_assoc, List.take_append_drop]

theorem rejoin_word {w : Nat} (hw : 1 ≤ w) (wd : List α) (rest : List (List α)) (acc : List α)
    (h : wd.getLast? = some tk.hy → wd.length < w) :
    rejoin tk w (pieces tk w wd.length wd ++ rest) acc = (acc ++ wd) :: rejoin tk w rest [] := by
  by_cases hl : wd.getLast? = some tk.hy
  · rw [pieces_single tk wd wd.length (Nat.le_of_lt (h hl))]
    exact rejoin_cons_of_not_cont tk wd rest acc (by simp [isCont, Nat.ne_of_lt (h hl)])
  · exact rejoin_pieces tk hw _ wd rest acc hl

theorem rejoin_flatMap_pieces {w : Nat} (hw : 1 ≤ w) (wds : List (List α))
    (h : ∀ wd ∈ wds, wd.getLast? = some tk.hy → wd.length < w) :
    rejoin tk w (wds.flatMap fun wd => pieces tk w wd.length wd) [] = wds := by
  induction wds with
  | nil => rfl
  | cons wd rest ih =>
    rw [List.flatMap_cons, rejoin_word tk hw wd _ [] (h wd List.mem_cons_self),
      ih (fun x hx => h x (List.mem_cons_of_mem _ hx)), List.nil_append]

theorem rejoin_units {w : Nat} (hw : 1 ≤ w) (l : List α) (h : HyOK tk w l) :
    rejoin tk w (units tk w l) [] = words tk l :=
  rejoin_flatMap_pieces tk hw (words tk l) h

/-- **Wrap loses no word** (function form): the words of the input are recovered, in order, from
the output lines alone by splitting each line at whitespace and undoing the continuation hyphens —
for every text in which no word can be mistaken for a continuation piece (`HyOK`; in particular
every text without the hyphen token, every text no word of which ends with a hyphen) -/
theorem dehyphen_wrapLines {w : Nat} (hw : 2 ≤ w) (hsp : tk.ws tk.sp = true)
    (hhy : tk.ws tk.hy = false) (l : List α) (h : HyOK tk w l) :
    dehyphen tk w (wrapLines tk w l) = words tk l := by
  unfold dehyphen
  rw [wrapLines_flatMap_words tk hw hsp hhy, rejoin_units tk (by omega) l h]

/-- … and all the non-whitespace tokens, in order -/
theorem dehyphen_wrapLines_flatten {w : Nat} (hw : 2 ≤ w) (hsp : tk.ws tk.sp = true)
    (hhy : tk.ws tk.hy = false) (l : List α) (h : HyOK tk w l) :
    (dehyphen tk w (wrapLines tk w l)).flatten = l.filter (fun c => !tk.ws c) := by
  rw [dehyphen_wrapLines tk hw hsp hhy l h, words_flatten]

end dehyphen

/-- `HyOK` cannot be dropped, for ANY recovery function: a word of exactly `w` tokens ending with
the hyphen token, followed by another word, wraps to the same lines as the over-long word obtained
by gluing them — the text form of "undoing continuation hyphens" is ambiguous, the piece-list form
(`wrapLines_words`) is not -/
theorem dehyphen_impossible :
    wrapLines tkN 3 [1, 2, 99, 0, 3, 4] = wrapLines tkN 3 [1, 2, 3, 4] ∧
    words tkN [1, 2, 99, 0, 3, 4] ≠ words tkN [1, 2, 3, 4] := by decide

example : dehyphen tkN 3 (wrapLines tkN 3 [1, 2, 99, 0, 3, 4]) = [[1, 2, 3, 4]] := by decide
example : dehyphen tkN 5 (wrapLines tkN 5 [1, 2, 3, 0, 4, 5, 6, 7, 8, 9, 0, 1]) =
    [[1, 2, 3], [4, 5, 6, 7, 8, 9], [1]] := by decide
/-- hyphens inside words and a lone dash are harmless -/
example : dehyphen tkN 4 (wrapLines tkN 4 [1, 99, 2, 3, 4, 5, 0, 99, 0, 6, 99, 0, 7]) =
    words tkN [1, 99, 2, 3, 4, 5, 0, 99, 0, 6, 99, 0, 7] := by decide
example : wrapLines tkN 4 [1, 99, 2, 3, 4, 5, 0, 99, 0, 6, 99, 0, 7] =
    [[1, 99, 2, 99], [3, 4, 5], [99, 0, 6, 99], [7]] := by decide

/-! ### 2.  juxtaposition of two blocks of lines (two columns, spec and model alike) -/

theorem getElem_append_replicate {β : Type} (xs : List β) (d : β) (k i : Nat)
    (h : i < (xs ++ List.replicate k d).length) : (xs ++ List.replicate k d)[i] = xs.getD i d := by
  by_cases hi : i < xs.length
  · rw [List.getElem_append_left hi, getD_of_lt hi]
  · rw [List.getElem_append_right (Nat.le_of_not_lt hi), List.getElem_replicate,
      getD_of_le (Nat.le_of_not_lt hi)]

theorem flatMap_words_map_padTo (hsp : tk.ws tk.sp = true) (n : Nat) (xs : List (List α)) :
    (xs.map (padTo tk n)).flatMap (words tk) = xs.flatMap (words tk) := by
  induction xs with
  | nil => rfl
  | cons x r ih => rw [List.map_cons, List.flatMap_cons, List.flatMap_cons, ih, words_padTo tk hsp]

theorem flatMap_words_append_nils (xs : List (List α)) (k : Nat) :
    (xs ++ List.replicate k []).flatMap (words tk) = xs.flatMap (words tk) := by
  have h : ∀ x ∈ List.replicate k ([] : List α), words tk x = [] := fun x hx => by
    rw [List.eq_of_mem_replicate hx]; rfl
  rw [List.flatMap_append, List.flatMap_eq_nil_iff.2 h, List.append_nil]

/-- stripping the trailing whitespace of a padded line gives the line back, when the line does not
itself end with whitespace -/
theorem stripRight_padTo (hsp : tk.ws tk.sp = true) (n : Nat) (x : List α)
    (hx : ∀ c, x.getLast? = some c → tk.ws c = false) : stripRight tk (padTo tk n x) = x :=
  stripRight_unique tk x _ (fun _ hc => List.eq_of_mem_replicate hc ▸ hsp) hx

/-- a wrapped line never ends with whitespace -/
theorem wrapLines_last_not_ws {w : Nat} (hw : 2 ≤ w) (hhy : tk.ws tk.hy = false) (l : List α) :
    ∀ line ∈ wrapLines tk w l, ∀ c, line.getLast? = some c → tk.ws c = false := by
  intro line hline c hc
  by_cases h : l = []
  · subst h
    simp only [wrapLines, List.isEmpty_nil, if_true, List.mem_singleton] at hline
    subst hline; simp at hc
  · obtain ⟨groups, h1, h2, h3, _⟩ := wrapLines_partition tk hw l h
    rw [h3] at hline
    obtain ⟨g, hg, rfl⟩ := List.mem_map.1 hline
    have hgne := h2 g hg
    have hmem : ∀ u ∈ g, u ∈ units tk w l := fun u hu => h1 ▸ List.mem_flatten.2 ⟨g, hg, hu⟩
    obtain ⟨g', u, rfl⟩ : ∃ g' u, g = g' ++ [u] :=
      ⟨g.dropLast, g.getLast hgne, (List.dropLast_concat_getLast hgne).symm⟩
    have hu := hmem u (by simp)
    have hune := units_nonempty tk w l u hu
    have hlast : (joinSp tk (g' ++ [u])).getLast? = u.getLast? := by
      by_cases hg' : g' = []
      · subst hg'; simp
      · rw [joinSp_concat tk hg', List.getLast?_append]
        cases hul : u.getLast? with
        | none => exact absurd (List.getLast?_eq_none_iff.1 hul) hune
        | some x => rfl
    rw [hlast] at hc
    exact units_no_ws tk hhy w l u hu c (List.mem_of_getLast? hc)

/-- **juxtaposition**: a block whose `i`-th line is the `i`-th line of `wl` padded to `n` tokens
followed by the `i`-th line of `wr` (missing lines empty): dropping `n` tokens from every line gives
the lines of `wr`, the first `n` tokens of every line are the padded lines of `wl` -/
theorem juxt_parts (n : Nat) (wl wr ls : List (List α))
    (hlen : ls.length = max wl.length wr.length) (hl : ∀ x ∈ wl, x.length ≤ n)
    (hline : ∀ (i : Nat) (hi : i < ls.length), ls[i] = padTo tk n (wl.getD i []) ++ wr.getD i []) :
    ls.map (List.drop n) = wr ++ List.replicate (ls.length - wr.length) [] ∧
    ls.map (List.take n) = (wl ++ List.replicate (ls.length - wl.length) []).map (padTo tk n) := by
  have hpl : ∀ i, (padTo tk n (wl.getD i [])).length = n := by
    intro i
    have : (wl.getD i []).length ≤ n :=
      getD_forall (P := fun x : List α => x.length ≤ n) (Nat.zero_le _) hl i
    rw [length_padTo]; omega
  constructor
  · apply List.ext_getElem
    · simp only [List.length_map, List.length_append, List.length_replicate]; omega
    · intro i h1 h2
      have hi : i < ls.length := by simpa using h1
      rw [List.getElem_map, hline i hi, getElem_append_replicate, List.drop_left' (hpl i)]
  · apply List.ext_getElem
    · simp only [List.length_map, List.length_append, List.length_replicate]; omega
    · intro i h1 h2
      have hi : i < ls.length := by simpa using h1
      rw [List.getElem_map, List.getElem_map, hline i hi, getElem_append_replicate,
        List.take_left' (hpl i)]

/-- **juxtaposition of two wrapped texts loses no word**: the tokens between whitespace in the
left parts (first `n` tokens of each line), read line after line, are the units of the left text,
those in the right parts (after `n` tokens) the units of the right text -/
theorem juxt_units {lw rw : Nat} (hlw : 2 ≤ lw) (hrw : 2 ≤ rw) (hsp : tk.ws tk.sp = true)
    (hhy : tk.ws tk.hy = false) (n : Nat) (hn : lw ≤ n) (left right : List α) (ls : List (List α))
    (hlen : ls.length = max (wrapLines tk lw left).length (wrapLines tk rw right).length)
    (hline : ∀ (i : Nat) (hi : i < ls.length),
      ls[i] = padTo tk n ((wrapLines tk lw left).getD i []) ++ (wrapLines tk rw right).getD i []) :
    (ls.map (List.take n)).flatMap (words tk) = units tk lw left ∧
    (ls.map (List.drop n)).flatMap (words tk) = units tk rw right := by
  obtain ⟨h1, h2⟩ := juxt_parts tk n _ _ ls hlen
    (fun x hx => Nat.le_trans (wrapLines_width tk hlw left x hx) hn) hline
  rw [h1, h2, flatMap_words_map_padTo tk hsp, flatMap_words_append_nils,
    flatMap_words_append_nils, wrapLines_flatMap_words tk hlw hsp hhy,
    wrapLines_flatMap_words tk hrw hsp hhy]
  exact ⟨rfl, rfl⟩

/-- … and (function form) the words of both texts are recovered, in order, from the two parts -/
theorem juxt_words [DecidableEq α] {lw rw : Nat} (hlw : 2 ≤ lw) (hrw : 2 ≤ rw)
    (hsp : tk.ws tk.sp = true) (hhy : tk.ws tk.hy = false) (n : Nat) (hn : lw ≤ n)
    (left right : List α) (ls : List (List α))
    (hlen : ls.length = max (wrapLines tk lw left).length (wrapLines tk rw right).length)
    (hline : ∀ (i : Nat) (hi : i < ls.length),
      ls[i] = padTo tk n ((wrapLines tk lw left).getD i []) ++ (wrapLines tk rw right).getD i [])
    (hL : HyOK tk lw left) (hR : HyOK tk rw right) :
    dehyphen tk lw (ls.map (List.take n)) = words tk left ∧
    dehyphen tk rw (ls.map (List.drop n)) = words tk right := by
  obtain ⟨h1, h2⟩ := juxt_units tk hlw hrw hsp hhy n hn left right ls hlen hline
  unfold dehyphen
  rw [h1, h2, rejoin_units tk (by omega) left hL, rejoin_units tk (by omega) right hR]
  exact ⟨rfl, rfl⟩

/-! #### `Spec.twoColumns` -/

/-- C14, line by line: the right part of line `i` (after `leftW + gap` tokens) is the `i`-th
wrapped right line, the left part with its trailing padding stripped is the `i`-th wrapped left
line (missing lines are empty) -/
theorem twoColumns_parts (hsp : tk.ws tk.sp = true) (hhy : tk.ws tk.hy = false)
    (left right : List α) (gap width : Int) (pct : Pct) (hg : 0 ≤ gap) (i : Nat)
    (hi : i < (twoColumns tk left right gap width pct).length) :
    let lw := (colWidths gap width pct).1
    let rw := (colWidths gap width pct).2
    ((twoColumns tk left right gap width pct)[i]).drop (lw + gap.toNat) =
      (wrapLines tk rw right).getD i [] ∧
    stripRight tk (((twoColumns tk left right gap width pct)[i]).take (lw + gap.toNat)) =
      (wrapLines tk lw left).getD i [] := by
  intro lw rw
  obtain ⟨e, ht, hl, _⟩ := twoColumns_line tk left right gap width pct hg i hi
  have hw := colWidths_spec gap width pct hg
  refine ⟨?_, ?_⟩
  · rw [e, List.drop_left' hl]
  · rw [ht]
    exact stripRight_padTo tk hsp _ _
      (getD_forall (P := fun x : List α => ∀ c, x.getLast? = some c → tk.ws c = false) (by simp)
        (wrapLines_last_not_ws tk hw.1 hhy left) i)

/-- C14, **no word lost** (exact form): splitting the left parts of the lines at whitespace gives
the units of the left text wrapped at the left width, splitting the right parts gives the units of
the right text wrapped at the right width — in order, nothing else (`wordPieces_unhyphen`: the
units are the pieces of the words, and un-hyphenating them word by word gives the words) -/
theorem twoColumns_units (hsp : tk.ws tk.sp = true) (hhy : tk.ws tk.hy = false)
    (left right : List α) (gap width : Int) (pct : Pct) (hg : 0 ≤ gap) :
    let lw := (colWidths gap width pct).1
    let rw := (colWidths gap width pct).2
    let cols := twoColumns tk left right gap width pct
    (cols.map (List.take (lw + gap.toNat))).flatMap (words tk) = units tk lw left ∧
    (cols.map (List.drop (lw + gap.toNat))).flatMap (words tk) = units tk rw right := by
  intro lw rw cols
  have hw := colWidths_spec gap width pct hg
  exact juxt_units tk hw.1 hw.2.1 hsp hhy (lw + gap.toNat) (Nat.le_add_right _ _) left right cols
    (twoColumns_length tk left right gap width pct)
    (fun i hi => (twoColumns_line tk left right gap width pct hg i hi).1)

/-- C14, **no word lost** (function form): the words of the left text are recovered, in order,
from the left parts of the lines and the words of the right text from the right parts -/
theorem twoColumns_words [DecidableEq α] (hsp : tk.ws tk.sp = true) (hhy : tk.ws tk.hy = false)
    (left right : List α) (gap width : Int) (pct : Pct) (hg : 0 ≤ gap)
    (hL : HyOK tk (colWidths gap width pct).1 left) (hR : HyOK tk (colWidths gap width pct).2 right) :
    let lw := (colWidths gap width pct).1
    let rw := (colWidths gap width pct).2
    let cols := twoColumns tk left right gap width pct
    dehyphen tk lw (cols.map (List.take (lw + gap.toNat))) = words tk left ∧
    dehyphen tk rw (cols.map (List.drop (lw + gap.toNat))) = words tk right := by
  intro lw rw cols
  have hw := colWidths_spec gap width pct hg
  exact juxt_words tk hw.1 hw.2.1 hsp hhy (lw + gap.toNat) (Nat.le_add_right _ _) left right cols
    (twoColumns_length tk left right gap width pct)
    (fun i hi => (twoColumns_line tk left right gap width pct hg i hi).1) hL hR

/-- in particular for texts without the hyphen token, whatever the widths -/
theorem twoColumns_words_of_no_hyphen [DecidableEq α] (hsp : tk.ws tk.sp = true)
    (hhy : tk.ws tk.hy = false) (left right : List α) (gap width : Int) (pct : Pct) (hg : 0 ≤ gap)
    (hL : tk.hy ∉ left) (hR : tk.hy ∉ right) :
    let lw := (colWidths gap width pct).1
    let rw := (colWidths gap width pct).2
    let cols := twoColumns tk left right gap width pct
    dehyphen tk lw (cols.map (List.take (lw + gap.toNat))) = words tk left ∧
    dehyphen tk rw (cols.map (List.drop (lw + gap.toNat))) = words tk right :=
  twoColumns_words tk hsp hhy left right gap width pct hg (HyOK_of_not_mem tk _ _ hL)
    (HyOK_of_not_mem tk _ _ hR)

/-! ### 3.  definitions table -/

theorem defLines_ne_nil (T : Nat) (w : Int) (defn : List α) : defLines tk T w defn ≠ [] := by
  rw [defLines_eq]
  split
  · simp
  · rename_i h; intro e; rw [e] at h; simp at h

/-- a definition without a word (empty or whitespace only) has the single, empty line -/
theorem defLines_of_no_word (T : Nat) (w : Int) (defn : List α) (h : words tk defn = []) :
    defLines tk T w defn = [[]] := by
  rw [defLines_eq]
  cases defn with
  | nil => rfl
  | cons a t => rw [(wrapLines_eq_nil_iff tk _ _).2 ⟨List.cons_ne_nil a t, h⟩]; rfl

/-- splitting the lines of a definition at whitespace gives its units -/
theorem defLines_flatMap_words (hsp : tk.ws tk.sp = true) (hhy : tk.ws tk.hy = false)
    (T : Nat) (w : Int) (defn : List α) :
    (defLines tk T w defn).flatMap (words tk) = units tk (defWidth T w) defn := by
  rw [← wrapLines_flatMap_words tk (two_le_defWidth T w) hsp hhy, defLines_eq]
  split
  · rename_i h
    rw [List.isEmpty_iff.1 h]; rfl
  · rfl

/-- every paragraph has its term line -/
theorem defParagraph_pos (T : Nat) (w : Int) (term defn : List α) :
    0 < (defParagraph tk T w term defn).length := by
  rw [defParagraph_length]
  exact List.length_pos_iff.2 (defLines_ne_nil tk T w defn)

/-- the first line of a paragraph: two spaces, the term verbatim, padding to `T`, `··-·`, the
first wrapped line of the definition (the index is written `(0 : Nat)` because a bare literal before
`'(…)` makes the statement several times as slow to elaborate) -/
theorem defParagraph_first (T : Nat) (w : Int) (term defn : List α) :
    (defParagraph tk T w term defn)[(0 : Nat)]'(defParagraph_pos tk T w term defn) =
      [tk.sp, tk.sp] ++ term ++ List.replicate (T - term.length) tk.sp ++
        [tk.sp, tk.sp, tk.hy, tk.sp] ++ (defLines tk T w defn).getD 0 [] := by
  simp only [defParagraph, defLines, padTo, List.getElem_map, List.getElem_range, beq_self_eq_true,
    if_true, List.append_assoc]

/-- the term appears verbatim at offset 2 of the first line -/
theorem defParagraph_term (T : Nat) (w : Int) (term defn : List α) :
    (((defParagraph tk T w term defn)[(0 : Nat)]'(defParagraph_pos tk T w term defn)).drop 2).take
      term.length = term := by
  rw [defParagraph_first]
  simp only [List.append_assoc, List.cons_append, List.nil_append, List.drop_succ_cons,
    List.drop_zero, List.take_left']

/-- dropping the `T + 6` columns of term, padding and marker from every line of a paragraph leaves
the wrapped lines of the definition -/
theorem defParagraph_drop (T : Nat) (w : Int) (term defn : List α) (ht : term.length ≤ T) :
    (defParagraph tk T w term defn).map (List.drop (T + 6)) = defLines tk T w defn := by
  apply List.ext_getElem
  · rw [List.length_map, defParagraph_length]
  · intro i h1 h2
    have hi : i < (defParagraph tk T w term defn).length := by simpa using h1
    obtain ⟨pre, e, hl, _⟩ := defParagraph_column tk T w term defn ht i hi
    rw [List.getElem_map, e, List.drop_left' hl, getD_of_lt h2]

/-- C15, one paragraph, **no definition word lost** (exact form): splitting the parts of the lines
after column `T + 6` at whitespace gives the units of the definition, in order -/
theorem defParagraph_units (hsp : tk.ws tk.sp = true) (hhy : tk.ws tk.hy = false)
    (T : Nat) (w : Int) (term defn : List α) (ht : term.length ≤ T) :
    ((defParagraph tk T w term defn).map (List.drop (T + 6))).flatMap (words tk) =
      units tk (defWidth T w) defn := by
  rw [defParagraph_drop tk T w term defn ht, defLines_flatMap_words tk hsp hhy]

/-- … (function form) the words of the definition are recovered from them, in order -/
theorem defParagraph_words [DecidableEq α] (hsp : tk.ws tk.sp = true) (hhy : tk.ws tk.hy = false)
    (T : Nat) (w : Int) (term defn : List α) (ht : term.length ≤ T)
    (h : HyOK tk (defWidth T w) defn) :
    dehyphen tk (defWidth T w) ((defParagraph tk T w term defn).map (List.drop (T + 6))) =
      words tk defn := by
  unfold dehyphen
  rw [defParagraph_units tk hsp hhy T w term defn ht,
    rejoin_units tk (Nat.le_trans (by omega) (two_le_defWidth T w)) defn h]

/-- a definition without a word (empty, whitespace only) still has its term line, with the marker -/
theorem defParagraph_of_no_word (T : Nat) (w : Int) (term defn : List α) (h : words tk defn = []) :
    defParagraph tk T w term defn =
      [[tk.sp, tk.sp] ++ term ++ List.replicate (T - term.length) tk.sp ++
        [tk.sp, tk.sp, tk.hy, tk.sp]] := by
  have hl : (defParagraph tk T w term defn).length = 1 := by
    rw [defParagraph_length, defLines_of_no_word tk T w defn h]; rfl
  have h0 := defParagraph_first tk T w term defn
  rw [defLines_of_no_word tk T w defn h] at h0
  match hp : defParagraph tk T w term defn, hl with
  | [x], _ =>
    simp only [hp, List.getElem_cons_zero] at h0
    rw [h0]; simp

/-- C15: paragraph `j` is the paragraph of `defs[j]` (input order, same count) -/
theorem defTable_getElem (defs : List (List α × List α)) (w : Int) (j : Nat) (hj : j < defs.length) :
    (defTable tk defs w)[j]'(by rw [defTable_length]; exact hj) =
      defParagraph tk (termWidth defs) w defs[j].1 defs[j].2 := by
  simp only [defTable, termWidth, List.getElem_map]

/-- C15, **nothing lost**: one paragraph per definition, in input order; the first line of
paragraph `j` contains the term `defs[j].1` verbatim at offset 2; the tokens between whitespace
after column `T + 6` of the paragraph's lines are the units of the definition `defs[j].2` (the
pieces of its words, word after word); a definition without a word still has its term line -/
theorem defTable_no_loss (hsp : tk.ws tk.sp = true) (hhy : tk.ws tk.hy = false)
    (defs : List (List α × List α)) (w : Int) :
    (defTable tk defs w).length = defs.length ∧
    ∀ (j : Nat) (hj : j < defs.length) (hj' : j < (defTable tk defs w).length),
      ∃ h0 : 0 < ((defTable tk defs w)[j]).length,
        ((((defTable tk defs w)[j])[0]).drop 2).take defs[j].1.length = defs[j].1 ∧
        (((defTable tk defs w)[j]).map (List.drop (termWidth defs + 6))).flatMap (words tk) =
          units tk (defWidth (termWidth defs) w) defs[j].2 ∧
        (words tk defs[j].2 = [] → ((defTable tk defs w)[j]).length = 1) := by
  refine ⟨defTable_length tk defs w, ?_⟩
  intro j hj hj'
  have ht : defs[j].1.length ≤ termWidth defs := term_le_T defs _ (List.getElem_mem hj)
  have e := defTable_getElem tk defs w j hj
  refine ⟨by rw [e]; exact defParagraph_pos tk _ w _ _, ?_, ?_, ?_⟩
  · simp only [e]; exact defParagraph_term tk _ w _ _
  · rw [e]; exact defParagraph_units tk hsp hhy _ w _ _ ht
  · intro h; rw [e, defParagraph_of_no_word tk _ w _ _ h]; rfl

/-- C15 (function form): the words of every definition are recovered, in order, from the parts of
its paragraph's lines after column `T + 6` -/
theorem defTable_words [DecidableEq α] (hsp : tk.ws tk.sp = true) (hhy : tk.ws tk.hy = false)
    (defs : List (List α × List α)) (w : Int) (j : Nat) (hj : j < defs.length)
    (hj' : j < (defTable tk defs w).length)
    (h : HyOK tk (defWidth (termWidth defs) w) defs[j].2) :
    dehyphen tk (defWidth (termWidth defs) w)
      (((defTable tk defs w)[j]).map (List.drop (termWidth defs + 6))) = words tk defs[j].2 := by
  have ht : defs[j].1.length ≤ termWidth defs := term_le_T defs _ (List.getElem_mem hj)
  rw [defTable_getElem tk defs w j hj]
  exact defParagraph_words tk hsp hhy _ w _ _ ht h

/-! ### concrete examples (tokens = Nat, ws = (· == 0), sp = 0, hy = 99) -/

example : twoColumns tkN [1, 2, 3, 0, 4, 5, 6, 7, 8, 9] [7, 0, 8, 8, 0, 9] 2 12 ⟨false, 1, 1⟩ =
    [[1, 2, 3, 0, 0, 0, 0, 7, 0, 8, 8], [4, 5, 6, 7, 99, 0, 0, 9], [8, 9, 0, 0, 0, 0, 0]] := by decide
example : colWidths 2 12 ⟨false, 1, 1⟩ = (5, 5) := by decide
example :
    dehyphen tkN 5 ((twoColumns tkN [1, 2, 3, 0, 4, 5, 6, 7, 8, 9] [7, 0, 8, 8, 0, 9] 2 12
      ⟨false, 1, 1⟩).map (List.take 7)) = [[1, 2, 3], [4, 5, 6, 7, 8, 9]] ∧
    dehyphen tkN 5 ((twoColumns tkN [1, 2, 3, 0, 4, 5, 6, 7, 8, 9] [7, 0, 8, 8, 0, 9] 2 12
      ⟨false, 1, 1⟩).map (List.drop 7)) = [[7], [8, 8], [9]] := by decide

example : defTable tkN [([1, 2], [3, 0, 4, 4, 4, 4, 4, 0, 5]), ([6], [0, 0]), ([7, 7, 7], [])] 13 =
    [[[0, 0, 1, 2, 0, 0, 0, 99, 0, 3], [0, 0, 0, 0, 0, 0, 0, 0, 0, 4, 4, 4, 99],
      [0, 0, 0, 0, 0, 0, 0, 0, 0, 4, 4, 0, 5]],
     [[0, 0, 6, 0, 0, 0, 0, 99, 0]],
     [[0, 0, 7, 7, 7, 0, 0, 99, 0]]] := by decide
example : dehyphen tkN 4
    (((defTable tkN [([1, 2], [3, 0, 4, 4, 4, 4, 4, 0, 5]), ([6], [0, 0]), ([7, 7, 7], [])] 13).getD 0
      []).map (List.drop 9)) = [[3], [4, 4, 4, 4, 4], [5]] := by decide

end RosedVerif.Spec
