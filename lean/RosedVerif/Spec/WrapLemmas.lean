/-
Theorems about the specification of Wrap (greedy word wrap over tokens):
`Spec.words`, `Spec.pieces`, `Spec.fill`, `Spec.wrapLines`.
-/
import RosedVerif.Spec.Layout
namespace RosedVerif.Spec

variable {α : Type} (tk : Toks α)

/-! ### words -/

/-- every word is a non-empty run of non-whitespace tokens -/
theorem wordsAux_mem (cur l : List α) (hc : ∀ c ∈ cur, tk.ws c = false) :
    ∀ wd ∈ wordsAux tk cur l, wd ≠ [] ∧ ∀ c ∈ wd, tk.ws c = false := by
  fun_induction wordsAux tk cur l with
  | case1 => nofun
  | case2 cur hne =>
    exact List.forall_mem_cons.2
      ⟨⟨by simpa using hne, fun c h => hc c (List.mem_reverse.1 h)⟩, nofun⟩
  | case3 cur c t _ _ ih => exact ih nofun
  | case4 cur c t _ hne ih =>
    exact List.forall_mem_cons.2
      ⟨⟨by simpa using hne, fun c h => hc c (List.mem_reverse.1 h)⟩, ih nofun⟩
  | case5 cur c t hws ih => exact ih (List.forall_mem_cons.2 ⟨by simpa using hws, hc⟩)

theorem words_nonempty (l : List α) : ∀ wd ∈ words tk l, wd ≠ [] :=
  fun wd h => (wordsAux_mem tk [] l nofun wd h).1

theorem words_no_ws (l : List α) : ∀ wd ∈ words tk l, ∀ c ∈ wd, tk.ws c = false :=
  fun wd h => (wordsAux_mem tk [] l nofun wd h).2

theorem wordsAux_flatten (cur l : List α) :
    (wordsAux tk cur l).flatten = cur.reverse ++ l.filter (fun c => !tk.ws c) := by
  fun_induction wordsAux tk cur l <;> simp_all

/-- no text lost or reordered -/
theorem words_flatten (l : List α) :
    (words tk l).flatten = l.filter (fun c => !tk.ws c) :=
  wordsAux_flatten tk [] l

theorem wordsAux_append_ws (x : α) (hx : tk.ws x = true) (b : List α) : ∀ (a cur : List α),
    wordsAux tk cur (a ++ x :: b) = wordsAux tk cur a ++ wordsAux tk [] b
  | [], cur => by
    simp only [List.nil_append, wordsAux, hx, if_true]
    split <;> simp
  | c :: a, cur => by
    simp only [List.cons_append, wordsAux, wordsAux_append_ws x hx b a]
    split
    · split <;> simp
    · rfl

/-- a whitespace token separates words -/
theorem words_append_ws (x : α) (hx : tk.ws x = true) (a b : List α) :
    words tk (a ++ x :: b) = words tk a ++ words tk b :=
  wordsAux_append_ws tk x hx b a []

theorem words_nil : words tk ([] : List α) = [] := rfl

theorem words_concat_ws (x : α) (hx : tk.ws x = true) (a : List α) :
    words tk (a ++ [x]) = words tk a := by
  rw [words_append_ws tk x hx, words_nil, List.append_nil]

/-- in a list of non-empty lists -/
theorem forall_eq_nil_iff {L : List (List α)} (h : ∀ l ∈ L, l ≠ []) :
    (∀ l ∈ L, l = []) ↔ L = [] :=
  ⟨fun h0 => List.eq_nil_iff_forall_not_mem.2 fun l hl => h l hl (h0 l hl), fun e => e ▸ nofun⟩

theorem words_eq_nil_iff (l : List α) : words tk l = [] ↔ ∀ c ∈ l, tk.ws c = true := by
  rw [← forall_eq_nil_iff (words_nonempty tk l), ← List.flatten_eq_nil_iff, words_flatten,
    List.filter_eq_nil_iff]
  simp only [Bool.not_eq_true', Bool.not_eq_false]

/-! ### pieces -/

theorem pieces_ne_nil (w f : Nat) (word : List α) : pieces tk w f word ≠ [] := by
  fun_induction pieces tk w f word <;> nofun

theorem pieces_length_le {w : Nat} (hw : 2 ≤ w) (word : List α) (f : Nat)
    (hf : word.length ≤ f) : ∀ p ∈ pieces tk w f word, p.length ≤ w := by
  fun_induction pieces tk w f word with
  | case1 word => exact List.forall_mem_singleton.2 (by omega)
  | case2 f word h => exact List.forall_mem_singleton.2 h
  | case3 f word h ih =>
    refine List.forall_mem_cons.2 ⟨?_, ih ?_⟩
    · simp only [List.length_append, List.length_take, List.length_singleton]; omega
    · simp only [List.length_drop]; omega

theorem pieces_nonempty (w : Nat) (word : List α) (f : Nat) (h : word ≠ []) :
    ∀ p ∈ pieces tk w f word, p ≠ [] := by
  fun_induction pieces tk w f word with
  | case1 word => exact List.forall_mem_singleton.2 h
  | case2 f word _ => exact List.forall_mem_singleton.2 h
  | case3 f word hlen ih =>
    refine List.forall_mem_cons.2 ⟨by simp, ih fun h0 => ?_⟩
    have := congrArg List.length h0
    simp only [List.length_drop, List.length_nil] at this
    omega

/-- a word is split only if it is longer than `w` -/
theorem pieces_single {w : Nat} (word : List α) (f : Nat) (h : word.length ≤ w) :
    pieces tk w f word = [word] := by
  cases f with
  | zero => rfl
  | succ f => simp [pieces, h]

/-- every non-final piece is `w-1` tokens plus a hyphen -/
theorem pieces_shape' {w : Nat} (hw : 1 ≤ w) (word : List α) (f : Nat) :
    ∀ p ∈ (pieces tk w f word).dropLast, p.length = w ∧ p.getLast? = some tk.hy := by
  fun_induction pieces tk w f word with
  | case1 | case2 => nofun
  | case3 f word h ih =>
    rw [List.dropLast_cons_of_ne_nil (pieces_ne_nil tk w f _)]
    refine List.forall_mem_cons.2 ⟨⟨?_, by simp⟩, ih⟩
    simp only [List.length_append, List.length_take, List.length_singleton]; omega

theorem pieces_shape {w : Nat} (hw : 2 ≤ w) (word : List α) (f : Nat) (_hf : word.length ≤ f) :
    ∀ p ∈ (pieces tk w f word).dropLast, p.length = w ∧ p.getLast? = some tk.hy :=
  pieces_shape' tk (by omega) word f

/-- drop the final token (the hyphen) of every non-final piece and concatenate -/
def unhyphen (ps : List (List α)) : List α :=
  (ps.dropLast.map List.dropLast).flatten ++ ps.getLastD []

theorem unhyphen_singleton (p : List α) : unhyphen [p] = p := by
  simp [unhyphen]

theorem unhyphen_cons (p : List α) {ps : List (List α)} (h : ps ≠ []) :
    unhyphen (p :: ps) = p.dropLast ++ unhyphen ps := by
  cases ps with
  | nil => exact absurd rfl h
  | cons a t => simp [unhyphen, List.getLastD]

theorem pieces_unhyphen' (w : Nat) (word : List α) (f : Nat) :
    unhyphen (pieces tk w f word) = word := by
  fun_induction pieces tk w f word with
  | case1 | case2 => exact unhyphen_singleton _
  | case3 f word h ih =>
    rw [unhyphen_cons _ (pieces_ne_nil tk w f _), ih, List.dropLast_concat, List.take_append_drop]

theorem pieces_unhyphen {w : Nat} (_hw : 2 ≤ w) (word : List α) (f : Nat)
    (_hf : word.length ≤ f) : unhyphen (pieces tk w f word) = word :=
  pieces_unhyphen' tk w word f

/-- the tokens of a piece are tokens of the word, or the hyphen -/
theorem pieces_mem_tokens (w : Nat) (word : List α) (f : Nat) :
    ∀ p ∈ pieces tk w f word, ∀ c ∈ p, c ∈ word ∨ c = tk.hy := by
  fun_induction pieces tk w f word with
  | case1 | case2 => exact List.forall_mem_singleton.2 fun c hc => Or.inl hc
  | case3 f word h ih =>
    refine List.forall_mem_cons.2 ⟨fun c hc => ?_, fun p hp c hc => ?_⟩
    · exact (List.mem_append.1 hc).imp List.mem_of_mem_take List.mem_singleton.1
    · exact (ih p hp c hc).imp_left List.mem_of_mem_drop

/-! ### fill: width and non-emptiness -/

theorem fill_forall {P : List α → Prop} {w : Nat}
    (hP : ∀ a b, P a → P b → a.length + 1 + b.length ≤ w → P (a ++ [tk.sp] ++ b))
    (us : List (List α)) (cur : List α) (hu : ∀ u ∈ us, P u) (hc : ¬cur.isEmpty → P cur) :
    ∀ l ∈ fill tk w us cur, P l := by
  fun_induction fill tk w us cur with
  | case1 => nofun
  | case2 cur hne => exact List.forall_mem_singleton.2 (hc hne)
  | case3 u us cur _ ih =>
    obtain ⟨hu1, hu'⟩ := List.forall_mem_cons.1 hu
    exact ih hu' fun _ => hu1
  | case4 u us cur hne hfit ih =>
    obtain ⟨hu1, hu'⟩ := List.forall_mem_cons.1 hu
    exact ih hu' fun _ => hP _ _ (hc hne) hu1 hfit
  | case5 u us cur hne _ ih =>
    obtain ⟨hu1, hu'⟩ := List.forall_mem_cons.1 hu
    exact List.forall_mem_cons.2 ⟨hc hne, ih hu' fun _ => hu1⟩

/-- no line comes out exactly when there is nothing to put on one -/
theorem fill_eq_nil_iff (w : Nat) (us : List (List α)) (cur : List α) :
    fill tk w us cur = [] ↔ cur = [] ∧ ∀ u ∈ us, u = [] := by
  fun_induction fill tk w us cur <;> simp_all

/-- the units of a text: its words, over-long ones cut into hyphenated pieces -/
def units (w : Nat) (l : List α) : List (List α) :=
  (words tk l).flatMap fun wd => pieces tk w wd.length wd

theorem wrapLines_eq_fill_units (w : Nat) (l : List α) (h : l ≠ []) :
    wrapLines tk w l = fill tk w (units tk w l) [] := by
  cases l with
  | nil => exact absurd rfl h
  | cons a t => rfl

theorem units_length_le {w : Nat} (hw : 2 ≤ w) (l : List α) :
    ∀ u ∈ units tk w l, u.length ≤ w := by
  intro u hu
  obtain ⟨wd, _, hp⟩ := List.mem_flatMap.1 hu
  exact pieces_length_le tk hw wd wd.length (Nat.le_refl _) u hp

theorem units_nonempty (w : Nat) (l : List α) :
    ∀ u ∈ units tk w l, u ≠ [] := by
  intro u hu
  obtain ⟨wd, hwd, hp⟩ := List.mem_flatMap.1 hu
  exact pieces_nonempty tk w wd wd.length (words_nonempty tk l wd hwd) u hp

theorem units_eq_nil_iff (w : Nat) (l : List α) : units tk w l = [] ↔ words tk l = [] := by
  rw [units, List.flatMap_eq_nil_iff]
  exact ⟨fun h => List.eq_nil_iff_forall_not_mem.2 fun wd hwd => pieces_ne_nil tk w _ wd (h wd hwd),
    fun h => by rw [h]; nofun⟩

/-- the wrapped lines depend on the words only (non-empty texts) -/
theorem wrapLines_congr_words (w : Nat) (l l' : List α) (hl : l ≠ []) (hl' : l' ≠ [])
    (h : words tk l = words tk l') : wrapLines tk w l = wrapLines tk w l' := by
  rw [wrapLines_eq_fill_units tk w l hl, wrapLines_eq_fill_units tk w l' hl', units, units, h]

/-- a text wraps to no line at all exactly when it is not empty and has no word -/
theorem wrapLines_eq_nil_iff (w : Nat) (l : List α) :
    wrapLines tk w l = [] ↔ l ≠ [] ∧ words tk l = [] := by
  by_cases hl : l = []
  · subst hl
    exact ⟨nofun, fun h => absurd rfl h.1⟩
  · rw [wrapLines_eq_fill_units tk w l hl, fill_eq_nil_iff,
      forall_eq_nil_iff (units_nonempty tk w l), units_eq_nil_iff]
    exact ⟨fun h => ⟨hl, h.2⟩, fun h => ⟨rfl, h.2⟩⟩

/-- no output line is wider than `w` -/
theorem wrapLines_width {w : Nat} (hw : 2 ≤ w) (l : List α) :
    ∀ line ∈ wrapLines tk w l, line.length ≤ w := by
  cases l with
  | nil => exact List.forall_mem_singleton.2 (Nat.zero_le _)
  | cons a t =>
    rw [wrapLines_eq_fill_units tk w _ (List.cons_ne_nil _ _)]
    refine fill_forall tk (fun a b ha hb h => ?_) _ [] (units_length_le tk hw _) nofun
    simpa only [List.length_append, List.length_singleton] using h

theorem wrapLines_nonempty' {w : Nat} (hw : 2 ≤ w) (l : List α) (h : l ≠ []) :
    ∀ line ∈ wrapLines tk w l, line ≠ [] := by
  rw [wrapLines_eq_fill_units tk w l h]
  exact fill_forall tk (fun a b ha _ _ => by simp [ha]) _ [] (units_nonempty tk w l) nofun

/-- if the text has at least one word, no output line is empty -/
theorem wrapLines_nonempty {w : Nat} (hw : 2 ≤ w) (l : List α) (h : words tk l ≠ []) :
    ∀ line ∈ wrapLines tk w l, line ≠ [] :=
  wrapLines_nonempty' tk hw l fun h0 => h (h0 ▸ rfl)

/-! ### structure of the lines: an ordered partition of the units, greedy -/

theorem _root_.List.intercalate_append {sep : List α} {a b : List (List α)} (ha : a ≠ [])
    (hb : b ≠ []) : sep.intercalate (a ++ b) = sep.intercalate a ++ sep ++ sep.intercalate b := by
  induction a with
  | nil => exact absurd rfl ha
  | cons x a ih =>
    by_cases h : a = []
    · subst h
      rw [List.singleton_append, List.intercalate_cons_of_ne_nil hb, List.intercalate_singleton]
    · rw [List.cons_append, List.intercalate_cons_of_ne_nil (by simp [h]), ih h,
        List.intercalate_cons_of_ne_nil h]
      simp only [List.append_assoc]

/-- the units of one line, joined by single spaces -/
def joinSp (us : List (List α)) : List α := List.intercalate [tk.sp] us

@[simp] theorem joinSp_nil : joinSp tk [] = [] := rfl

@[simp] theorem joinSp_singleton (u : List α) : joinSp tk [u] = u :=
  List.intercalate_singleton

theorem joinSp_cons_cons (u v : List α) (r : List (List α)) :
    joinSp tk (u :: v :: r) = u ++ [tk.sp] ++ joinSp tk (v :: r) :=
  List.intercalate_cons_cons

theorem joinSp_append {a b : List (List α)} (ha : a ≠ []) (hb : b ≠ []) :
    joinSp tk (a ++ b) = joinSp tk a ++ [tk.sp] ++ joinSp tk b :=
  List.intercalate_append ha hb

theorem joinSp_concat {g : List (List α)} (hg : g ≠ []) (u : List α) :
    joinSp tk (g ++ [u]) = joinSp tk g ++ [tk.sp] ++ u := by
  rw [joinSp_append tk hg (List.cons_ne_nil _ _), joinSp_singleton]

theorem joinSp_ne_nil {g : List (List α)} (hg : g ≠ []) (hu : ∀ u ∈ g, u ≠ []) :
    joinSp tk g ≠ [] := by
  match g, hg with
  | [u], _ => simpa using hu
  | u :: v :: r, _ => simp [joinSp_cons_cons]

/-- greedy: the first unit of each line would not have fitted on the previous line (after one
space) -/
def Greedy (w : Nat) : List (List (List α)) → Prop
  | [] => True
  | [_] => True
  | g₁ :: g₂ :: rest =>
    (∀ u, g₂.head? = some u → w < (joinSp tk g₁).length + 1 + u.length) ∧
      Greedy w (g₂ :: rest)

theorem Greedy.get {w : Nat} {groups : List (List (List α))} (h : Greedy tk w groups)
    (i : Nat) (hi : i + 1 < groups.length) (u : List α)
    (hu : (groups[i + 1]).head? = some u) :
    w < (joinSp tk (groups[i]'(by omega))).length + 1 + u.length := by
  induction groups generalizing i with
  | nil => simp at hi
  | cons g₁ rest ih =>
    cases rest with
    | nil => simp at hi
    | cons g₂ rest =>
      cases i with
      | zero => exact h.1 u (by simpa using hu)
      | succ i =>
        exact ih h.2 i (by simpa using hi) (by simpa using hu)

/-- if the current line is the join of a non-empty run `g₀` of units, the output is the line of
`g₀ ++ g₁` for a prefix `g₁` of the remaining units, followed by the lines of a partition of the
rest. -/
theorem fill_partition_aux {w : Nat} (us : List (List α)) (hu : ∀ u ∈ us, u ≠ [])
    (g₀ : List (List α)) (hg₀ : g₀ ≠ []) (hg₀u : ∀ u ∈ g₀, u ≠ []) :
    ∃ (g₁ : List (List α)) (groups : List (List (List α))),
      g₁ ++ groups.flatten = us ∧ (∀ g ∈ groups, g ≠ []) ∧
      fill tk w us (joinSp tk g₀) = joinSp tk (g₀ ++ g₁) :: groups.map (joinSp tk) ∧
      Greedy tk w ((g₀ ++ g₁) :: groups) := by
  induction us generalizing g₀ with
  | nil =>
    have hemp : ¬(joinSp tk g₀).isEmpty := by simpa using joinSp_ne_nil tk hg₀ hg₀u
    exact ⟨[], [], rfl, nofun, by simp [fill, hemp], trivial⟩
  | cons u us ih =>
    have hemp : ¬(joinSp tk g₀).isEmpty := by simpa using joinSp_ne_nil tk hg₀ hg₀u
    obtain ⟨hune, hu'⟩ := List.forall_mem_cons.1 hu
    by_cases hfit : (joinSp tk g₀).length + 1 + u.length ≤ w
    · obtain ⟨g₁, groups, hfl, hgne, hfill, hgr⟩ := ih hu' (g₀ ++ [u]) (by simp)
        (List.forall_mem_append.2 ⟨hg₀u, List.forall_mem_singleton.2 hune⟩)
      rw [List.append_assoc] at hfill hgr
      refine ⟨u :: g₁, groups, by rw [List.cons_append, hfl], hgne, ?_, hgr⟩
      rw [fill, if_neg hemp, if_pos hfit, ← joinSp_concat tk hg₀, hfill]
      rfl
    · obtain ⟨g₁, groups, hfl, hgne, hfill, hgr⟩ := ih hu' [u] (List.cons_ne_nil _ _)
        (List.forall_mem_singleton.2 hune)
      rw [joinSp_singleton] at hfill
      refine ⟨[], (u :: g₁) :: groups, by rw [List.nil_append, List.flatten_cons, List.cons_append, hfl],
        List.forall_mem_cons.2 ⟨List.cons_ne_nil _ _, hgne⟩, ?_, ?_, hgr⟩
      · rw [fill, if_neg hemp, if_neg hfit, hfill, List.append_nil]
        rfl
      · intro v hv
        obtain rfl : u = v := Option.some.inj hv
        rw [List.append_nil]
        exact Nat.lt_of_not_le hfit

/-- the lines are the joins of the groups of an ordered partition of the units into non-empty
runs, and the partition is greedy -/
theorem fill_partition_greedy {w : Nat} (us : List (List α)) (hu : ∀ u ∈ us, u ≠ []) :
    ∃ groups : List (List (List α)), groups.flatten = us ∧ (∀ g ∈ groups, g ≠ []) ∧
      fill tk w us [] = groups.map (joinSp tk) ∧ Greedy tk w groups := by
  cases us with
  | nil => exact ⟨[], rfl, nofun, rfl, trivial⟩
  | cons u us =>
    obtain ⟨hune, hu'⟩ := List.forall_mem_cons.1 hu
    obtain ⟨g₁, groups, hfl, hgne, hfill, hgr⟩ := fill_partition_aux tk (w := w) us hu' [u]
      (List.cons_ne_nil _ _) (List.forall_mem_singleton.2 hune)
    refine ⟨(u :: g₁) :: groups, by simp [hfl],
      List.forall_mem_cons.2 ⟨List.cons_ne_nil _ _, hgne⟩, ?_, hgr⟩
    rw [joinSp_singleton] at hfill
    exact hfill

theorem fill_partition {w : Nat} (us : List (List α)) (hu : ∀ u ∈ us, u ≠ []) :
    ∃ groups : List (List (List α)), groups.flatten = us ∧ (∀ g ∈ groups, g ≠ []) ∧
      fill tk w us [] = groups.map (joinSp tk) := by
  obtain ⟨groups, h1, h2, h3, _⟩ := fill_partition_greedy tk (w := w) us hu
  exact ⟨groups, h1, h2, h3⟩

/-- partition, greediness and the width bound for `wrapLines` -/
theorem wrapLines_partition {w : Nat} (hw : 2 ≤ w) (l : List α) (h : l ≠ []) :
    ∃ groups : List (List (List α)), groups.flatten = units tk w l ∧ (∀ g ∈ groups, g ≠ []) ∧
      wrapLines tk w l = groups.map (joinSp tk) ∧ Greedy tk w groups ∧
      (∀ g ∈ groups, (joinSp tk g).length ≤ w) := by
  obtain ⟨groups, h1, h2, h3, h4⟩ :=
    fill_partition_greedy tk (w := w) (units tk w l) (units_nonempty tk w l)
  rw [← wrapLines_eq_fill_units tk w l h] at h3
  refine ⟨groups, h1, h2, h3, h4, fun g hg => ?_⟩
  exact wrapLines_width tk hw l _ (h3 ▸ List.mem_map_of_mem hg)

/-! ### idempotence -/

theorem joinSp_map_joinSp (groups : List (List (List α))) (h : ∀ g ∈ groups, g ≠ []) :
    joinSp tk (groups.map (joinSp tk)) = joinSp tk groups.flatten := by
  induction groups with
  | nil => rfl
  | cons g rest ih =>
    obtain ⟨hg, hrest⟩ := List.forall_mem_cons.1 h
    cases rest with
    | nil => simp
    | cons g' rest =>
      have hne : (g' :: rest).flatten ≠ [] := by simp [hrest g' List.mem_cons_self]
      rw [List.map_cons, List.map_cons, joinSp_cons_cons, ← List.map_cons, ih hrest,
        ← joinSp_append tk hg hne]
      rfl

theorem wordsAux_append_no_ws (cur u rest : List α) (hu : ∀ c ∈ u, tk.ws c = false) :
    wordsAux tk cur (u ++ rest) = wordsAux tk (u.reverse ++ cur) rest := by
  induction u generalizing cur with
  | nil => rfl
  | cons c t ih =>
    obtain ⟨hc, ht⟩ := List.forall_mem_cons.1 hu
    simp [wordsAux, hc, ih (c :: cur) ht]

/-- splitting a space-joined list of ws-free, non-empty units gives the units back -/
theorem words_joinSp (hsp : tk.ws tk.sp = true) (us : List (List α))
    (hne : ∀ u ∈ us, u ≠ []) (hws : ∀ u ∈ us, ∀ c ∈ u, tk.ws c = false) :
    words tk (joinSp tk us) = us := by
  induction us with
  | nil => rfl
  | cons u r ih =>
    obtain ⟨hune, hne'⟩ := List.forall_mem_cons.1 hne
    obtain ⟨huws, hws'⟩ := List.forall_mem_cons.1 hws
    have hrev : u.reverse.isEmpty = false := by simpa using hune
    cases r with
    | nil =>
      have := wordsAux_append_no_ws tk [] u [] huws
      rw [List.append_nil, List.append_nil] at this
      simp [words, this, wordsAux, hrev]
    | cons v r =>
      have := wordsAux_append_no_ws tk [] u ([tk.sp] ++ joinSp tk (v :: r)) huws
      rw [List.append_nil] at this
      have ih' := ih hne' hws'
      unfold words at ih' ⊢
      rw [joinSp_cons_cons, List.append_assoc, this]
      simp [wordsAux, hsp, hrev, ih']

theorem units_no_ws (hhy : tk.ws tk.hy = false) (w : Nat) (l : List α) :
    ∀ u ∈ units tk w l, ∀ c ∈ u, tk.ws c = false := by
  intro u hu c hc
  obtain ⟨wd, hwd, hp⟩ := List.mem_flatMap.1 hu
  rcases pieces_mem_tokens tk w wd wd.length u hp c hc with h | rfl
  · exact words_no_ws tk l wd hwd c h
  · exact hhy

theorem flatMap_pieces_of_short {w : Nat} (us : List (List α)) (h : ∀ u ∈ us, u.length ≤ w) :
    (us.flatMap fun wd => pieces tk w wd.length wd) = us := by
  induction us with
  | nil => rfl
  | cons u r ih =>
    obtain ⟨hu, hr⟩ := List.forall_mem_cons.1 h
    rw [List.flatMap_cons, pieces_single tk u u.length hu, ih hr]
    rfl

/-- the units of the re-joined units are the units -/
theorem units_joinSp_units {w : Nat} (hw : 2 ≤ w) (hsp : tk.ws tk.sp = true)
    (hhy : tk.ws tk.hy = false) (l : List α) :
    units tk w (joinSp tk (units tk w l)) = units tk w l := by
  rw [units, words_joinSp tk hsp _ (units_nonempty tk w l) (units_no_ws tk hhy w l)]
  exact flatMap_pieces_of_short tk _ (units_length_le tk hw l)

/-- joining the wrapped lines with spaces gives the units joined with spaces
(for any non-empty text) -/
theorem joinSp_wrapLines {w : Nat} (hw : 2 ≤ w) (l : List α) (h : l ≠ []) :
    joinSp tk (wrapLines tk w l) = joinSp tk (units tk w l) := by
  obtain ⟨groups, h1, h2, h3, _⟩ := wrapLines_partition tk hw l h
  rw [h3, joinSp_map_joinSp tk groups h2, h1]

/-- idempotence: re-wrapping the output lines (a line separator acts as a space) gives the same
lines, whenever the text has at least one word. -/
theorem wrapLines_idem {w : Nat} (hw : 2 ≤ w) (hsp : tk.ws tk.sp = true)
    (hhy : tk.ws tk.hy = false) (l : List α) (h : words tk l ≠ []) :
    wrapLines tk w (List.intercalate [tk.sp] (wrapLines tk w l)) = wrapLines tk w l := by
  have hl0 : l ≠ [] := fun h0 => h (h0 ▸ rfl)
  have hj : joinSp tk (units tk w l) ≠ [] :=
    joinSp_ne_nil tk (mt (units_eq_nil_iff tk w l).1 h) (units_nonempty tk w l)
  show wrapLines tk w (joinSp tk (wrapLines tk w l)) = _
  rw [joinSp_wrapLines tk hw l hl0, wrapLines_eq_fill_units tk w _ hj,
    units_joinSp_units tk hw hsp hhy l, ← wrapLines_eq_fill_units tk w l hl0]

/-- without a word the statement fails: a whitespace-only text wraps to no lines at all, and
re-wrapping the (empty) join gives one empty line. -/
example : wrapLines (⟨(· == 0), 0, 99⟩ : Toks Nat) 5 [0, 0] = [] := by decide
example : wrapLines (⟨(· == 0), 0, 99⟩ : Toks Nat) 5
    (List.intercalate [0] (wrapLines (⟨(· == 0), 0, 99⟩ : Toks Nat) 5 [0, 0])) = [[]] := by decide

/-! ### concrete examples (tokens = Nat, ws = (· == 0), sp = 0, hy = 99) -/

section examples
def tkN : Toks Nat := ⟨(· == 0), 0, 99⟩

example : words tkN [1, 2, 3, 0, 4, 5, 6, 7, 8, 9, 0, 1] = [[1, 2, 3], [4, 5, 6, 7, 8, 9], [1]] := by
  decide
example : pieces tkN 5 6 [4, 5, 6, 7, 8, 9] = [[4, 5, 6, 7, 99], [8, 9]] := by decide
example : unhyphen (pieces tkN 5 6 [4, 5, 6, 7, 8, 9]) = [4, 5, 6, 7, 8, 9] := by decide
example : wrapLines tkN 5 [1, 2, 3, 0, 4, 5, 6, 7, 8, 9, 0, 1] =
    [[1, 2, 3], [4, 5, 6, 7, 99], [8, 9, 0, 1]] := by decide
example : wrapLines tkN 5 [0, 0, 1, 2, 0, 0, 3, 0, 4, 5, 0] = [[1, 2, 0, 3], [4, 5]] := by decide
example : wrapLines tkN 2 [1, 2, 3, 4, 5] = [[1, 99], [2, 99], [3, 99], [4, 5]] := by decide
example : wrapLines tkN 5 ([] : List Nat) = [[]] := by decide
example : wrapLines tkN 5 [0] = [] := by decide
example : wrapLines tkN 5 (List.intercalate [tkN.sp]
      (wrapLines tkN 5 [1, 2, 3, 0, 4, 5, 6, 7, 8, 9, 0, 1])) =
    wrapLines tkN 5 [1, 2, 3, 0, 4, 5, 6, 7, 8, 9, 0, 1] := by decide
example : joinSp tkN [[1, 2], [3], [4, 5]] = [1, 2, 0, 3, 0, 4, 5] := by decide
end examples

end RosedVerif.Spec
