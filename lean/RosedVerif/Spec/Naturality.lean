/-
Naturality of the token-level layout specification: every layout function commutes with
any map on tokens that preserves whitespace-ness and the two structural tokens (space and
hyphen).  "Layout depends on clusters only, not on their encoding."

`g` need not be injective, and no `DecidableEq` is needed on either token type: none of
the spec functions compares tokens for equality; tokens are only inspected through `tk.ws`.
-/
import RosedVerif.Spec.WrapLemmas
namespace RosedVerif.Spec

structure TokMap {α β : Type} (tk : Toks α) (tk' : Toks β) (g : α → β) : Prop where
  ws : ∀ a, tk'.ws (g a) = tk.ws a
  sp : g tk.sp = tk'.sp
  hy : g tk.hy = tk'.hy

variable {α β : Type}
variable {tk : Toks α} {tk' : Toks β} {g : α → β}

theorem TokMap.comp {γ : Type} {tk'' : Toks γ} {g' : β → γ}
    (h : TokMap tk tk' g) (h' : TokMap tk' tk'' g') : TokMap tk tk'' (g' ∘ g) where
  ws a := by simp only [Function.comp_apply, h'.ws, h.ws]
  sp := by simp only [Function.comp_apply, h.sp, h'.sp]
  hy := by simp only [Function.comp_apply, h.hy, h'.hy]

/-! ### words, pieces, fill: every branch of the definition commutes with the map -/

theorem wordsAux_map (h : TokMap tk tk' g) (cur l : List α) :
    wordsAux tk' (cur.map g) (l.map g) = (wordsAux tk cur l).map (List.map g) := by
  fun_induction wordsAux tk cur l <;> simp_all [wordsAux, h.ws]

theorem words_map (h : TokMap tk tk' g) (l : List α) :
    words tk' (l.map g) = (words tk l).map (List.map g) :=
  wordsAux_map h [] l

theorem pieces_map (h : TokMap tk tk' g) (w f : Nat) (word : List α) :
    pieces tk' w f (word.map g) = (pieces tk w f word).map (List.map g) := by
  fun_induction pieces tk w f word with
  | case1 word => rfl
  | case2 f word hle => simp [pieces, hle]
  | case3 f word hlt ih => simp [pieces, hlt, ← List.map_drop, ih, h.hy]

theorem fill_map (h : TokMap tk tk' g) (w : Nat) (us : List (List α)) (cur : List α) :
    fill tk' w (us.map (List.map g)) (cur.map g) = (fill tk w us cur).map (List.map g) := by
  fun_induction fill tk w us cur with
  | case1 cur he => simp [fill, he]
  | case2 cur hne => simp [fill, hne]
  | case3 u us cur he ih => simp [fill, he, ih]
  | case4 u us cur hne hfit ih =>
    rw [← ih]
    simp [fill, hne, hfit, h.sp]
  | case5 u us cur hne hfit ih => simp [fill, hne, hfit, ih]

/-! ### wrapLines -/

theorem units_map (h : TokMap tk tk' g) (w : Nat) (l : List α) :
    units tk' w (l.map g) = (units tk w l).map (List.map g) := by
  simp only [units, words_map h, List.flatMap_map, List.map_flatMap, List.length_map, pieces_map h]

theorem wrapLines_map (h : TokMap tk tk' g) (w : Nat) (l : List α) :
    wrapLines tk' w (l.map g) = (wrapLines tk w l).map (List.map g) := by
  by_cases hl : l = []
  · subst hl
    rfl
  · rw [wrapLines_eq_fill_units tk' w _ (mt List.map_eq_nil_iff.1 hl),
      wrapLines_eq_fill_units tk w l hl, units_map h]
    exact fill_map h w _ []

/-! ### collapse -/

theorem collapse_map (h : TokMap tk tk' g) (l : List α) :
    collapse tk' (l.map g) = (collapse tk l).map g := by
  fun_induction collapse tk l <;> simp_all [collapse, h.ws, h.sp, apply_ite g]

/-! ### strip / pad / align -/

theorem dropWhile_ws_map (h : TokMap tk tk' g) (l : List α) :
    (l.map g).dropWhile tk'.ws = (l.dropWhile tk.ws).map g := by
  rw [List.dropWhile_map, show tk'.ws ∘ g = tk.ws from funext h.ws]

theorem stripLeft_map (h : TokMap tk tk' g) (l : List α) :
    stripLeft tk' (l.map g) = (stripLeft tk l).map g :=
  dropWhile_ws_map h l

theorem stripRight_map (h : TokMap tk tk' g) (l : List α) :
    stripRight tk' (l.map g) = (stripRight tk l).map g := by
  simp only [stripRight, ← List.map_reverse, dropWhile_ws_map h]

theorem pad_map (h : TokMap tk tk' g) (n : Nat) :
    pad tk' n = (pad tk n).map g := by
  simp only [pad, List.map_replicate, h.sp]

theorem alignLeft_map (h : TokMap tk tk' g) (w : Int) (l : List α) :
    alignLeft tk' w (l.map g) = (alignLeft tk w l).map g := by
  simp only [alignLeft, stripLeft_map h, List.length_map, List.map_append, pad_map h]

theorem alignRight_map (h : TokMap tk tk' g) (w : Int) (l : List α) :
    alignRight tk' w (l.map g) = (alignRight tk w l).map g := by
  simp only [alignRight, stripRight_map h, List.length_map, List.map_append, pad_map h]

theorem alignCenter_map (h : TokMap tk tk' g) (w : Int) (l : List α) :
    alignCenter tk' w (l.map g) = (alignCenter tk w l).map g := by
  simp only [alignCenter, stripLeft_map h, stripRight_map h, List.length_map]
  split
  · rfl
  · simp only [List.map_append, pad_map h]

/-! ### corollaries: identical line lengths / break positions / padding amounts -/

theorem words_map_lengths (h : TokMap tk tk' g) (l : List α) :
    (words tk' (l.map g)).map List.length = (words tk l).map List.length := by
  simp only [words_map h, List.map_map, Function.comp_def, List.length_map]

theorem wrapLines_map_lengths (h : TokMap tk tk' g) (w : Nat) (l : List α) :
    (wrapLines tk' w (l.map g)).map List.length = (wrapLines tk w l).map List.length := by
  simp only [wrapLines_map h, List.map_map, Function.comp_def, List.length_map]

theorem wrapLines_map_count (h : TokMap tk tk' g) (w : Nat) (l : List α) :
    (wrapLines tk' w (l.map g)).length = (wrapLines tk w l).length := by
  simp only [wrapLines_map h, List.length_map]

theorem collapse_map_length (h : TokMap tk tk' g) (l : List α) :
    (collapse tk' (l.map g)).length = (collapse tk l).length := by
  simp only [collapse_map h, List.length_map]

theorem stripLeft_map_length (h : TokMap tk tk' g) (l : List α) :
    (stripLeft tk' (l.map g)).length = (stripLeft tk l).length := by
  simp only [stripLeft_map h, List.length_map]

theorem stripRight_map_length (h : TokMap tk tk' g) (l : List α) :
    (stripRight tk' (l.map g)).length = (stripRight tk l).length := by
  simp only [stripRight_map h, List.length_map]

theorem alignLeft_map_length (h : TokMap tk tk' g) (w : Int) (l : List α) :
    (alignLeft tk' w (l.map g)).length = (alignLeft tk w l).length := by
  simp only [alignLeft_map h, List.length_map]

theorem alignRight_map_length (h : TokMap tk tk' g) (w : Int) (l : List α) :
    (alignRight tk' w (l.map g)).length = (alignRight tk w l).length := by
  simp only [alignRight_map h, List.length_map]

theorem alignCenter_map_length (h : TokMap tk tk' g) (w : Int) (l : List α) :
    (alignCenter tk' w (l.map g)).length = (alignCenter tk w l).length := by
  simp only [alignCenter_map h, List.length_map]

/-! ### the hypotheses are satisfiable -/

section Example

/-- tokens as code points: 0 = space, 1 = hyphen, 2 = tab, everything else a letter -/
def natToks : Toks Nat := ⟨fun n => n == 0 || n == 2, 0, 1⟩

/-- tokens as strings (one string per cluster) -/
def strToks : Toks String := ⟨fun s => s == " " || s == "\t", " ", "-"⟩

/-- a NON-injective encoding: every letter code is rendered as "x" -/
def enc : Nat → String
  | 0 => " "
  | 1 => "-"
  | 2 => "\t"
  | _ => "x"

theorem enc_tokMap : TokMap natToks strToks enc where
  ws := by
    intro a
    match a with
    | 0 => decide
    | 1 => decide
    | 2 => decide
    | n + 3 => simp [natToks, strToks, enc]
  sp := rfl
  hy := rfl

example (w : Nat) (l : List Nat) :
    wrapLines strToks w (l.map enc) = (wrapLines natToks w l).map (List.map enc) :=
  wrapLines_map enc_tokMap w l

example (w : Nat) (l : List Nat) :
    (wrapLines strToks w (l.map enc)).map List.length
      = (wrapLines natToks w l).map List.length :=
  wrapLines_map_lengths enc_tokMap w l

example (w : Int) (l : List Nat) :
    alignCenter strToks w (l.map enc) = (alignCenter natToks w l).map enc :=
  alignCenter_map enc_tokMap w l

/-- the trivial instance: the identity is a token map -/
example (tk : Toks α) : TokMap tk tk id := ⟨fun _ => rfl, rfl, rfl⟩

/-- a concrete run: wrapping "ab cdefg" style input at width 4 -/
example :
    wrapLines strToks 4 ([5, 6, 0, 7, 8, 9, 10, 11].map enc)
      = [["x", "x"], ["x", "x", "x", "-"], ["x", "x"]] := by decide

end Example

end RosedVerif.Spec
