/-
`splitGo = splitRunes`: under the table facts, running the chain over the Go
predicates equals classifying first and running it over classes.
-/
import RosedVerif.Gem.Rules
import RosedVerif.Gem.TableProofs
namespace RosedVerif

theorem splitRunes_nil : splitRunes [] = [] := rfl

variable {ρ σ : Type}

/-- `P` is `Q` after `f` -/
structure Preds.Factors (P : Preds ρ) (Q : Preds σ) (f : ρ → σ) : Prop where
  prepend : ∀ r, P.prepend r = Q.prepend (f r)
  cr : ∀ r, P.cr r = Q.cr (f r)
  lf : ∀ r, P.lf r = Q.lf (f r)
  control : ∀ r, P.control r = Q.control (f r)
  extend : ∀ r, P.extend r = Q.extend (f r)
  ri : ∀ r, P.ri r = Q.ri (f r)
  spacing : ∀ r, P.spacing r = Q.spacing (f r)
  l : ∀ r, P.l r = Q.l (f r)
  v : ∀ r, P.v r = Q.v (f r)
  t : ∀ r, P.t r = Q.t (f r)
  lv : ∀ r, P.lv r = Q.lv (f r)
  lvt : ∀ r, P.lvt r = Q.lvt (f r)
  zwj : ∀ r, P.zwj r = Q.zwj (f r)
  extpict : ∀ r, P.extpict r = Q.extpict (f r)

theorem scanEP_factors {P : Preds ρ} {Q : Preds σ} {f : ρ → σ} (h : P.Factors Q f) (l : List ρ) :
    scanEP P l = scanEP Q (l.map f) := by
  induction l with
  | nil => rfl
  | cons c t ih => simp only [scanEP, List.map_cons, h.extend, h.extpict, ih]

theorem countRI_factors {P : Preds ρ} {Q : Preds σ} {f : ρ → σ} (h : P.Factors Q f) (l : List ρ) :
    countRI P l = countRI Q (l.map f) := by
  induction l with
  | nil => rfl
  | cons c t ih => simp only [countRI, List.map_cons, h.ri, ih]

theorem brk_factors {P : Preds ρ} {Q : Preds σ} {f : ρ → σ} (h : P.Factors Q f)
    (before : List ρ) (r : ρ) (nx : Option ρ) :
    brk P before r nx = brk Q (before.map f) (f r) (nx.map f) := by
  cases nx with
  | none => rfl
  | some nx =>
    simp only [brk, Option.map_some, h.prepend, h.cr, h.lf, h.control, h.extend, h.ri, h.spacing,
      h.l, h.v, h.t, h.lv, h.lvt, h.zwj, h.extpict, scanEP_factors h, countRI_factors h,
      List.isEmpty_map]

theorem splitAux_factors {P : Preds ρ} {Q : Preds σ} {f : ρ → σ} (h : P.Factors Q f)
    (before : List ρ) (i : Nat) (rs : List ρ) :
    splitAux P before i rs = splitAux Q (before.map f) i (rs.map f) := by
  induction rs generalizing before i with
  | nil => rfl
  | cons r rest ih =>
    simp only [splitAux, List.map_cons, brk_factors h, List.head?_map]
    rw [ih (r :: before) (i + 1)]
    rfl

theorem goPreds_factors : goPreds.Factors clsPreds classOf := by
  constructor <;> intro r <;> have := goPreds_eq_cls r <;> simp only [clsPreds_prepend, clsPreds_cr, clsPreds_lf, clsPreds_control,
    clsPreds_extend, clsPreds_ri, clsPreds_spacing, clsPreds_l, clsPreds_v, clsPreds_t,
    clsPreds_lv, clsPreds_lvt, clsPreds_zwj, clsPreds_extpict] <;> simp only [this]

/-- the executable model (`classOf` then the class-level chain) IS the source-faithful chain -/
theorem splitGo_eq_splitRunes (rs : List Int) : splitGo rs = splitRunes rs := by
  unfold splitGo splitRunes split splitG
  exact splitAux_factors goPreds_factors [] 0 rs

end RosedVerif
