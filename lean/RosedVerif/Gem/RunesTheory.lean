/-
The segmentation facts at code-point level (`splitRunes`), in the form the
model layers use them.
-/
import RosedVerif.Gem.Theory
import RosedVerif.Gem.SubAdditive
import RosedVerif.Model.Basic
namespace RosedVerif

theorem splitRunes_sorted (s : List Int) : (splitRunes s).Pairwise (· < ·) := split_sorted _

theorem splitRunes_bounds (s : List Int) : ∀ j ∈ splitRunes s, 0 < j ∧ j ≤ s.length := by
  intro j hj
  have := split_bounds (s.map classOf) j hj
  simpa using this

theorem splitRunes_last (s : List Int) (h : s ≠ []) : (splitRunes s).getLast? = some s.length := by
  obtain ⟨ini, hi⟩ := split_last (s.map classOf) (by simpa using h)
  unfold splitRunes
  rw [hi]; simp

/-- a slice between two cluster boundaries segments exactly as inside the whole string -/
theorem splitRunes_slice (s : List Int) (st en : Int) (h0 : 0 ≤ st) (h1 : st < en)
    (h2 : en ≤ (splitRunes s).length) :
    splitRunes (sliceRunes s (if st > 0 then (splitRunes s).getD (st.toNat - 1) 0 else 0)
        ((splitRunes s).getD (en.toNat - 1) 0)) =
      (((splitRunes s).drop st.toNat).take (en - st).toNat).map
        (· - (if st > 0 then (splitRunes s).getD (st.toNat - 1) 0 else 0)) := by
  have key := split_slice (s.map classOf) st.toNat en.toNat (by omega) (by
    have : (en.toNat : Int) = en := Int.toNat_of_nonneg (by omega)
    unfold splitRunes at h2; omega)
  unfold splitRunes sliceRunes
  rw [List.map_take, List.map_drop]
  have c1 : (st > 0) = (st.toNat > 0) := by
    apply propext; constructor <;> intro h <;> omega
  have c2 : (en - st).toNat = en.toNat - st.toNat := by omega
  simp only [c1, c2]
  exact key

theorem splitRunes_length_append_le (a b : List Int) :
    (splitRunes (a ++ b)).length ≤ (splitRunes a).length + (splitRunes b).length := by
  unfold splitRunes
  rw [List.map_append]
  exact split_length_append_le _ _

theorem splitRunes_length_le (s : List Int) : (splitRunes s).length ≤ s.length := by
  have := split_length_le (s.map classOf)
  simpa [splitRunes] using this

theorem splitRunes_length_eq_zero_iff (s : List Int) : (splitRunes s).length = 0 ↔ s = [] := by
  have := split_length_eq_zero_iff (s.map classOf)
  simpa [splitRunes] using this

end RosedVerif
