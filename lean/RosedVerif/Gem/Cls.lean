/-
Break classes (the 13 Grapheme_Cluster_Break values in use + Other +
Extended_Pictographic) and the lookup tree type used for fast classification.
-/
import RosedVerif.Gem.Ranges
namespace RosedVerif

inductive Cls
  | other | cr | lf | control | extend | zwj | ri | prepend
  | spacing | l | v | t | lv | lvt | extpict
  deriving DecidableEq, Repr, Inhabited

def Cls.all : List Cls :=
  [.other, .cr, .lf, .control, .extend, .zwj, .ri, .prepend, .spacing, .l, .v, .t, .lv, .lvt, .extpict]

theorem Cls.mem_all (c : Cls) : c ∈ Cls.all := by cases c <;> decide

/-- statements quantified over all classes are decided by running through `Cls.all` -/
instance Cls.decidableForall (P : Cls → Prop) [DecidablePred P] : Decidable (∀ c, P c) :=
  decidable_of_iff (∀ c ∈ Cls.all, P c) ⟨fun h c => h c (Cls.mem_all c), fun h c _ => h c⟩

def Cls.toNat : Cls → Nat
  | .other => 0 | .cr => 1 | .lf => 2 | .control => 3 | .extend => 4 | .zwj => 5 | .ri => 6
  | .prepend => 7 | .spacing => 8 | .l => 9 | .v => 10 | .t => 11 | .lv => 12 | .lvt => 13
  | .extpict => 14

/-- binary search tree of disjoint closed ranges, each carrying a class -/
inductive RTree
  | L
  | N (l : RTree) (lo hi : Nat) (c : Cls) (r : RTree)

namespace RTree

def lookup : RTree → Nat → Cls
  | L, _ => .other
  | N l lo hi c r, x => if x < lo then l.lookup x else if hi < x then r.lookup x else c

/-- search-tree invariant: every range is valid, inside `[lb, ub)`, and ordered -/
def ok : RTree → Nat → Option Nat → Bool
  | L, _, _ => true
  | N l lo hi c r, lb, ub =>
    decide (lb ≤ lo) && decide (lo ≤ hi) && (match ub with | none => true | some u => decide (hi < u))
      && l.ok lb (some lo) && r.ok (hi + 1) ub && (c != .other)

/-- the ranges carrying class `X`, in order -/
def ranges (X : Cls) : RTree → List (Nat × Nat)
  | L => []
  | N l lo hi c r => l.ranges X ++ (if c == X then [(lo, hi)] else []) ++ r.ranges X

def ltUb (x : Nat) : Option Nat → Prop
  | none => True
  | some u => x < u

theorem ltUb_of_le {x hi : Nat} {ub : Option Nat} (hx : x ≤ hi)
    (h : (match ub with | none => true | some u => decide (hi < u)) = true) : ltUb x ub := by
  cases ub with
  | none => trivial
  | some u => exact Nat.lt_of_le_of_lt hx (of_decide_eq_true h)

theorem ranges_bounds (X : Cls) (t : RTree) (lb : Nat) (ub : Option Nat) (h : t.ok lb ub = true)
    (x : Nat) (hx : inRanges (t.ranges X) x = true) : lb ≤ x ∧ ltUb x ub := by
  induction t generalizing lb ub with
  | L => simp [ranges, inRanges] at hx
  | N l lo hi c r ihl ihr =>
    simp only [ok, Bool.and_eq_true, decide_eq_true_eq] at h
    obtain ⟨⟨⟨⟨⟨h1, h2⟩, h3⟩, h4⟩, h5⟩, _⟩ := h
    simp only [ranges, inRanges_append, Bool.or_eq_true] at hx
    rcases hx with (hx | hx) | hx
    · have := ihl lb (some lo) h4 hx
      have t2 : x < lo := this.2
      exact ⟨this.1, ltUb_of_le (by omega) h3⟩
    · split at hx
      · simp only [inRanges, List.any_cons, List.any_nil, Bool.or_false, Bool.and_eq_true,
          decide_eq_true_eq] at hx
        exact ⟨by omega, ltUb_of_le hx.2 h3⟩
      · simp [inRanges] at hx
    · have := ihr (hi + 1) ub h5 hx
      exact ⟨by omega, this.2⟩

theorem inRanges_mid (c X : Cls) (lo hi x : Nat) :
    inRanges (if c == X then [(lo, hi)] else []) x = ((c == X) && (decide (lo ≤ x) && decide (x ≤ hi))) := by
  cases h : (c == X) <;> simp [inRanges]

theorem lookup_eq (X : Cls) (hX : X ≠ .other) (t : RTree) (lb : Nat) (ub : Option Nat)
    (h : t.ok lb ub = true) (x : Nat) :
    (t.lookup x == X) = inRanges (t.ranges X) x := by
  induction t generalizing lb ub with
  | L =>
    simp only [lookup, ranges, inRanges_nil]
    cases X <;> first | exact absurd rfl hX | rfl
  | N l lo hi c r ihl ihr =>
    simp only [ok, Bool.and_eq_true, decide_eq_true_eq] at h
    obtain ⟨⟨⟨⟨⟨h1, h2⟩, h3⟩, h4⟩, h5⟩, h6⟩ := h
    simp only [lookup, ranges, inRanges_append, inRanges_mid]
    -- the ranges of the left subtree lie below `lo`, those of the right subtree above `hi`
    have a : ¬ x < lo → inRanges (l.ranges X) x = false := fun hh =>
      Bool.eq_false_iff.mpr fun h' => hh (ranges_bounds X l lb (some lo) h4 x h').2
    have b : ¬ hi < x → inRanges (r.ranges X) x = false := fun hh =>
      Bool.eq_false_iff.mpr fun h' => hh (ranges_bounds X r (hi + 1) ub h5 x h').1
    by_cases c1 : x < lo
    · rw [if_pos c1, ihl lb (some lo) h4, b (by omega)]
      simp [show ¬ lo ≤ x by omega]
    · by_cases c2 : hi < x
      · rw [if_neg c1, if_pos c2, ihr (hi + 1) ub h5, a c1]
        simp [show ¬ x ≤ hi by omega]
      · rw [if_neg c1, if_neg c2, a c1, b c2]
        simp [show lo ≤ x by omega, show x ≤ hi by omega]

end RTree
end RosedVerif
