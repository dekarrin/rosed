/-
C02, observational form.  The class of a code point is not observable directly from outside the
library; what IS observable is how the code point joins with fixed probe characters.  `probes13 c`
is the exact list of thirteen probe strings the differential harness runs on the real code; its
first nine are `probes c`.

 * `probeSig_eq`: what is observed on the nine probes around ANY `c : Int` is the class-level
   signature of its Unicode 13.0.0 class;
 * the nine probes do NOT distinguish all fifteen classes: they confuse exactly {CR, LF, Control},
   {ZWJ, SpacingMark} and {V, LV} (`sigOf_eq_iff`), so they determine the class only up to these
   groups (`probe_determines_class_partial`);
 * four more probes (`probes13`: CR·c, c·LF, ExtPict·c·ExtPict, V·c) make the signature injective
   (`sigOf13_injective`), which gives the full-strength `probe13_determines_class`.
-/
import RosedVerif.Gem.Rules
import RosedVerif.Gem.TableProofs
namespace RosedVerif
open Cls

/-! ### the probes -/

/-- the first nine probe strings around a code point (the head of the harness list, verbatim) -/
def probes (c : Int) : List (List Int) :=
  [[0x61, c], [c, 0x61], [c, 0x308], [0x1F468, 0x200D, c], [0x1F468, c, 0x200D, 0x1F469],
   [0x1F1E9, c], [0x1100, c], [c, 0x1161], [c, 0x11A8]]

/-- what is observed: the cluster ends of every probe string -/
def probeSig (c : Int) : List (List Nat) := (probes c).map splitRunes

/-- the same nine probes at class level, the class of `c` replaced by `X` -/
def clsProbes (X : Cls) : List (List Cls) :=
  [[other, X], [X, other], [X, extend], [extpict, zwj, X], [extpict, X, zwj, extpict],
   [ri, X], [l, X], [X, v], [X, t]]

def sigOf (X : Cls) : List (List Nat) := (clsProbes X).map split

/-- four more probes: CR·c, c·LF, ExtPict·c·ExtPict, V·c -/
def extraProbes (c : Int) : List (List Int) :=
  [[0x0D, c], [c, 0x0A], [0x1F468, c, 0x1F469], [0x1161, c]]

def probes13 (c : Int) : List (List Int) := probes c ++ extraProbes c

def probeSig13 (c : Int) : List (List Nat) := (probes13 c).map splitRunes

def clsExtraProbes (X : Cls) : List (List Cls) :=
  [[cr, X], [X, lf], [extpict, X, extpict], [v, X]]

def sigOf13 (X : Cls) : List (List Nat) := (clsProbes X ++ clsExtraProbes X).map split

/-! ### the classes of the fixed probe characters (one kernel evaluation) -/

theorem probe_chars :
    classOf 0x61 = other ∧ classOf 0x308 = extend ∧ classOf 0x1F468 = extpict ∧
    classOf 0x200D = zwj ∧ classOf 0x1F469 = extpict ∧ classOf 0x1F1E9 = ri ∧
    classOf 0x1100 = l ∧ classOf 0x1161 = v ∧ classOf 0x11A8 = t ∧
    classOf 0x0D = cr ∧ classOf 0x0A = lf := by
  decide +kernel

/-! ### what is observed is the signature of the class -/

/-- the probe strings, classified, are the class-level probes of the class of `c` -/
theorem probes_classOf (c : Int) : (probes c).map (List.map classOf) = clsProbes (classOf c) := by
  obtain ⟨h1, h2, h3, h4, h5, h6, h7, h8, h9, _, _⟩ := probe_chars
  simp only [probes, clsProbes, List.map_cons, List.map_nil, h1, h2, h3, h4, h5, h6, h7, h8, h9]

theorem extraProbes_classOf (c : Int) :
    (extraProbes c).map (List.map classOf) = clsExtraProbes (classOf c) := by
  obtain ⟨_, _, h3, _, h5, _, _, h8, _, h10, h11⟩ := probe_chars
  simp only [extraProbes, clsExtraProbes, List.map_cons, List.map_nil, h3, h5, h8, h10, h11]

theorem probeSig_classOf (c : Int) : probeSig c = sigOf (classOf c) := by
  rw [sigOf, ← probes_classOf, List.map_map]; rfl

/-- **C02 observationally**: for EVERY rune value (negative and > 0x10FFFF included) the cluster
ends observed on the nine probes are those of its Unicode 13.0.0 class -/
theorem probeSig_eq (c : Int) : probeSig c = sigOf (ref13 c) := by
  rw [probeSig_classOf, classOf_eq_ref13]

theorem probeSig13_classOf (c : Int) : probeSig13 c = sigOf13 (classOf c) := by
  rw [sigOf13, ← probes_classOf, ← extraProbes_classOf, ← List.map_append, List.map_map]; rfl

theorem probeSig13_eq (c : Int) : probeSig13 c = sigOf13 (ref13 c) := by
  rw [probeSig13_classOf, classOf_eq_ref13]

/-! ### which classes the probes distinguish -/

/-- representative of the group of classes the nine probes cannot tell apart -/
def probeRep : Cls → Cls
  | cr => control | lf => control | spacing => zwj | lv => v | X => X

/-- the nine probes separate two classes exactly when they are not in the same group among
{CR, LF, Control}, {ZWJ, SpacingMark}, {V, LV} -/
theorem sigOf_eq_iff (X Y : Cls) : sigOf X = sigOf Y ↔ probeRep X = probeRep Y := by
  decide +revert +kernel

/-- `sigOf` is not injective: the members of each group observe alike -/
theorem sigOf_not_injective :
    sigOf cr = sigOf lf ∧ sigOf cr = sigOf control ∧ sigOf zwj = sigOf spacing ∧ sigOf v = sigOf lv :=
  ⟨(sigOf_eq_iff _ _).mpr rfl, (sigOf_eq_iff _ _).mpr rfl, (sigOf_eq_iff _ _).mpr rfl,
    (sigOf_eq_iff _ _).mpr rfl⟩

/-- … and these are the only confusions: among the group representatives (`probeRep X = X`: every
class but CR, LF, SpacingMark and LV) the nine probes identify the class -/
theorem sigOf_injective_partial (X Y : Cls) (hX : probeRep X = X) (hY : probeRep Y = Y)
    (h : sigOf X = sigOf Y) : X = Y := by
  rw [← hX, ← hY]; exact (sigOf_eq_iff X Y).mp h

/-- the eight classes that are alone in their group are identified by the nine probes against ANY
other class -/
theorem sigOf_injective_partial' (X Y : Cls)
    (hX : X ≠ cr ∧ X ≠ lf ∧ X ≠ control ∧ X ≠ zwj ∧ X ≠ spacing ∧ X ≠ v ∧ X ≠ lv)
    (h : sigOf X = sigOf Y) : X = Y := by
  have key : ∀ X : Cls,
      (X ≠ cr ∧ X ≠ lf ∧ X ≠ control ∧ X ≠ zwj ∧ X ≠ spacing ∧ X ≠ v ∧ X ≠ lv) →
        ∀ Y, probeRep X = probeRep Y → X = Y := by decide +kernel
  exact key X hX Y ((sigOf_eq_iff X Y).mp h)

/-- the nine probes determine the class up to the three groups -/
theorem probe_determines_class_partial (c : Int) (X : Cls) :
    probeSig c = sigOf X ↔ probeRep (ref13 c) = probeRep X := by
  rw [probeSig_eq, sigOf_eq_iff]

/-- for the eight classes alone in their group the nine probes determine the class itself -/
theorem probe_determines_class_partial' (c : Int) (X : Cls)
    (hX : X ≠ cr ∧ X ≠ lf ∧ X ≠ control ∧ X ≠ zwj ∧ X ≠ spacing ∧ X ≠ v ∧ X ≠ lv) :
    probeSig c = sigOf X ↔ ref13 c = X := by
  rw [probeSig_eq]
  constructor
  · intro h; exact (sigOf_injective_partial' X (ref13 c) hX h.symm).symm
  · intro h; rw [h]

/-! ### thirteen probes: full strength -/

/-- with the four extra probes all fifteen classes (ExtPict included) are told apart: the nine
probes leave the three groups, the extra probes separate the members of each group -/
theorem sigOf13_injective : ∀ X Y : Cls, sigOf13 X = sigOf13 Y → X = Y := by
  have key : ∀ X Y : Cls, probeRep X = probeRep Y →
      (clsExtraProbes X).map split = (clsExtraProbes Y).map split → X = Y := by decide +kernel
  intro X Y h
  rw [sigOf13, sigOf13, List.map_append, List.map_append] at h
  have hl : ((clsProbes X).map split).length = ((clsProbes Y).map split).length := by
    rw [List.length_map, List.length_map]; rfl
  obtain ⟨h9, h4⟩ := List.append_inj h hl
  exact key X Y ((sigOf_eq_iff X Y).mp h9) h4

/-- "each code point behaves as exactly one class": the observation on the thirteen probes is the
signature of `X` iff `X` is the Unicode 13.0.0 class -/
theorem probe13_determines_class (c : Int) (X : Cls) :
    probeSig13 c = sigOf13 X ↔ ref13 c = X := by
  rw [probeSig13_eq]
  exact ⟨fun h => sigOf13_injective _ _ h, fun h => by rw [h]⟩

/-- the thirteen-probe observation refines the nine-probe one -/
theorem probeSig13_prefix (c : Int) : (probeSig13 c).take 9 = probeSig c := rfl

/-! ### non-vacuity -/

-- a man emoji, a Hangul LVT syllable, a negative and an out-of-range rune value
example : probeSig 0x1F468 = sigOf extpict ∧ probeSig 0xAC01 = sigOf lvt ∧
    probeSig (-7) = sigOf other ∧ probeSig 0x110000 = sigOf other := by
  simp only [probeSig_classOf]
  have : classOf 0x1F468 = extpict ∧ classOf 0xAC01 = lvt ∧ classOf (-7) = other ∧
      classOf 0x110000 = other := by decide +kernel
  simp only [this]
  trivial

example : sigOf extpict = [[1, 2], [1, 2], [2], [3], [1, 4], [1, 2], [1, 2], [1, 2], [1, 2]] := by
  decide +kernel

-- the hypotheses of the partial forms are satisfiable (ExtPict is alone in its group) …
example : probeSig 0x1F468 = sigOf extpict ↔ ref13 0x1F468 = extpict :=
  probe_determines_class_partial' _ _ (by decide)

-- … and the confusion is real on actual characters: U+000D observes as Control (and as LF) does
example : probeSig 0x0D = sigOf control ∧ probeSig 0x0D = sigOf lf ∧ probeSig 0x0D = sigOf cr := by
  simp only [probeSig_classOf, probe_chars.2.2.2.2.2.2.2.2.2.1]
  decide +kernel

-- the extra probes separate them
example : sigOf13 cr ≠ sigOf13 lf ∧ sigOf13 cr ≠ sigOf13 control ∧ sigOf13 lf ≠ sigOf13 control ∧
    sigOf13 zwj ≠ sigOf13 spacing ∧ sigOf13 v ≠ sigOf13 lv := by decide +kernel

end RosedVerif
