/-
The rule chain of `shouldBreakAfter` as DATA (regenerated from the source into Gen/Rules.lean) and its
evaluation over classes.  `Props/C01.lean` proves that evaluating the regenerated list equals the
model's `brkCore` for every class pair and both context bits.
-/
import RosedVerif.Gem.Cls
namespace RosedVerif

/-- guards: `p k onNext` = k-th predicate (order of gem.VerifPreds) applied to `r` or to `nextR` -/
inductive BExp
  | p (k : Nat) (onNext : Bool)
  | and (a b : BExp)
  | or (a b : BExp)
  | not (a : BExp)
  | hasPrev          -- `i-1 >= 0`
  deriving Repr

inductive Rule
  | simple (guard : BExp) (res : Bool)      -- if guard { return res }
  | scanEP (guard : BExp) (res : Bool)      -- if guard { backward loop: skip Extend, hit ExtPict ⇒ return res }
  | riEven (guard : BExp) (res : Bool)      -- if guard { count preceding RI; even ⇒ return res }
  deriving Repr

def predClass : Nat → Cls
  | 0 => .prepend | 1 => .cr | 2 => .lf | 3 => .control | 4 => .extend | 5 => .ri | 6 => .spacing
  | 7 => .l | 8 => .v | 9 => .t | 10 => .lv | 11 => .lvt | 12 => .zwj | 13 => .extpict
  | _ => .other

def BExp.eval (r nx : Cls) : BExp → Bool
  | .p k onNext => (if onNext then nx else r) == predClass k
  | .and a b => a.eval r nx && b.eval r nx
  | .or a b => a.eval r nx || b.eval r nx
  | .not a => !a.eval r nx
  | .hasPrev => true     -- only ever a conjunct of the scan guard; the scan itself fails on an empty prefix

/-- `ep`: the GB11 backward scan succeeds (which already implies there is a previous element) -/
def evalRules (dflt : Bool) (r nx : Cls) (ep re : Bool) : List Rule → Bool
  | [] => dflt
  | .simple g res :: rest => if g.eval r nx then res else evalRules dflt r nx ep re rest
  | .scanEP g res :: rest => if g.eval r nx && ep then res else evalRules dflt r nx ep re rest
  | .riEven g res :: rest => if g.eval r nx && re then res else evalRules dflt r nx ep re rest

end RosedVerif
