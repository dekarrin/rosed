/-
Sub-additivity of the grapheme cluster count: `|split (a ++ b)| ≤ |split a| + |split b|`.

The boundary set of `b` read from a reachable state `q` is NOT a subset of the
boundary set of `b` read from the fresh state, but the COUNT exceeds the fresh
count by at most one, and only when the junction decision is "no break" (in
which case the `a` part loses its final boundary).  The count comparison is a
simulation between the two runs with a one-unit "debt" (`debt`), whose
one-step inequality is checked by kernel evaluation over all pairs of states
with the same `last` × classes.
-/
import RosedVerif.Gem.Theory
namespace RosedVerif
open Cls

/-! ### the easy bounds -/

theorem splitQ_length_le (q : St) (i : Nat) (after : Option Cls) (l : List Cls) :
    (splitQ q i after l).length ≤ l.length := by
  induction l generalizing q i with
  | nil => exact Nat.le_refl _
  | cons r rest ih =>
    have := ih (δ q r) (i + 1)
    simp only [splitQ]
    split
    · simp only [List.length_cons]; omega
    · simp only [List.length_cons]; omega

theorem split_length_le (cs : List Cls) : (split cs).length ≤ cs.length := by
  rw [split_eq_splitQ]; exact splitQ_length_le _ _ _ _

theorem split_length_eq_zero_iff (cs : List Cls) : (split cs).length = 0 ↔ cs = [] := by
  refine ⟨fun h => ?_, fun h => by subst h; rfl⟩
  by_cases hne : cs = []
  · exact hne
  · obtain ⟨ini, hi⟩ := split_last cs hne
    rw [hi, List.length_append] at h
    exact absurd h (by simp)

theorem split_length_pos (cs : List Cls) (h : cs ≠ []) : 0 < (split cs).length := by
  have h0 : (split cs).length ≠ 0 := fun h0 => h ((split_length_eq_zero_iff cs).mp h0)
  omega

/-! ### the decision count from a state that has already read something -/

/-- number of "break" decisions when the state `p` (after its last read element) still has `l`
to read, followed by the look-ahead `after` -/
def cnt (after : Option Cls) : St → List Cls → Nat
  | p, [] => (brkD p after).toNat
  | p, x :: xs => (brkDfa p x).toNat + cnt after (δ p x) xs

theorem splitQ_length_cons (q : St) (i : Nat) (after : Option Cls) (r : Cls) (rest : List Cls) :
    (splitQ q i after (r :: rest)).length = cnt after (δ q r) rest := by
  induction rest generalizing q i r with
  | nil =>
    rw [splitQ_cons, look_nil, List.length_append, ite_singleton_length]
    rfl
  | cons x xs ih =>
    rw [splitQ_cons, List.length_append, ih (δ q r) (i + 1) x]
    rw [look_cons, ite_singleton_length]
    rfl

/-! ### the debt simulation -/

/-- one unit of slack is allowed exactly when the reference run `s` holds a "no break" licence
(odd RI count, pending `ExtPict Extend* [ZWJ]`) that the run `p` does not hold -/
def debt (p s : St) : Bool :=
  (s.riOdd && !p.riOdd) || (s.epz && !p.epz) || (s.epx && !p.epx)

theorem debt_self (p : St) : debt p p = false := by
  obtain ⟨l, a, b, c⟩ := p
  cases a <;> cases b <;> cases c <;> rfl

/-- one step of the simulation: the debt plus the breaks of the reference run pay for the
breaks of the other run -/
theorem debt_step (p s : St) (c : Cls) (hp : good p = true) (hs : good s = true)
    (hl : p.last = s.last) :
    (debt (δ p c) (δ s c)).toNat + (brkDfa p c).toNat ≤ (debt p s).toNat + (brkDfa s c).toNat := by
  have key : ∀ (l : Option Cls) (a1 b1 c1 : Bool), good ⟨l, a1, b1, c1⟩ = true →
      ∀ a2 b2 c2 : Bool, good ⟨l, a2, b2, c2⟩ = true → ∀ c : Cls,
      (debt (δ ⟨l, a1, b1, c1⟩ c) (δ ⟨l, a2, b2, c2⟩ c)).toNat + (brkDfa ⟨l, a1, b1, c1⟩ c).toNat
        ≤ (debt ⟨l, a1, b1, c1⟩ ⟨l, a2, b2, c2⟩).toNat + (brkDfa ⟨l, a2, b2, c2⟩ c).toNat := by
    decide +kernel
  obtain ⟨l, a1, b1, c1⟩ := p
  obtain ⟨l2, a2, b2, c2⟩ := s
  cases hl
  exact key l a1 b1 c1 hp a2 b2 c2 hs c

theorem δ_last (q : St) (c : Cls) : (δ q c).last = some c := rfl

/-- the run from `p` makes at most `debt p s` more breaks than the run from `s` -/
theorem cnt_le (after : Option Cls) (l : List Cls) (p s : St) (hp : good p = true)
    (hs : good s = true) (hl : p.last = s.last) :
    cnt after p l ≤ cnt after s l + (debt p s).toNat := by
  induction l generalizing p s with
  | nil =>
    cases after with
    | none => simp only [cnt, brkD]; omega
    | some c =>
      have := debt_step p s c hp hs hl
      simp only [cnt, brkD]
      omega
  | cons x xs ih =>
    have h1 := debt_step p s x hp hs hl
    have h2 := ih (δ p x) (δ s x) (good_step p x hp) (good_step s x hs) rfl
    simp only [cnt]
    omega

/-- from a reachable state the suffix has at most one more cluster end than read afresh -/
theorem splitQ_length_le_init_succ (q : St) (i j : Nat) (after : Option Cls) (b : List Cls)
    (hg : good q = true) :
    (splitQ q i after b).length ≤ (splitQ St.init j after b).length + 1 := by
  cases b with
  | nil => simp [splitQ]
  | cons r rest =>
    rw [splitQ_length_cons, splitQ_length_cons]
    have h := cnt_le after rest (δ q r) (δ St.init r) (good_step q r hg)
      (good_step St.init r good_init) rfl
    have := Bool.toNat_le (debt (δ q r) (δ St.init r))
    omega

/-! ### the last decision of the first part -/

/-- changing the look-ahead changes the count by exactly the last decision -/
theorem splitQ_length_after (q : St) (i : Nat) (a1 a2 : Option Cls) (l : List Cls) (hl : l ≠ []) :
    (splitQ q i a1 l).length + (brkD (run q l) a2).toNat =
      (splitQ q i a2 l).length + (brkD (run q l) a1).toNat := by
  obtain ⟨l, x, rfl⟩ := exists_concat hl
  rw [splitQ_concat, splitQ_concat, List.length_append, List.length_append, ite_singleton_length,
    ite_singleton_length]
  omega

/-! ### sub-additivity -/

theorem split_length_append_le (a b : List Cls) :
    (split (a ++ b)).length ≤ (split a).length + (split b).length := by
  cases b with
  | nil => simp only [List.append_nil]; omega
  | cons r rest =>
    by_cases ha : a = []
    · subst ha; simp only [List.nil_append]; omega
    · rw [split_eq_splitQ, split_eq_splitQ, split_eq_splitQ, splitQ_append, List.length_append]
      simp only [look_cons, Nat.zero_add]
      have hg : good (run St.init a) = true := good_run _ _ good_init
      have h1 := splitQ_length_after St.init 0 (some r) none a ha
      simp only [brkD] at h1
      by_cases hb : brkDfa (run St.init a) r = true
      · -- junction is a boundary: the suffix restarts, and the count does not depend on the offset
        rw [splitQ_restart (run St.init a) a.length none (r :: rest) hg hb, splitQ_length_cons,
          splitQ_length_cons]
        rw [hb] at h1
        simp only [Bool.toNat_true] at h1
        omega
      · -- junction is not a boundary: the prefix loses its last end, the suffix gains at most one
        have hb' : brkDfa (run St.init a) r = false := by simpa using hb
        rw [hb'] at h1
        simp only [Bool.toNat_true, Bool.toNat_false] at h1
        have h2 := splitQ_length_le_init_succ (run St.init a) a.length 0 none (r :: rest) hg
        omega

end RosedVerif
