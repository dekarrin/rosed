/-
Facts about lists and Booleans that the segmentation theory uses and that do not mention it.
-/
namespace RosedVerif

theorem exists_concat {α : Type} {l : List α} (hl : l ≠ []) : ∃ l' x, l = l' ++ [x] :=
  ⟨l.dropLast, l.getLast hl, (List.dropLast_concat_getLast hl).symm⟩

theorem take_succ_of_getElem? {α : Type} (l : List α) (i : Nat) (x : α) (h : l[i]? = some x) :
    l.take (i + 1) = l.take i ++ [x] := by
  rw [List.take_add_one, h]; rfl

theorem getD_eq_some (e : List Nat) (k : Nat) (hk : k < e.length) : e[k]? = some (e.getD k 0) := by
  rw [List.getD_eq_getElem?_getD, List.getElem?_eq_getElem hk]; rfl

/-- in a strictly increasing list the elements up to the `k`-th are exactly the first `k + 1` -/
theorem sorted_prefix_length (X W : List Nat) (hs : (X ++ W).Pairwise (· < ·)) (k v : Nat)
    (hk : (X ++ W)[k]? = some v) (hX : ∀ j ∈ X, j ≤ v) (hW : ∀ j ∈ W, v < j) : X.length = k + 1 := by
  rw [List.pairwise_iff_getElem] at hs
  obtain ⟨hlt, hv⟩ := List.getElem?_eq_some_iff.mp hk
  rcases Nat.lt_trichotomy X.length (k + 1) with h | h | h
  · rw [List.getElem?_append_right (by omega)] at hk
    exact absurd (hW v (List.mem_of_getElem? hk)) (Nat.lt_irrefl v)
  · exact h
  · have h1 := hs k (k + 1) hlt (by rw [List.length_append]; omega) (by omega)
    rw [hv, List.getElem_append_left h] at h1
    have := hX _ (List.getElem_mem h)
    omega

theorem ite_singleton_length (b : Bool) (i : Nat) :
    (if b = true then [i] else ([] : List Nat)).length = b.toNat := by
  cases b <;> rfl

end RosedVerif
