/-
The corollaries the text of C01 names, over class strings of ANY length:
CR LF stays together, controls stand alone, Hangul syllables, extending / spacing / prepended
marks, emoji ZWJ sequences and regional-indicator pairs are each kept whole, nothing else is
joined; including the ill-formed orderings (leading marks, doubled ZWJ, odd runs of flag halves).

Everything is stated about `split` (the transliterated Go rule chain), or about `Spec.Boundary`
(equal by `split_eq_specSplit`).  Where a whole string is segmented the proofs go through the
finite-state form (`Gem/Dfa.lean`, `Gem/Theory.lean`); a single boundary is decided through
`Spec.Boundary` itself or its Boolean form `brkCore` (`boundary_concat_iff`, `Gem/SpecProof.lean`).
-/
import RosedVerif.Gem.Theory
namespace RosedVerif
open Cls Spec

/-! ### membership in `split` as the boundary predicate -/

theorem mem_split_iff (cs : List Cls) (j : Nat) :
    j ∈ split cs ↔ 1 ≤ j ∧ j ≤ cs.length ∧ IsEnd cs j := by
  rw [split_eq_specSplit]
  unfold specSplit
  simp only [List.mem_filter, List.mem_range'_1, decide_eq_true_eq]
  constructor
  · rintro ⟨⟨a, b⟩, c⟩; exact ⟨a, by omega, c⟩
  · rintro ⟨a, b, c⟩; exact ⟨⟨a, by omega⟩, c⟩

/-- between two elements of the text, `i + 1` is a cluster end iff the boundary predicate holds -/
theorem end_iff_boundary (cs : List Cls) (i : Nat) (r nx : Cls) (h0 : cs[i]? = some r)
    (h1 : cs[i + 1]? = some nx) : i + 1 ∈ split cs ↔ Boundary (cs.take (i + 1)) r nx := by
  have hlt := (List.getElem?_eq_some_iff.mp h1).1
  rw [mem_split_iff]
  constructor
  · rintro ⟨_, _, h | ⟨r', nx', e0, e1, hb⟩⟩
    · omega
    · rw [Nat.add_sub_cancel, h0] at e0; rw [h1] at e1
      cases e0; cases e1; exact hb
  · intro hb
    exact ⟨by omega, by omega, Or.inr ⟨r, nx, by rw [Nat.add_sub_cancel]; exact h0, h1, hb⟩⟩

/-- the same in the form `a ++ [r]` · `nx :: b` -/
theorem end_append_iff (a b : List Cls) (r nx : Cls) :
    a.length + 1 ∈ split (a ++ [r] ++ nx :: b) ↔ Boundary (a ++ [r]) r nx := by
  have h0 : (a ++ [r] ++ nx :: b)[a.length]? = some r := by simp
  have h1 : (a ++ [r] ++ nx :: b)[a.length + 1]? = some nx := by
    rw [List.getElem?_append_right (by simp)]; simp
  rw [end_iff_boundary _ a.length r nx h0 h1]
  have : (a ++ [r] ++ nx :: b).take (a.length + 1) = a ++ [r] := by
    rw [List.take_append_of_le_length (by simp)]
    exact List.take_of_length_le (by simp)
  rw [this]

theorem end_of_last (cs : List Cls) (h : cs ≠ []) : cs.length ∈ split cs := by
  rw [mem_split_iff]
  have : 0 < cs.length := List.length_pos_iff.mpr h
  exact ⟨by omega, by omega, Or.inl rfl⟩

/-- `[a, b)` is a cluster of `cs` -/
def IsCluster (cs : List Cls) (a b : Nat) : Prop :=
  (a = 0 ∨ a ∈ split cs) ∧ b ∈ split cs ∧ ∀ j, a < j → j < b → j ∉ split cs

/-! ### GB3, GB4, GB5: controls stand alone, CR LF stays together -/

/-- GB4, GB5: next to a Control, CR or LF there is a cluster end, except between CR and LF -/
theorem end_of_ctl (cs : List Cls) (i : Nat) (r nx : Cls) (h0 : cs[i]? = some r)
    (h1 : cs[i + 1]? = some nx) (hc : isCtl r ∨ isCtl nx) (h3 : ¬ (r = cr ∧ nx = lf)) :
    i + 1 ∈ split cs :=
  (end_iff_boundary cs i r nx h0 h1).mpr ⟨h3, hc.elim .inl fun h => .inr (.inl h)⟩

theorem end_after_ctl (cs : List Cls) (i : Nat) (c : Cls) (hi : cs[i]? = some c) (hc : isCtl c)
    (h3 : ¬ (c = cr ∧ cs[i + 1]? = some lf)) : i + 1 ∈ split cs := by
  have hlt := (List.getElem?_eq_some_iff.mp hi).1
  cases h1 : cs[i + 1]? with
  | some nx => exact end_of_ctl cs i c nx hi h1 (.inl hc) fun ⟨a, b⟩ => h3 ⟨a, by rw [h1, b]⟩
  | none =>
    have := List.getElem?_eq_none_iff.mp h1
    rw [show i + 1 = cs.length by omega]
    exact end_of_last cs (List.ne_nil_of_length_pos (by omega))

/-- a Control, CR or LF starts a cluster, unless it is the LF of a CR LF -/
theorem start_at_ctl (cs : List Cls) (i : Nat) (c : Cls) (hi : cs[i]? = some c) (hc : isCtl c)
    (h3 : ¬ (c = lf ∧ ∃ k, i = k + 1 ∧ cs[k]? = some cr)) : i = 0 ∨ i ∈ split cs := by
  cases i with
  | zero => exact .inl rfl
  | succ k =>
    have hlt := (List.getElem?_eq_some_iff.mp hi).1
    obtain ⟨r, h0⟩ : ∃ r, cs[k]? = some r := ⟨_, List.getElem?_eq_getElem (by omega)⟩
    exact .inr (end_of_ctl cs k r c h0 hi (.inr hc) fun ⟨a, b⟩ => h3 ⟨b, k, rfl, a ▸ h0⟩)

/-- a Control, CR or LF that is not half of a CR LF pair is a cluster by itself -/
theorem controls_alone (cs : List Cls) (i : Nat) (c : Cls) (hi : cs[i]? = some c) (hc : isCtl c)
    (hnext : ¬ (c = cr ∧ cs[i + 1]? = some lf))
    (hprev : ¬ (c = lf ∧ ∃ k, i = k + 1 ∧ cs[k]? = some cr)) : IsCluster cs i (i + 1) :=
  ⟨start_at_ctl cs i c hi hc hprev, end_after_ctl cs i c hi hc hnext, fun j h1 h2 => by omega⟩

/-- CR LF is a cluster: never split, and separated from both sides -/
theorem crlf_cluster (cs : List Cls) (i : Nat) (h0 : cs[i]? = some cr) (h1 : cs[i + 1]? = some lf) :
    IsCluster cs i (i + 2) := by
  refine ⟨start_at_ctl cs i cr h0 (.inr (.inl rfl)) (fun ⟨a, _⟩ => nomatch a),
    end_after_ctl cs (i + 1) lf h1 (.inr (.inr rfl)) (fun ⟨a, _⟩ => nomatch a), fun j h2 h3 => ?_⟩
  obtain rfl : j = i + 1 := by omega
  rw [end_iff_boundary cs i cr lf h0 h1]
  exact fun h => h.1 ⟨rfl, rfl⟩

/-! ### one-cluster criterion in the finite-state form -/

/-- no break between the prefix summarised by `q` and `l`, nor inside `l` -/
def noBrk (q : St) : List Cls → Bool
  | [] => true
  | c :: rest => !brkDfa q c && noBrk (δ q c) rest

theorem noBrk_cons (q : St) (c : Cls) (rest : List Cls) :
    noBrk q (c :: rest) = (!brkDfa q c && noBrk (δ q c) rest) := rfl

theorem splitQ_one (q : St) (i : Nat) (r : Cls) (rest : List Cls)
    (h : noBrk (δ q r) rest = true) : splitQ q i none (r :: rest) = [i + 1 + rest.length] := by
  induction rest generalizing q i r with
  | nil => simp [splitQ, brkD]
  | cons x xs ih =>
    simp only [noBrk_cons, Bool.and_eq_true, Bool.not_eq_true'] at h
    rw [splitQ_cons, look_cons, ih (δ q r) (i + 1) x h.2]
    simp only [brkD, h.1, Bool.false_eq_true, if_false, List.nil_append, List.length_cons]
    congr 1; omega

/-- a non-empty string with no inner break is ONE cluster -/
theorem one_cluster (r : Cls) (rest : List Cls) (h : noBrk (δ St.init r) rest = true) :
    split (r :: rest) = [(r :: rest).length] := by
  rw [split_eq_splitQ, splitQ_one _ _ _ _ h]
  simp only [List.length_cons]; congr 1; omega

/-! ### the context-free joins (GB3, GB6 – GB9b) as a table -/

def notCtl (c : Cls) : Bool := !(c == control || c == cr || c == lf)

def isMark (c : Cls) : Bool := c == extend || c == zwj || c == spacing

/-- the rules that need only the two neighbours: GB3, and (no control on either side) GB6, GB7,
GB8, GB9, GB9a, GB9b -/
def joins (r nx : Cls) : Bool :=
  (r == cr && nx == lf) ||
  (notCtl r && notCtl nx &&
    ((r == l && (nx == l || nx == v || nx == lv || nx == lvt)) ||
     ((r == lv || r == v) && (nx == v || nx == t)) ||
     ((r == lvt || r == t) && nx == t) ||
     isMark nx || r == prepend))

theorem notCtl_iff (c : Cls) : notCtl c = true ↔ ¬ isCtl c := by
  unfold isCtl; decide +revert

theorem isMark_iff (c : Cls) : isMark c = true ↔ (c = extend ∨ c = zwj ∨ c = spacing) := by
  decide +revert

theorem notCtl_of_isMark (c : Cls) (h : isMark c = true) : notCtl c = true := by
  cases c <;> first | rfl | cases h

theorem brkDfa_of_joins (q : St) (r nx : Cls) (hq : q.last = some r) (h : joins r nx = true) :
    brkDfa q nx = false := by
  have key : ∀ r nx : Cls, joins r nx = true →
      ∀ x ep re : Bool, brkDfa ⟨some r, x, ep, re⟩ nx = false := by decide +kernel
  obtain ⟨_, x, ep, re⟩ := q
  cases hq
  exact key r nx h x ep re

theorem joins_mark (r m : Cls) (hr : notCtl r = true) (hm : isMark m = true) : joins r m = true := by
  simp [joins, hr, hm, notCtl_of_isMark m hm]

theorem joins_prepend (x : Cls) (hx : notCtl x = true) : joins prepend x = true := by
  have h : notCtl prepend = true := rfl
  simp [joins, hx, h]

/-! ### strings whose neighbours are all joined by context-free rules -/

/-- every two neighbours in the list are joined by a context-free rule -/
def joinsChain : List Cls → Bool
  | a :: b :: tl => joins a b && joinsChain (b :: tl)
  | _ => true

theorem joinsChain_cons_cons (a b : Cls) (tl : List Cls) :
    joinsChain (a :: b :: tl) = true ↔ joins a b = true ∧ joinsChain (b :: tl) = true :=
  Bool.and_eq_true_iff

theorem noBrk_of_joinsChain (q : St) (r : Cls) (s : List Cls) (hq : q.last = some r)
    (h : joinsChain (r :: s) = true) : noBrk q s = true := by
  induction s generalizing q r with
  | nil => rfl
  | cons x xs ih =>
    obtain ⟨h1, h2⟩ := (joinsChain_cons_cons r x xs).1 h
    rw [noBrk_cons, brkDfa_of_joins q r x hq h1, ih (δ q x) x rfl h2]
    rfl

/-- a non-empty string in which all neighbours are joined by context-free rules is ONE cluster -/
theorem one_cluster_of_joins (s : List Cls) (hne : s ≠ []) (h : joinsChain s = true) :
    split s = [s.length] := by
  cases s with
  | nil => exact absurd rfl hne
  | cons r rest => exact one_cluster r rest (noBrk_of_joinsChain _ r rest rfl h)

/-- `r y* s` is a chain when `r y`, `y y`, `r s` and `y s` are -/
theorem joinsChain_cons_replicate (r y : Cls) (n : Nat) (s : List Cls) (hry : joins r y = true)
    (hyy : joins y y = true) (hrs : joinsChain (r :: s) = true) (hys : joinsChain (y :: s) = true) :
    joinsChain (r :: (List.replicate n y ++ s)) = true := by
  induction n generalizing r with
  | zero => exact hrs
  | succ n ih =>
    exact (joinsChain_cons_cons r y _).2 ⟨hry, ih y hyy hys⟩

/-- `y* s` is a chain when `y y` and `y s` are -/
theorem joinsChain_replicate (y : Cls) (n : Nat) (s : List Cls) (hyy : joins y y = true)
    (hys : joinsChain (y :: s) = true) : joinsChain (List.replicate n y ++ s) = true := by
  cases n with
  | zero =>
    cases s with
    | nil => rfl
    | cons x xs => exact ((joinsChain_cons_cons y x xs).1 hys).2
  | succ n => exact joinsChain_cons_replicate y y n s hyy hyy hys hys

theorem joinsChain_marks (x : Cls) (marks : List Cls) (hx : notCtl x = true)
    (hm : ∀ m ∈ marks, isMark m = true) : joinsChain (x :: marks) = true := by
  induction marks generalizing x with
  | nil => rfl
  | cons m ms ih =>
    have hm1 := hm m List.mem_cons_self
    exact (joinsChain_cons_cons x m ms).2 ⟨joins_mark x m hx hm1,
      ih m (notCtl_of_isMark m hm1) fun m' h => hm m' (List.mem_cons_of_mem _ h)⟩

/-! ### GB9, GB9a, GB9b: marks attach, also ill-formed leading marks -/

/-- any non-control base followed by any number of Extend / ZWJ / SpacingMark, in any order, is one
cluster -/
theorem marks_attach (x : Cls) (marks : List Cls) (hx : ¬ isCtl x)
    (hm : ∀ m ∈ marks, m = extend ∨ m = zwj ∨ m = spacing) :
    split (x :: marks) = [marks.length + 1] :=
  one_cluster_of_joins _ (List.cons_ne_nil _ _)
    (joinsChain_marks x marks ((notCtl_iff x).mpr hx) fun m h => (isMark_iff m).mpr (hm m h))

/-- ill-formed: marks with no base at the very start of the text are one cluster -/
theorem leading_marks (marks : List Cls) (hne : marks ≠ [])
    (hm : ∀ m ∈ marks, m = extend ∨ m = zwj ∨ m = spacing) : split marks = [marks.length] := by
  cases marks with
  | nil => exact absurd rfl hne
  | cons m ms =>
    have h1 : ¬ isCtl m := by
      rcases hm m List.mem_cons_self with h | h | h <;> subst h <;> simp [isCtl]
    exact marks_attach m ms h1 fun m' h => hm m' (List.mem_cons_of_mem _ h)

/-- any number of Prepend, then a non-control base, then any marks: one cluster -/
theorem prepend_attaches_marks (n : Nat) (x : Cls) (marks : List Cls) (hx : ¬ isCtl x)
    (hm : ∀ m ∈ marks, m = extend ∨ m = zwj ∨ m = spacing) :
    split (List.replicate n prepend ++ x :: marks) = [n + 1 + marks.length] := by
  have hx' := (notCtl_iff x).mpr hx
  rw [one_cluster_of_joins _ (by simp)]
  · simp only [List.length_cons, List.length_append, List.length_replicate]; congr 1; omega
  · exact joinsChain_replicate prepend n _ rfl ((joinsChain_cons_cons prepend x marks).2
      ⟨joins_prepend x hx', joinsChain_marks x marks hx' fun m h => (isMark_iff m).mpr (hm m h)⟩)

theorem prepend_attaches (n : Nat) (x : Cls) (hx : ¬ isCtl x) :
    split (List.replicate n prepend ++ [x]) = [n + 1] := by
  have := prepend_attaches_marks n x [] hx (by simp)
  simpa using this

/-! ### GB6, GB7, GB8: Hangul syllables -/

theorem joinsChain_cons_ts (y : Cls) (hy : joins y t = true) (c : Nat) :
    joinsChain (y :: List.replicate c t) = true := by
  simpa using joinsChain_cons_replicate y t c [] hy rfl rfl rfl

/-- a Hangul syllable sequence in the sense of UAX #29 Table 1b/1c -/
def IsHangulSyllable (s : List Cls) : Prop :=
  (∃ a b c x, (x = v ∨ x = lv) ∧ s = List.replicate a l ++ x :: (List.replicate b v ++ List.replicate c t)) ∨
  (∃ a c, s = List.replicate a l ++ lvt :: List.replicate c t) ∨
  (∃ a, s = List.replicate (a + 1) l)

/-- `L* (V | LV) V* T*`, `L* LVT T*` and `L+` are each one cluster, for all repetition counts: in
each form all neighbours are joined by GB6, GB7 or GB8 -/
theorem hangul_syllable (s : List Cls) (h : IsHangulSyllable s) : split s = [s.length] := by
  rcases h with ⟨a, b, c, x, hx, rfl⟩ | ⟨a, c, rfl⟩ | ⟨a, rfl⟩
  · have key : joins l x = true ∧
        joinsChain (x :: (List.replicate b v ++ List.replicate c t)) = true := by
      rcases hx with rfl | rfl <;>
        exact ⟨rfl, joinsChain_cons_replicate _ v b _ rfl rfl (joinsChain_cons_ts _ rfl c)
          (joinsChain_cons_ts v rfl c)⟩
    exact one_cluster_of_joins _ (by simp)
      (joinsChain_replicate l a _ rfl ((joinsChain_cons_cons l x _).2 key))
  · exact one_cluster_of_joins _ (by simp) (joinsChain_replicate l a _ rfl
      ((joinsChain_cons_cons l lvt _).2 ⟨rfl, joinsChain_cons_ts lvt rfl c⟩))
  · have := joinsChain_replicate l (a + 1) [] rfl rfl
    rw [List.append_nil] at this
    exact one_cluster_of_joins _ (by simp) this

/-! ### GB11: emoji ZWJ sequences -/

/-- what follows the first ExtPict in `(ExtPict Extend^k ZWJ)* ExtPict`; `ks` are the numbers of
Extend in each link -/
def emojiTail : List Nat → List Cls
  | [] => []
  | k :: ks => List.replicate k extend ++ zwj :: extpict :: emojiTail ks

/-- `ExtPict (Extend^k₁ ZWJ ExtPict) (Extend^k₂ ZWJ ExtPict) …` -/
def emojiSeq (ks : List Nat) : List Cls := extpict :: emojiTail ks

/-- the state after `… ExtPict` when the ExtPict started a cluster or followed a ZWJ link -/
def stEP : St := ⟨some extpict, true, false, false⟩

theorem noBrk_link (k : Nat) (x : Cls) (hx : x = extpict ∨ x = extend) (b c : Bool) (tl : List Cls) :
    noBrk ⟨some x, true, b, c⟩ (List.replicate k extend ++ zwj :: extpict :: tl) = noBrk stEP tl := by
  induction k generalizing x b c with
  | zero => rcases hx with rfl | rfl <;> cases b <;> cases c <;> rfl
  | succ k ih =>
    rw [List.replicate_succ, List.cons_append, noBrk_cons]
    have h1 : brkDfa ⟨some x, true, b, c⟩ extend = false := by
      rcases hx with rfl | rfl <;> cases b <;> cases c <;> rfl
    have h2 : δ ⟨some x, true, b, c⟩ extend = ⟨some extend, true, false, false⟩ := by
      cases c <;> rfl
    rw [h1, h2, ih extend (Or.inr rfl)]; rfl

theorem noBrk_emojiTail (ks : List Nat) : noBrk stEP (emojiTail ks) = true := by
  induction ks with
  | nil => rfl
  | cons k ks ih => rw [emojiTail, show stEP = ⟨some extpict, true, false, false⟩ from rfl,
      noBrk_link k extpict (Or.inl rfl)]; exact ih

/-- iterated emoji ZWJ sequence `(ExtPict Extend* ZWJ)^m ExtPict` is one cluster, for every number
of links and every number of Extend in each link -/
theorem emoji_zwj_seq (ks : List Nat) : split (emojiSeq ks) = [(emojiSeq ks).length] :=
  one_cluster extpict (emojiTail ks) (noBrk_emojiTail ks)

/-- `ExtPict Extend^k ZWJ ExtPict` is one cluster for every `k` -/
theorem emoji_zwj (k : Nat) :
    split ([extpict] ++ List.replicate k extend ++ [zwj, extpict]) = [k + 3] := by
  have h := emoji_zwj_seq [k]
  have e : (emojiSeq [k]).length = k + 3 := by simp [emojiSeq, emojiTail]
  rw [e] at h; exact h

/-- with TWO ZWJs in a row GB11 does not apply, whatever precedes: there is a boundary before the
ExtPict -/
theorem double_zwj_boundary (pre : List Cls) : Boundary (pre ++ [zwj, zwj]) zwj extpict := by
  rw [show pre ++ [zwj, zwj] = (pre ++ [zwj]) ++ [zwj] by simp, boundary_concat_iff,
    List.reverse_append]
  show brkCore zwj extpict false _ = true
  cases (countRI clsPreds _ % 2 == 0) <;> rfl

/-- … as a cluster end in any text -/
theorem double_zwj_end (cs : List Cls) (i : Nat) (h0 : cs[i]? = some zwj) (h1 : cs[i + 1]? = some zwj)
    (h2 : cs[i + 2]? = some extpict) : i + 2 ∈ split cs := by
  rw [end_iff_boundary cs (i + 1) zwj extpict h1 h2, take_succ_of_getElem? cs (i + 1) zwj h1,
    take_succ_of_getElem? cs i zwj h0, List.append_assoc]
  exact double_zwj_boundary _

theorem double_zwj_breaks : split [extpict, zwj, zwj, extpict] = [3, 4] := by decide +kernel

/-! ### GB12, GB13: runs of regional indicators -/

/-- cluster ends inside a run of `n` regional indicators: `2, 4, …` and a final `n` when `n` is odd -/
def riEnds : Nat → List Nat
  | 0 => []
  | 1 => [1]
  | n + 2 => 2 :: (riEnds n).map (· + 2)

theorem riEnds_length : ∀ n, (riEnds n).length = (n + 1) / 2
  | 0 => rfl
  | 1 => rfl
  | n + 2 => by rw [riEnds, List.length_cons, List.length_map, riEnds_length n]; omega

theorem riEnds_eq : ∀ n, riEnds n =
    (List.range (n / 2)).map (fun k => 2 * k + 2) ++ (if n % 2 = 1 then [n] else [])
  | 0 => rfl
  | 1 => rfl
  | n + 2 => by
    have e1 : (n + 2) / 2 = n / 2 + 1 := by omega
    have e2 : (n + 2) % 2 = n % 2 := by omega
    rw [riEnds, riEnds_eq n, e1, e2, List.range_succ_eq_map]
    simp only [List.map_cons, List.map_map, List.map_append, List.cons_append, Nat.mul_zero,
      Nat.zero_add]
    congr 2
    split <;> rfl

/-- from a state that has seen an even number of RI, a run of RI is cut into pairs -/
theorem splitQ_ri_run : ∀ (n : Nat) (q : St) (i : Nat), q.riOdd = false →
    splitQ q i none (List.replicate n ri) = (riEnds n).map (· + i)
  | 0, _, _, _ => rfl
  | 1, q, i, _ => by simp [splitQ, brkD, riEnds]; omega
  | n + 2, q, i, hq => by
    obtain ⟨l, x, z, o⟩ := q
    obtain rfl : o = false := hq
    -- no end after the first RI; after the second the parity is even again and the pair is closed
    have h1 : brkD (δ ⟨l, x, z, false⟩ ri) (some ri) = false := rfl
    have h2 : δ (δ ⟨l, x, z, false⟩ ri) ri = ⟨some ri, false, false, false⟩ := rfl
    have h3 : brkD ⟨some ri, false, false, false⟩ (look (List.replicate n ri) none) = true := by
      cases n <;> rfl
    rw [List.replicate_succ, List.replicate_succ, splitQ_cons, splitQ_cons, look_cons, h1, h2, h3,
      splitQ_ri_run n _ _ rfl, riEnds, List.map_cons, List.map_map]
    simp only [Bool.false_eq_true, if_false, if_true, List.nil_append, List.singleton_append]
    congr 1
    · omega
    · exact List.map_congr_left fun k _ => by simp only [Function.comp]; omega

/-- a run of `n` regional indicators at the start of the text: pairs from the start, `⌈n/2⌉` clusters -/
theorem ri_run_start (n : Nat) : split (List.replicate n ri) = riEnds n := by
  rw [split_eq_splitQ, splitQ_ri_run n _ 0 rfl]; simp

theorem run_riOdd_false (p : List Cls) (hp : p = [] ∨ ∃ q x, p = q ++ [x] ∧ x ≠ ri) :
    (run St.init p).riOdd = false := by
  rcases hp with rfl | ⟨q, x, rfl, hx⟩
  · rfl
  · rw [run_append]
    show (δ (run St.init q) x).riOdd = false
    have : (x == ri) = false := by simpa using hx
    simp [δ, this]

/-- a run of `n` regional indicators after any text that does not end in one (or at the start):
the cluster ends inside the run are exactly `|p| + 2, |p| + 4, …`, and `|p| + n` when `n` is odd -/
theorem ri_run_after (p : List Cls) (hp : p = [] ∨ ∃ q x, p = q ++ [x] ∧ x ≠ ri) (n : Nat) :
    (split (p ++ List.replicate n ri)).filter (fun j => decide (p.length < j)) =
      (riEnds n).map (· + p.length) := by
  rw [split_append_filter, splitQ_ri_run n _ _ (run_riOdd_false p hp)]

/-- GB12/13 as a boundary statement: inside a run of RI that starts the text
or follows a non-RI, no boundary after an odd number of them, a boundary after an even number -/
theorem ri_pairs_boundary (p : List Cls) (hp : p = [] ∨ ∃ q x, p = q ++ [x] ∧ x ≠ ri) (k : Nat) :
    Boundary (p ++ List.replicate (k + 1) ri) ri ri ↔ k % 2 = 1 := by
  rw [List.replicate_succ', ← List.append_assoc, boundary_concat_iff, List.reverse_append,
    List.reverse_replicate, countRI_replicate_append k _ (reverse_not_ends_ri hp)]
  have : k % 2 = 0 ∨ k % 2 = 1 := by omega
  rcases this with h | h <;> rw [h] <;> cases scanEP clsPreds _ <;> decide

/-- … in ANY continuation `s` of the text: strictly inside the run, `|p| + j` is a cluster end
exactly for even `j` (pairs from the start of the run, whatever follows the run) -/
theorem ri_run_inside (p s : List Cls) (hp : p = [] ∨ ∃ q x, p = q ++ [x] ∧ x ≠ ri) (n k : Nat)
    (hk : k + 1 < n) :
    p.length + (k + 1) ∈ split (p ++ List.replicate n ri ++ s) ↔ (k + 1) % 2 = 0 := by
  obtain ⟨m, rfl⟩ : ∃ m, n = k + (m + 2) := ⟨n - k - 2, by omega⟩
  have e : p ++ List.replicate (k + (m + 2)) ri ++ s =
      (p ++ List.replicate k ri) ++ [ri] ++ ri :: (List.replicate m ri ++ s) := by
    simp only [← List.replicate_append_replicate, List.replicate_succ, List.append_assoc,
      List.cons_append, List.nil_append]
  have hl : p.length + (k + 1) = (p ++ List.replicate k ri).length + 1 := by
    rw [List.length_append, List.length_replicate, Nat.add_assoc]
  rw [e, hl, end_append_iff, List.append_assoc, ← List.replicate_succ', ri_pairs_boundary p hp k]
  omega

/-- the run splits into `⌈n/2⌉` clusters -/
theorem ri_run_count (p : List Cls) (hp : p = [] ∨ ∃ q x, p = q ++ [x] ∧ x ≠ ri) (n : Nat) :
    ((split (p ++ List.replicate n ri)).filter (fun j => decide (p.length < j))).length = (n + 1) / 2 := by
  rw [ri_run_after p hp, List.length_map, riEnds_length]

/-! ### GB999: nothing else is joined -/

/-- the rule chain says "no break" exactly when a context-free rule, GB11 or GB12/13 applies -/
theorem brkCore_false_eq (r nx : Cls) (ep re : Bool) :
    (!brkCore r nx ep re) =
      (joins r nx || ((r == zwj && ep && nx == extpict) || (r == ri && re && nx == ri))) := by
  decide +revert +kernel

/-- no boundary ⇒ one of the context-free rules joins the two neighbours, or the GB11 context, or the
GB12/13 context holds; and conversely -/
theorem no_boundary_iff (p : List Cls) (r nx : Cls) :
    ¬ Boundary (p ++ [r]) r nx ↔
      (joins r nx = true ∨ (GB11ctx (p ++ [r]) ∧ nx = extpict) ∨ (GB1213ctx (p ++ [r]) ∧ nx = ri)) := by
  rw [boundary_concat_iff, gb11ctx_concat, gb1213ctx_concat, Bool.not_eq_true, ← Bool.not_eq_true',
    brkCore_false_eq]
  simp only [Bool.or_eq_true, Bool.and_eq_true, beq_iff_eq]

/-- **nothing else joined**, over `split`: two neighbours inside one cluster are joined by a named rule -/
theorem joined_only_by_rule (cs : List Cls) (i : Nat) (r nx : Cls) (h0 : cs[i]? = some r)
    (h1 : cs[i + 1]? = some nx) (h : i + 1 ∉ split cs) :
    joins r nx = true ∨ (GB11ctx (cs.take (i + 1)) ∧ nx = extpict) ∨
      (GB1213ctx (cs.take (i + 1)) ∧ nx = ri) := by
  rw [end_iff_boundary cs i r nx h0 h1, take_succ_of_getElem? cs i r h0] at h
  rw [take_succ_of_getElem? cs i r h0]
  exact (no_boundary_iff _ r nx).mp h

/-- the pairs that break whatever precedes: no context-free rule joins them and they are neither
ZWJ × ExtPict nor RI × RI (so Other · Other, Other · ExtPict, Hangul · Other, …) -/
def plainBreak (r nx : Cls) : Bool :=
  !joins r nx && !(r == zwj && nx == extpict) && !(r == ri && nx == ri)

theorem boundary_of_plainBreak (p : List Cls) (r nx : Cls) (h : plainBreak r nx = true) :
    Boundary (p ++ [r]) r nx := by
  simp only [plainBreak, Bool.and_eq_true, Bool.not_eq_true', Bool.and_eq_false_iff,
    beq_eq_false_iff_ne] at h
  obtain ⟨⟨hj, h11⟩, h12⟩ := h
  apply Classical.byContradiction
  intro hb
  -- GB11 and GB12/13 need `r` to be ZWJ resp. RI, whatever the context
  rcases (no_boundary_iff p r nx).mp hb with hb | ⟨hb, hn⟩ | ⟨hb, hn⟩
  · rw [hj] at hb; cases hb
  · exact h11.elim (· ((gb11ctx_concat p r).mp hb).1) (· hn)
  · exact h12.elim (· ((gb1213ctx_concat p r).mp hb).1) (· hn)

/-! ### non-vacuity -/

example : IsCluster [other, control, other] 1 2 :=
  controls_alone _ 1 control rfl (Or.inl rfl) (by simp) (by simp)
example : IsCluster [other, cr, lf, lf] 1 3 := crlf_cluster _ 1 rfl rfl
example : IsHangulSyllable [l, l, lv, v, t, t] := Or.inl ⟨2, 1, 2, lv, Or.inr rfl, rfl⟩
example : split [l, l, lv, v, t, t] = [6] := hangul_syllable _ (Or.inl ⟨2, 1, 2, lv, Or.inr rfl, rfl⟩)
example : split [extpict, zwj, extend, spacing, zwj] = [5] :=
  marks_attach extpict [zwj, extend, spacing, zwj] (by simp [isCtl]) (by simp)
example : split [zwj, extend, spacing] = [3] := leading_marks _ (by simp) (by simp)
example : split [prepend, prepend, other] = [3] := prepend_attaches 2 other (by simp [isCtl])
example : emojiSeq [2, 0, 1] =
    [extpict, extend, extend, zwj, extpict, zwj, extpict, extend, zwj, extpict] := rfl
example : split (emojiSeq [2, 0, 1]) = [10] := emoji_zwj_seq _
example : riEnds 5 = [2, 4, 5] ∧ riEnds 4 = [2, 4] := ⟨rfl, rfl⟩
example : split (List.replicate 5 ri) = [2, 4, 5] := ri_run_start 5
example : 2 + (1 + 1) ∈ split ([other, prepend] ++ List.replicate 5 ri ++ [extend, other]) :=
  (ri_run_inside [other, prepend] [extend, other] (Or.inr ⟨[other], prepend, rfl, by decide⟩) 5 1
    (by omega)).mpr rfl
example : (split ([other, prepend] ++ List.replicate 3 ri)).filter (fun j => decide (2 < j)) = [4, 5] :=
  ri_run_after [other, prepend] (Or.inr ⟨[other], prepend, rfl, by decide⟩) 3
example : plainBreak other other = true ∧ plainBreak other extpict = true ∧
    plainBreak extpict extpict = true ∧ plainBreak l other = true ∧ plainBreak v other = true ∧
    plainBreak t other = true ∧ plainBreak lv other = true ∧ plainBreak lvt other = true ∧
    plainBreak extend other = true ∧ plainBreak zwj other = true ∧ plainBreak other ri = true ∧
    plainBreak t v = true ∧ plainBreak lvt v = true ∧ plainBreak v l = true := by decide
example (p : List Cls) : Boundary (p ++ [extpict]) extpict extpict := boundary_of_plainBreak p _ _ rfl

end RosedVerif
