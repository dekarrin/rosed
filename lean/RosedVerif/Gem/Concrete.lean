/-
Source-faithful predicates over the regenerated tables and the fast classifier.
Executable, core-only.
-/
import RosedVerif.Gem.Cls
import RosedVerif.Gen.Tables
namespace RosedVerif
open Gen

/-- the 14 Go predicates, each over its own regenerated table (source order) -/
structure Preds (ρ : Type) where
  prepend : ρ → Bool
  cr : ρ → Bool
  lf : ρ → Bool
  control : ρ → Bool
  extend : ρ → Bool
  ri : ρ → Bool
  spacing : ρ → Bool
  l : ρ → Bool
  v : ρ → Bool
  t : ρ → Bool
  lv : ρ → Bool
  lvt : ρ → Bool
  zwj : ρ → Bool
  extpict : ρ → Bool

/-- the predicates exactly as the Go source defines them -/
def goPreds : Preds Int where
  prepend := isCb isCbPrependRanges
  cr := isCb isCbCRRanges
  lf := isCb isCbLFRanges
  control := isCb isCbControlRanges
  extend := isCb isCbExtendRanges
  ri := isCb isCbRegionalIndicatorRanges
  spacing := isCb isCbSpacingMarkRanges
  l := isCb isCbLRanges
  v := isCb isCbVRanges
  t := isCb isCbTRanges
  lv := isCb isCbLVRanges
  lvt := isCb isCbLVTRanges
  zwj := isCb isCbZWJRanges
  extpict := isCb isExtPictoRanges

def clsPreds : Preds Cls where
  prepend := (· == .prepend)
  cr := (· == .cr)
  lf := (· == .lf)
  control := (· == .control)
  extend := (· == .extend)
  ri := (· == .ri)
  spacing := (· == .spacing)
  l := (· == .l)
  v := (· == .v)
  t := (· == .t)
  lv := (· == .lv)
  lvt := (· == .lvt)
  zwj := (· == .zwj)
  extpict := (· == .extpict)

@[simp] theorem clsPreds_prepend (c : Cls) : clsPreds.prepend c = (c == .prepend) := rfl
@[simp] theorem clsPreds_cr (c : Cls) : clsPreds.cr c = (c == .cr) := rfl
@[simp] theorem clsPreds_lf (c : Cls) : clsPreds.lf c = (c == .lf) := rfl
@[simp] theorem clsPreds_control (c : Cls) : clsPreds.control c = (c == .control) := rfl
@[simp] theorem clsPreds_extend (c : Cls) : clsPreds.extend c = (c == .extend) := rfl
@[simp] theorem clsPreds_ri (c : Cls) : clsPreds.ri c = (c == .ri) := rfl
@[simp] theorem clsPreds_spacing (c : Cls) : clsPreds.spacing c = (c == .spacing) := rfl
@[simp] theorem clsPreds_l (c : Cls) : clsPreds.l c = (c == .l) := rfl
@[simp] theorem clsPreds_v (c : Cls) : clsPreds.v c = (c == .v) := rfl
@[simp] theorem clsPreds_t (c : Cls) : clsPreds.t c = (c == .t) := rfl
@[simp] theorem clsPreds_lv (c : Cls) : clsPreds.lv c = (c == .lv) := rfl
@[simp] theorem clsPreds_lvt (c : Cls) : clsPreds.lvt c = (c == .lvt) := rfl
@[simp] theorem clsPreds_zwj (c : Cls) : clsPreds.zwj c = (c == .zwj) := rfl
@[simp] theorem clsPreds_extpict (c : Cls) : clsPreds.extpict c = (c == .extpict) := rfl

/-- the table of class `X` as written in the Go source -/
def goTable : Cls → List (Nat × Nat)
  | .other => []
  | .cr => isCbCRRanges | .lf => isCbLFRanges | .control => isCbControlRanges
  | .extend => isCbExtendRanges | .zwj => isCbZWJRanges | .ri => isCbRegionalIndicatorRanges
  | .prepend => isCbPrependRanges | .spacing => isCbSpacingMarkRanges
  | .l => isCbLRanges | .v => isCbVRanges | .t => isCbTRanges
  | .lv => isCbLVRanges | .lvt => isCbLVTRanges | .extpict => isExtPictoRanges

/-- fast classifier used by the executable model -/
def classOf (r : Int) : Cls := if r < 0 then .other else Gen.tree.lookup r.toNat

end RosedVerif
