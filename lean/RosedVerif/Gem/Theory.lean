/-
Consequences of the finite-state form used everywhere else: boundaries
partition the string; segmentation is context-free at boundaries (a slice
between two boundaries segments exactly as it does inside the whole string).
-/
import RosedVerif.Gem.Dfa
import RosedVerif.Gem.ListFacts
namespace RosedVerif
open Cls

/-- `brkDfa` against an optional successor: the end of the text is a boundary (GB2) -/
def brkD (q : St) : Option Cls → Bool
  | none => true
  | some nx => brkDfa q nx

/-- the state after reading `l`, in reading order, from `q`; `stateOf` is the same from `St.init`
on a prefix given in reversed order -/
def run (q : St) (l : List Cls) : St := l.foldl δ q

/-- the element that follows: head of `rest`, or `after` when `rest` is exhausted -/
def look (rest : List Cls) (after : Option Cls) : Option Cls :=
  match rest with
  | [] => after
  | x :: _ => some x

@[simp] theorem look_nil (a : Option Cls) : look [] a = a := rfl
@[simp] theorem look_cons (x : Cls) (xs : List Cls) (a : Option Cls) : look (x :: xs) a = some x := rfl
theorem look_append (l1 l2 : List Cls) (a : Option Cls) : look (l1 ++ l2) a = look l1 (look l2 a) := by
  cases l1 <;> rfl
theorem look_none (rest : List Cls) : look rest none = rest.head? := by cases rest <;> rfl

/-- state-based splitter with an explicit look-ahead `after` for the last element -/
def splitQ (q : St) (i : Nat) (after : Option Cls) : List Cls → List Nat
  | [] => []
  | r :: rest =>
    if brkD (δ q r) (look rest after) then (i + 1) :: splitQ (δ q r) (i + 1) after rest
    else splitQ (δ q r) (i + 1) after rest

theorem splitAux_eq_splitQ (before : List Cls) (i : Nat) (rs : List Cls) :
    splitAux clsPreds before i rs = splitQ (stateOf before) i none rs := by
  induction rs generalizing before i with
  | nil => rfl
  | cons r rest ih =>
    have hb : brk clsPreds before r rest.head? = brkD (δ (stateOf before) r) (look rest none) := by
      cases rest with
      | nil => rfl
      | cons x xs => exact brk_eq_dfa before r x
    simp only [splitAux, splitQ, hb]
    rw [ih (r :: before) (i + 1)]
    rfl

theorem split_eq_splitQ (cs : List Cls) : split cs = splitQ St.init 0 none cs :=
  splitAux_eq_splitQ [] 0 cs

theorem run_append (q : St) (a b : List Cls) : run q (a ++ b) = run (run q a) b := by
  simp [run, List.foldl_append]

theorem run_cons (q : St) (r : Cls) (rest : List Cls) : run q (r :: rest) = run (δ q r) rest := rfl

theorem good_run (q : St) (l : List Cls) (h : good q = true) : good (run q l) = true := by
  induction l generalizing q with
  | nil => exact h
  | cons c tl ih => exact ih (δ q c) (good_step q c h)

theorem splitQ_shift (q : St) (i k : Nat) (after : Option Cls) (l : List Cls) :
    splitQ q (i + k) after l = (splitQ q i after l).map (· + k) := by
  induction l generalizing q i with
  | nil => rfl
  | cons r rest ih =>
    have e : i + k + 1 = (i + 1) + k := by omega
    simp only [splitQ, e, ih]
    split <;> simp

theorem splitQ_append (q : St) (i : Nat) (after : Option Cls) (l1 l2 : List Cls) :
    splitQ q i after (l1 ++ l2) =
      splitQ q i (look l2 after) l1 ++ splitQ (run q l1) (i + l1.length) after l2 := by
  induction l1 generalizing q i with
  | nil => simp [splitQ, run]
  | cons r rest ih =>
    have e2 : i + 1 + rest.length = i + (rest.length + 1) := by omega
    simp only [List.cons_append, splitQ, look_append, ih (δ q r) (i + 1), List.length_cons,
      run_cons, e2]
    split <;> simp

theorem splitQ_cons (q : St) (i : Nat) (after : Option Cls) (r : Cls) (rest : List Cls) :
    splitQ q i after (r :: rest) =
      (if brkD (δ q r) (look rest after) then [i + 1] else []) ++ splitQ (δ q r) (i + 1) after rest := by
  simp only [splitQ]; split <;> simp

/-- the last element is decided against the look-ahead; every earlier one against its successor -/
theorem splitQ_concat (q : St) (i : Nat) (after : Option Cls) (l : List Cls) (x : Cls) :
    splitQ q i after (l ++ [x]) =
      splitQ q i (some x) l ++ if brkD (run q (l ++ [x])) after then [i + l.length + 1] else [] := by
  rw [splitQ_append, run_append]; rfl

/-- only the last decision depends on the look-ahead -/
theorem splitQ_after (q : St) (i : Nat) (a1 a2 : Option Cls) (l : List Cls)
    (h : brkD (run q l) a1 = brkD (run q l) a2) (hl : l ≠ []) :
    splitQ q i a1 l = splitQ q i a2 l := by
  obtain ⟨l, x, rfl⟩ := exists_concat hl
  rw [splitQ_concat, splitQ_concat, h]

/-- restart: at a boundary the suffix segments as a fresh text -/
theorem splitQ_restart (q : St) (i : Nat) (after : Option Cls) (l : List Cls)
    (hg : good q = true) (hb : brkD q l.head? = true) :
    splitQ q i after l = splitQ St.init i after l := by
  cases l with
  | nil => rfl
  | cons r rest =>
    have hr : brkDfa q r = true := hb
    simp only [splitQ, reset q r hg hr]

/-- every end lies in (i, i + |l|] -/
theorem splitQ_bounds (q : St) (i : Nat) (after : Option Cls) (l : List Cls) :
    ∀ j ∈ splitQ q i after l, i < j ∧ j ≤ i + l.length := by
  induction l generalizing q i with
  | nil => simp [splitQ]
  | cons r rest ih =>
    intro j hj
    simp only [splitQ] at hj
    have key : ∀ j ∈ splitQ (δ q r) (i + 1) after rest, i < j ∧ j ≤ i + (r :: rest).length := by
      intro j hj
      have := ih (δ q r) (i + 1) j hj
      simp only [List.length_cons]; omega
    split at hj
    · rcases List.mem_cons.mp hj with h | h
      · subst h; simp only [List.length_cons]; omega
      · exact key j h
    · exact key j hj

theorem splitQ_sorted (q : St) (i : Nat) (after : Option Cls) (l : List Cls) :
    (splitQ q i after l).Pairwise (· < ·) := by
  induction l generalizing q i with
  | nil => simp [splitQ]
  | cons r rest ih =>
    simp only [splitQ]
    split
    · refine List.pairwise_cons.mpr ⟨?_, ih _ _⟩
      intro j hj
      have := splitQ_bounds (δ q r) (i + 1) after rest j hj
      omega
    · exact ih _ _

/-- with no look-ahead the text end is a cluster end: the list ends with `i + |l|` -/
theorem splitQ_last (q : St) (i : Nat) (l : List Cls) (hl : l ≠ []) :
    ∃ ini, splitQ q i none l = ini ++ [i + l.length] := by
  obtain ⟨l, x, rfl⟩ := exists_concat hl
  exact ⟨_, by rw [splitQ_concat, List.length_append]; rfl⟩

/-- the top position `i + |l|` is an end iff the last decision says so -/
theorem top_mem_splitQ (q : St) (i : Nat) (after : Option Cls) (l : List Cls) (hl : l ≠ []) :
    (i + l.length) ∈ splitQ q i after l ↔ brkD (run q l) after = true := by
  obtain ⟨l, x, rfl⟩ := exists_concat hl
  rw [splitQ_concat, List.mem_append, List.length_append]
  constructor
  · rintro (h | h)
    · have := splitQ_bounds _ _ _ _ _ h
      simp only [List.length_cons, List.length_nil] at this; omega
    · split at h
      · assumption
      · cases h
  · intro h; right; rw [if_pos h]; exact List.mem_singleton.mpr rfl

/-- a junction inside the text is a cluster end iff the decision there says so … -/
theorem mem_splitQ_append_iff (q : St) (i : Nat) (after : Option Cls) (p s : List Cls) (hp : p ≠ []) :
    i + p.length ∈ splitQ q i after (p ++ s) ↔ brkD (run q p) (look s after) = true := by
  rw [splitQ_append, List.mem_append, top_mem_splitQ q i _ p hp]
  refine or_iff_left fun h => ?_
  have := splitQ_bounds _ _ _ _ _ h
  omega

/-- … and then the two sides segment independently, the right one as a fresh text -/
theorem splitQ_append_of_mem (q : St) (i : Nat) (after : Option Cls) (p s : List Cls)
    (hg : good q = true) (hp : p ≠ []) (h : i + p.length ∈ splitQ q i after (p ++ s)) :
    splitQ q i after (p ++ s) = splitQ q i none p ++ splitQ St.init (i + p.length) after s := by
  have hb := (mem_splitQ_append_iff q i after p s hp).mp h
  rw [splitQ_append, splitQ_after q i _ none p (by rw [hb]; rfl) hp]
  congr 1
  cases s with
  | nil => rfl
  | cons x xs => exact splitQ_restart _ _ _ _ (good_run _ _ hg) hb

/-- the cluster ends beyond a junction are those of the right part, read from the state the left
part leaves behind -/
theorem split_append_filter (p s : List Cls) :
    (split (p ++ s)).filter (fun j => decide (p.length < j)) =
      splitQ (run St.init p) p.length none s := by
  have h1 : ∀ j ∈ splitQ St.init 0 (look s none) p, ¬ decide (p.length < j) = true := fun j hj => by
    have := (splitQ_bounds _ _ _ _ j hj).2
    simp only [decide_eq_true_eq]; omega
  have h2 : ∀ j ∈ splitQ (run St.init p) (0 + p.length) none s, decide (p.length < j) = true :=
    fun j hj => by
      have := (splitQ_bounds _ _ _ _ j hj).1
      simp only [decide_eq_true_eq]; omega
  rw [split_eq_splitQ, splitQ_append, List.filter_append, List.filter_eq_nil_iff.2 h1,
    List.filter_eq_self.2 h2, List.nil_append, Nat.zero_add]

theorem split_sorted (cs : List Cls) : (split cs).Pairwise (· < ·) := by
  rw [split_eq_splitQ]; exact splitQ_sorted _ _ _ _

theorem split_bounds (cs : List Cls) : ∀ j ∈ split cs, 0 < j ∧ j ≤ cs.length := by
  rw [split_eq_splitQ]
  intro j hj
  have := splitQ_bounds St.init 0 none cs j hj
  omega

theorem split_last (cs : List Cls) (h : cs ≠ []) : ∃ ini, split cs = ini ++ [cs.length] := by
  rw [split_eq_splitQ]
  obtain ⟨ini, hi⟩ := splitQ_last St.init 0 cs h
  exact ⟨ini, by simpa using hi⟩

theorem split_nil : split [] = [] := rfl

/-- **context-freeness at boundaries**, by positions: between two cluster ends `a < b` (or from the
start of the text) the text segments on its own, and so do the parts before and after -/
theorem split_between (cs : List Cls) (a b : Nat) (ha : a = 0 ∨ a ∈ split cs) (hb : b ∈ split cs)
    (hab : a < b) :
    split cs = split (cs.take a) ++ (split ((cs.drop a).take (b - a))).map (· + a) ++
      splitQ St.init b none (cs.drop b) := by
  have hbn : b ≤ cs.length := (split_bounds cs b hb).2
  generalize hp : cs.take a = p
  generalize hm : (cs.drop a).take (b - a) = m
  generalize hs : cs.drop b = s
  have hpl : p.length = a := by rw [← hp, List.length_take]; omega
  have hml : m.length = b - a := by rw [← hm, List.length_take, List.length_drop]; omega
  have hcs : cs = p ++ (m ++ s) := by
    rw [← hp, ← hm, ← hs, show cs.drop b = (cs.drop a).drop (b - a) by rw [List.drop_drop]; congr 1; omega,
      List.take_append_drop, List.take_append_drop]
  have hmne : m ≠ [] := fun h => by rw [h] at hml; simp at hml; omega
  -- the junction at `a`
  have e1 : split cs = split p ++ splitQ St.init a none (m ++ s) := by
    rcases ha with rfl | ha
    · rw [List.eq_nil_of_length_eq_zero hpl] at hcs ⊢; rw [hcs, split_eq_splitQ]; rfl
    · have hpne : p ≠ [] := fun h => by
        rw [h] at hpl; have := (split_bounds cs a ha).1; simp at hpl; omega
      rw [hcs, split_eq_splitQ, ← hpl, ← Nat.zero_add p.length] at ha
      rw [hcs, split_eq_splitQ, split_eq_splitQ, splitQ_append_of_mem _ _ _ _ _ good_init hpne ha,
        Nat.zero_add, hpl]
  -- the junction at `b`
  have hb' : a + m.length ∈ splitQ St.init a none (m ++ s) := by
    rw [e1] at hb
    rcases List.mem_append.mp hb with h | h
    · have := (split_bounds p b h).2; omega
    · rwa [hml, show a + (b - a) = b by omega]
  rw [e1, splitQ_append_of_mem _ _ _ _ _ good_init hmne hb', hml, show a + (b - a) = b by omega,
    ← List.append_assoc, split_eq_splitQ m]
  congr 2
  simpa using splitQ_shift St.init 0 a none m

/-- the same by cluster indexes: the slice of `cs` between the `st`-th and the `en`-th cluster
boundary segments on its own exactly as it does inside `cs` -/
theorem split_slice (cs : List Cls) (st en : Nat) (h1 : st < en) (h2 : en ≤ (split cs).length) :
    split ((cs.drop (if st > 0 then (split cs).getD (st - 1) 0 else 0)).take
        ((split cs).getD (en - 1) 0 - (if st > 0 then (split cs).getD (st - 1) 0 else 0))) =
      (((split cs).drop st).take (en - st)).map
        (· - (if st > 0 then (split cs).getD (st - 1) 0 else 0)) := by
  have hsort := split_sorted cs
  have hbnd := split_bounds cs
  generalize ha : (if st > 0 then (split cs).getD (st - 1) 0 else 0) = a
  generalize hb : (split cs).getD (en - 1) 0 = b
  have hbk : (split cs)[en - 1]? = some b := hb ▸ getD_eq_some _ _ (by omega)
  have hbm : b ∈ split cs := List.mem_of_getElem? hbk
  have hak : 0 < st → (split cs)[st - 1]? = some a := fun h0 => by
    rw [← ha, if_pos h0]; exact getD_eq_some _ _ (by omega)
  have ham : a = 0 ∨ a ∈ split cs := by
    by_cases h0 : 0 < st
    · exact Or.inr (List.mem_of_getElem? (hak h0))
    · rw [← ha, if_neg h0]; exact Or.inl rfl
  have hab : a < b := by
    by_cases h0 : 0 < st
    · obtain ⟨_, ea⟩ := List.getElem?_eq_some_iff.mp (hak h0)
      obtain ⟨_, eb⟩ := List.getElem?_eq_some_iff.mp hbk
      rw [← ea, ← eb]
      exact (List.pairwise_iff_getElem.mp hsort) (st - 1) (en - 1) _ _ (by omega)
    · rw [← ha, if_neg h0]; exact (hbnd b hbm).1
  have hD := split_between cs a b ham hbm hab
  have bX : ∀ j ∈ split (cs.take a), j ≤ a := fun j hj => by
    have := (split_bounds _ j hj).2; rw [List.length_take] at this; omega
  have bY : ∀ j ∈ (split ((cs.drop a).take (b - a))).map (· + a), a < j ∧ j ≤ b := fun j hj => by
    obtain ⟨k, hk, rfl⟩ := List.mem_map.mp hj
    have := split_bounds _ k hk; rw [List.length_take] at this; omega
  have bZ : ∀ j ∈ splitQ St.init b none (cs.drop b), b < j := fun j hj =>
    (splitQ_bounds _ _ _ _ j hj).1
  generalize hX : split (cs.take a) = X at hD bX
  generalize hY : (split ((cs.drop a).take (b - a))).map (· + a) = Y at hD bY
  generalize splitQ St.init b none (cs.drop b) = Z at hD bZ
  rw [hD] at hsort hak hbk ⊢
  -- `a` is the last element of `X`, `b` the last of `X ++ Y`: this fixes the two lengths
  have hXlen : X.length = st := by
    by_cases h0 : 0 < st
    · rw [List.append_assoc] at hsort hak
      have := sorted_prefix_length X (Y ++ Z) hsort (st - 1) a (hak h0) bX fun j hj => by
        rcases List.mem_append.mp hj with h | h
        · exact (bY j h).1
        · have := bZ j h; omega
      omega
    · rw [← hX, ← ha, if_neg h0]; have : st = 0 := by omega
      rw [this]; rfl
  have hYlen : (X ++ Y).length = en := by
    have := sorted_prefix_length (X ++ Y) Z hsort (en - 1) b hbk (fun j hj => by
      rcases List.mem_append.mp hj with h | h
      · have := bX j h; omega
      · exact (bY j h).2) bZ
    omega
  rw [List.length_append] at hYlen
  rw [List.append_assoc, ← hXlen, List.drop_left, show en - X.length = Y.length by omega,
    List.take_left, ← hY, List.map_map]
  exact (List.map_id'' (fun x => Nat.add_sub_cancel x a) _).symm
end RosedVerif
