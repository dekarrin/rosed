/-
The break decision is a function of a FINITE state of the prefix.  Across every
boundary the automaton steps exactly as from its fresh state (`reset`, checked by
kernel evaluation over all states × classes), which gives context-freeness of the
segmentation at boundaries for strings of any length by plain induction.
-/
import RosedVerif.Gem.SpecProof
namespace RosedVerif
open Cls

structure St where
  last : Option Cls
  epx : Bool      -- prefix ends with  ExtPict Extend*
  epz : Bool      -- prefix ends with  ExtPict Extend* ZWJ
  riOdd : Bool    -- odd number of trailing RI
  deriving DecidableEq, Repr

def St.init : St := ⟨none, false, false, false⟩

def δ (q : St) (c : Cls) : St :=
  ⟨some c, c == extpict || (c == extend && q.epx), c == zwj && q.epx, c == ri && !q.riOdd⟩

/-- state after reading a prefix given in REVERSED order (as `shouldBreakAfter` sees it) -/
def stateOf : List Cls → St
  | [] => St.init
  | c :: tl => δ (stateOf tl) c

/-- decision between the prefix summarised by `q` (whose last element is `q.last`) and `nx` -/
def brkDfa (q : St) (nx : Cls) : Bool :=
  match q.last with
  | none => true
  | some r =>
    if r == cr && nx == lf then false
    else if r == control || r == cr || r == lf then true
    else if nx == control || nx == cr || nx == lf then true
    else if r == l && (nx == l || nx == v || nx == lv || nx == lvt) then false
    else if (r == lv || r == v) && (nx == v || nx == t) then false
    else if (r == lvt || r == t) && nx == t then false
    else if nx == extend || nx == zwj then false
    else if nx == spacing then false
    else if r == prepend then false
    else if q.epz && nx == extpict then false
    else if q.riOdd && nx == ri then false
    else true

theorem stateOf_epx (l : List Cls) : (stateOf l).epx = scanEP clsPreds l := by
  induction l with
  | nil => rfl
  | cons c tl ih =>
    show (c == extpict || (c == extend && (stateOf tl).epx)) =
      if !(c == extend) then c == extpict else scanEP clsPreds tl
    rw [ih]
    by_cases h : c = extend
    · subst h; rfl
    · rw [beq_eq_false_iff_ne.2 h, Bool.false_and, Bool.or_false]; rfl

theorem stateOf_riOdd (l : List Cls) : (stateOf l).riOdd = (countRI clsPreds l % 2 == 1) := by
  induction l with
  | nil => rfl
  | cons c tl ih =>
    show (c == ri && !(stateOf tl).riOdd) =
      ((if !(c == ri) then 0 else countRI clsPreds tl + 1) % 2 == 1)
    rw [ih]
    by_cases h : c = ri
    · subst h
      show (!(countRI clsPreds tl % 2 == 1)) = ((countRI clsPreds tl + 1) % 2 == 1)
      rcases Nat.mod_two_eq_zero_or_one (countRI clsPreds tl) with e | e <;>
        rw [Nat.add_mod, e] <;> rfl
    · rw [beq_eq_false_iff_ne.2 h]; rfl

theorem stateOf_last (c : Cls) (tl : List Cls) : (stateOf (c :: tl)).last = some c := rfl

theorem stateOf_epz (c : Cls) (tl : List Cls) :
    (stateOf (c :: tl)).epz = (c == zwj && scanEP clsPreds tl) := by
  simp only [stateOf, δ, stateOf_epx]

/-- `brkDfa` is `brkCore` with the two context bits read off the state -/
theorem brkDfa_eq_core (r nx : Cls) (x ep re : Bool) :
    brkDfa ⟨some r, x, r == zwj && ep, r == ri && re⟩ nx = brkCore r nx ep re := by
  simp only [brkDfa, brkCore, Bool.and_right_comm _ ep, Bool.and_right_comm _ re]

theorem brk_eq_dfa (before : List Cls) (r nx : Cls) :
    brk clsPreds before r (some nx) = brkDfa (stateOf (r :: before)) nx := by
  -- the chain tests `count % 2 == 0`; that is `!riOdd`, `riOdd` being `count % 2 == 1`
  rw [brk_eq_core, ← brkDfa_eq_core r nx (stateOf (r :: before)).epx, ← stateOf_epx,
    ← Nat.mod_two_bne_one, bne, ← stateOf_riOdd]
  rfl

/-! ### reachable-state invariant and the reset lemma, by kernel evaluation over the 128 states -/

instance (P : Option Cls → Prop) [DecidablePred P] : Decidable (∀ o, P o) :=
  decidable_of_iff (P none ∧ ∀ c, P (some c))
    ⟨fun h o => o.rec h.1 h.2, fun h => ⟨h none, fun c => h (some c)⟩⟩

instance St.decidableForall (P : St → Prop) [DecidablePred P] : Decidable (∀ q, P q) :=
  decidable_of_iff (∀ l a b c, P ⟨l, a, b, c⟩) ⟨fun h q => h q.last q.epx q.epz q.riOdd, fun h _ _ _ _ => h _⟩

/-- invariant of reachable states -/
def good (q : St) : Bool :=
  (!q.epx || q.last == some extpict || q.last == some extend) &&
  (!q.epz || q.last == some zwj) && (!q.riOdd || q.last == some ri)

theorem good_init : good St.init = true := rfl

theorem good_step (q : St) (c : Cls) (h : good q = true) : good (δ q c) = true :=
  (by decide +kernel : ∀ q, good q = true → ∀ c, good (δ q c) = true) q h c

theorem good_stateOf (l : List Cls) : good (stateOf l) = true := by
  induction l with
  | nil => rfl
  | cons c tl ih => exact good_step _ c ih

/-- after every boundary the automaton is exactly in the state a fresh text would be in -/
theorem reset (q : St) (c : Cls) (hg : good q = true) (hb : brkDfa q c = true) : δ q c = δ St.init c :=
  (by decide +kernel : ∀ q, good q = true → ∀ c, brkDfa q c = true → δ q c = δ St.init c) q hg c hb

end RosedVerif
