/-
Proof that the class-level transliteration of the Go rule chain equals the
UAX #29 specification (`Spec`), for every class string.
-/
import RosedVerif.Gem.Rules
import RosedVerif.Gem.Spec
namespace RosedVerif
open Cls Spec

/-! ### the GB11 backward scan -/

theorem scanEP_iff (before : List Cls) :
    scanEP clsPreds before = true ↔
      ∃ ext p, before = ext ++ extpict :: p ∧ ∀ e ∈ ext, e = extend := by
  constructor
  · intro h
    induction before with
    | nil => cases h
    | cons c t ih =>
      by_cases hc : c = extend
      · subst hc
        obtain ⟨ext, p, rfl, he⟩ := ih (by simpa [scanEP] using h)
        exact ⟨extend :: ext, p, rfl, List.forall_mem_cons.2 ⟨rfl, he⟩⟩
      · have : (c == extend) = false := by simpa using hc
        obtain rfl : c = extpict := by simpa [scanEP, this] using h
        exact ⟨[], t, rfl, nofun⟩
  · rintro ⟨ext, p, rfl, he⟩
    induction ext with
    | nil => simp [scanEP]
    | cons e ext ih =>
      obtain ⟨rfl, he'⟩ := List.forall_mem_cons.1 he
      simpa [scanEP] using ih he'

theorem gb11ctx_iff (before : List Cls) (r : Cls) :
    GB11ctx (before.reverse ++ [r]) ↔ (r = zwj ∧ scanEP clsPreds before = true) := by
  rw [scanEP_iff]
  constructor
  · rintro ⟨p, ext, h, he⟩
    have h' : before.reverse ++ [r] = (p ++ [extpict] ++ ext) ++ [zwj] := by simpa using h
    have := List.append_inj' h' rfl
    refine ⟨by simpa using this.2, ext.reverse, p.reverse, ?_, ?_⟩
    · have h1 := congrArg List.reverse this.1
      simpa using h1
    · intro e hm; exact he e (List.mem_reverse.mp hm)
  · rintro ⟨hr, ext, p, h, he⟩
    refine ⟨p.reverse, ext.reverse, ?_, ?_⟩
    · subst hr; subst h; simp
    · intro e hm; exact he e (List.mem_reverse.mp hm)

/-! ### the GB12/13 backward count -/

theorem countRI_replicate_append (n : Nat) (rest : List Cls)
    (h : rest = [] ∨ ∃ x t, rest = x :: t ∧ x ≠ ri) :
    countRI clsPreds (List.replicate n ri ++ rest) = n := by
  induction n with
  | zero =>
    rcases h with h | ⟨x, t, h, hx⟩
    · subst h; rfl
    · subst h
      have : (x == ri) = false := by simpa using hx
      simp [countRI, this]
  | succ n ih =>
    simp only [List.replicate_succ, List.cons_append, countRI, clsPreds_ri]
    simpa using ih

theorem countRI_spec (before : List Cls) :
    ∃ rest, before = List.replicate (countRI clsPreds before) ri ++ rest ∧
      (rest = [] ∨ ∃ x t, rest = x :: t ∧ x ≠ ri) := by
  induction before with
  | nil => exact ⟨[], rfl, Or.inl rfl⟩
  | cons c t ih =>
    by_cases hc : c = ri
    · subst hc
      obtain ⟨rest, h1, h2⟩ := ih
      refine ⟨rest, ?_, h2⟩
      have : countRI clsPreds (ri :: t) = countRI clsPreds t + 1 := by simp [countRI]
      rw [this, List.replicate_succ, List.cons_append, ← h1]
    · have : (c == ri) = false := by simpa using hc
      refine ⟨c :: t, ?_, Or.inr ⟨c, t, rfl, hc⟩⟩
      simp [countRI, this]

theorem gb1213ctx_iff (before : List Cls) (r : Cls) :
    GB1213ctx (before.reverse ++ [r]) ↔ (r = ri ∧ countRI clsPreds before % 2 = 0) := by
  constructor
  · rintro ⟨p, k, h, hp⟩
    have h' : before.reverse ++ [r] = (p ++ List.replicate (2 * k) ri) ++ [ri] := by
      rw [h, List.replicate_succ', List.append_assoc]
    have := List.append_inj' h' rfl
    have hr : r = ri := by simpa using this.2
    refine ⟨hr, ?_⟩
    have hb : before = List.replicate (2 * k) ri ++ p.reverse := by
      have h1 := congrArg List.reverse this.1
      simpa using h1
    rw [hb, countRI_replicate_append]
    · omega
    · rcases hp with hp | ⟨q, x, hp, hx⟩
      · left; simp [hp]
      · right; exact ⟨x, q.reverse, by simp [hp], hx⟩
  · rintro ⟨hr, hk⟩
    obtain ⟨rest, h1, h2⟩ := countRI_spec before
    obtain ⟨k, hk'⟩ : ∃ k, countRI clsPreds before = 2 * k := ⟨countRI clsPreds before / 2, by omega⟩
    refine ⟨rest.reverse, k, ?_, ?_⟩
    · subst hr
      rw [List.replicate_succ', ← List.append_assoc]
      congr 1
      conv => lhs; rw [h1]
      simp [hk']
    · rcases h2 with h2 | ⟨x, t, h2, hx⟩
      · left; simp [h2]
      · right; exact ⟨t.reverse, x, by simp [h2], hx⟩

/-! ### the rule chain -/

/-- the chain with the two context scans abstracted to Booleans -/
def brkCore (r nx : Cls) (ep re : Bool) : Bool :=
  if r == cr && nx == lf then false
  else if r == control || r == cr || r == lf then true
  else if nx == control || nx == cr || nx == lf then true
  else if r == l && (nx == l || nx == v || nx == lv || nx == lvt) then false
  else if (r == lv || r == v) && (nx == v || nx == t) then false
  else if (r == lvt || r == t) && nx == t then false
  else if nx == extend || nx == zwj then false
  else if nx == spacing then false
  else if r == prepend then false
  else if r == zwj && nx == extpict && ep then false
  else if r == ri && nx == ri && re then false
  else true

theorem brk_eq_core (before : List Cls) (r nx : Cls) :
    brk clsPreds before r (some nx) =
      brkCore r nx (scanEP clsPreds before) (countRI clsPreds before % 2 == 0) := by
  have : (!before.isEmpty && scanEP clsPreds before) = scanEP clsPreds before := by
    cases before <;> simp [scanEP]
  simp only [brk, brkCore, clsPreds_prepend, clsPreds_cr, clsPreds_lf, clsPreds_control,
    clsPreds_extend, clsPreds_ri, clsPreds_spacing, clsPreds_l, clsPreds_v, clsPreds_t,
    clsPreds_lv, clsPreds_lvt, clsPreds_zwj, clsPreds_extpict, Bool.and_assoc, this]

/-- An `if`-chain with constant branches is a propositional formula: `if c then false else x` is
`¬c ∧ x` and `if c then true else x` is `c ∨ x`.  Read this way `brkCore` is `Boundary` up to
associativity, so no case split on the classes is needed. -/
theorem core_iff (pre : List Cls) (r nx : Cls) (ep re : Bool)
    (hep : GB11ctx pre ↔ (r = zwj ∧ ep = true)) (hre : GB1213ctx pre ↔ (r = ri ∧ re = true)) :
    brkCore r nx ep re = true ↔ Boundary pre r nx := by
  simp only [Boundary, NoBreakRule, isCtl, hep, hre, brkCore, Bool.if_false_left, Bool.if_true_left,
    Bool.and_eq_true, Bool.or_eq_true, Bool.not_eq_true', decide_eq_true_eq, decide_eq_false_iff_not,
    beq_iff_eq, not_or, or_assoc, and_assoc, and_true, and_comm (a := ep = true),
    and_comm (a := re = true)]

theorem brk_iff (before : List Cls) (r nx : Cls) :
    brk clsPreds before r (some nx) = true ↔ Boundary (before.reverse ++ [r]) r nx := by
  rw [brk_eq_core]
  apply core_iff
  · exact gb11ctx_iff before r
  · rw [gb1213ctx_iff]; simp

/-! ### the same with the prefix in reading order -/

theorem gb11ctx_concat (p : List Cls) (r : Cls) :
    GB11ctx (p ++ [r]) ↔ (r = zwj ∧ scanEP clsPreds p.reverse = true) := by
  simpa using gb11ctx_iff p.reverse r

theorem gb1213ctx_concat (p : List Cls) (r : Cls) :
    GB1213ctx (p ++ [r]) ↔ (r = ri ∧ countRI clsPreds p.reverse % 2 = 0) := by
  simpa using gb1213ctx_iff p.reverse r

/-- `brk_iff` for a prefix given in reading order -/
theorem boundary_concat_iff (p : List Cls) (r nx : Cls) :
    Boundary (p ++ [r]) r nx ↔
      brkCore r nx (scanEP clsPreds p.reverse) (countRI clsPreds p.reverse % 2 == 0) = true := by
  have := brk_iff p.reverse r nx
  rw [List.reverse_reverse, brk_eq_core] at this
  exact this.symm

theorem reverse_not_ends_ri {p : List Cls} (hp : p = [] ∨ ∃ q x, p = q ++ [x] ∧ x ≠ ri) :
    p.reverse = [] ∨ ∃ x t, p.reverse = x :: t ∧ x ≠ ri := by
  rcases hp with rfl | ⟨q, x, rfl, hx⟩
  · exact Or.inl rfl
  · exact Or.inr ⟨x, q.reverse, by simp, hx⟩

/-! ### the segmentation -/

theorem brk_isEnd (before : List Cls) (r : Cls) (rest : List Cls) :
    brk clsPreds before r rest.head? = true ↔
      IsEnd (before.reverse ++ r :: rest) (before.length + 1) := by
  cases rest with
  | nil =>
    simp only [List.head?_nil, brk, true_iff]
    left; simp
  | cons nx rest' =>
    simp only [List.head?_cons, brk_iff]
    have hlen : before.reverse.length = before.length := List.length_reverse
    have h0 : (before.reverse ++ r :: nx :: rest')[before.length + 1 - 1]? = some r := by
      rw [Nat.add_sub_cancel, List.getElem?_append_right (by omega)]
      simp [hlen]
    have h1 : (before.reverse ++ r :: nx :: rest')[before.length + 1]? = some nx := by
      rw [List.getElem?_append_right (by omega)]
      simp [hlen]
    have h2 : (before.reverse ++ r :: nx :: rest').take (before.length + 1) = before.reverse ++ [r] := by
      rw [List.take_append]
      simp [hlen, List.take_of_length_le]
    constructor
    · intro h
      right
      exact ⟨r, nx, h0, h1, h2 ▸ h⟩
    · rintro (h | ⟨r', nx', e0, e1, hb⟩)
      · simp at h
      · rw [h0] at e0; rw [h1] at e1
        cases e0; cases e1
        rw [h2] at hb; exact hb

open Classical in
theorem splitAux_spec (before : List Cls) (rs : List Cls) :
    splitAux clsPreds before before.length rs =
      (List.range' (before.length + 1) rs.length).filter
        fun j => decide (IsEnd (before.reverse ++ rs) j) := by
  induction rs generalizing before with
  | nil => simp [splitAux]
  | cons r rest ih =>
    have ih' := ih (r :: before)
    simp only [List.length_cons, List.reverse_cons, List.append_assoc, List.singleton_append] at ih'
    simp only [splitAux, List.length_cons, List.range'_succ, List.filter_cons]
    by_cases hb : brk clsPreds before r rest.head? = true
    · have := (brk_isEnd before r rest).mp hb
      simp only [hb, if_true, this, decide_true, ih']
    · have : ¬ IsEnd (before.reverse ++ r :: rest) (before.length + 1) :=
        fun h => hb ((brk_isEnd before r rest).mpr h)
      simp only [hb, this, decide_false, ih']

/-- **C01, class level**: the Go rule chain yields exactly the UAX #29 cluster ends. -/
theorem split_eq_specSplit (cs : List Cls) : split cs = specSplit cs := by
  exact splitAux_spec [] cs

end RosedVerif
