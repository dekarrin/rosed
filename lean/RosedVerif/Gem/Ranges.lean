/-
Range tables: membership, a linear canonicaliser, and its soundness.
Core-only (imported by the driver).
-/
namespace RosedVerif

/-- `r` lies in one of the closed ranges of `l` (source order, as written in Go). -/
def inRanges (l : List (Nat × Nat)) (r : Nat) : Bool :=
  l.any fun p => decide (p.1 ≤ r) && decide (r ≤ p.2)

/-- Go predicate on `rune` (`int32`): negative values fail every `lo <= r`. -/
def isCb (tbl : List (Nat × Nat)) (r : Int) : Bool :=
  decide (0 ≤ r) && inRanges tbl r.toNat

def validRanges (l : List (Nat × Nat)) : Bool := l.all fun p => decide (p.1 ≤ p.2)

/-- insert a range into a sorted, separated list, merging what touches or overlaps -/
def insertMerge (x : Nat × Nat) : List (Nat × Nat) → List (Nat × Nat)
  | [] => [x]
  | y :: t =>
    if x.2 + 1 < y.1 then x :: y :: t
    else if y.2 + 1 < x.1 then y :: insertMerge x t
    else insertMerge (min x.1 y.1, max x.2 y.2) t

def canon (l : List (Nat × Nat)) : List (Nat × Nat) := l.foldr insertMerge []

theorem inRanges_nil (r : Nat) : inRanges [] r = false := rfl

theorem inRanges_cons (p : Nat × Nat) (l : List (Nat × Nat)) (r : Nat) :
    inRanges (p :: l) r = ((decide (p.1 ≤ r) && decide (r ≤ p.2)) || inRanges l r) := by
  simp [inRanges]

theorem inRanges_append (a b : List (Nat × Nat)) (x : Nat) :
    inRanges (a ++ b) x = (inRanges a x || inRanges b x) := by
  simp [inRanges, List.any_append]

theorem inRanges_false_of_gt (l : List (Nat × Nat)) (b x : Nat)
    (h : (l.all fun p => decide (p.2 ≤ b)) = true) (hx : b < x) : inRanges l x = false := by
  induction l with
  | nil => rfl
  | cons p t ih =>
    simp only [List.all_cons, Bool.and_eq_true, decide_eq_true_eq] at h
    rw [inRanges_cons, ih h.2]
    have : ¬ x ≤ p.2 := by omega
    simp [this]

theorem validRanges_cons (p : Nat × Nat) (l : List (Nat × Nat)) :
    validRanges (p :: l) = true ↔ p.1 ≤ p.2 ∧ validRanges l = true := by
  simp [validRanges]

theorem insertMerge_valid (x : Nat × Nat) (l : List (Nat × Nat))
    (hx : x.1 ≤ x.2) (hl : validRanges l = true) : validRanges (insertMerge x l) = true := by
  induction l generalizing x with
  | nil => exact (validRanges_cons x []).mpr ⟨hx, rfl⟩
  | cons y t ih =>
    have ⟨hy, ht⟩ := (validRanges_cons y t).mp hl
    unfold insertMerge
    split
    · exact (validRanges_cons _ _).mpr ⟨hx, hl⟩
    · split
      · exact (validRanges_cons _ _).mpr ⟨hy, ih x hx ht⟩
      · exact ih _ (by simp only; omega) ht

theorem inRanges_insertMerge (x : Nat × Nat) (l : List (Nat × Nat)) (r : Nat)
    (hx : x.1 ≤ x.2) (hl : validRanges l = true) :
    inRanges (insertMerge x l) r = ((decide (x.1 ≤ r) && decide (r ≤ x.2)) || inRanges l r) := by
  induction l generalizing x with
  | nil => rfl
  | cons y t ih =>
    have ⟨hy, ht⟩ := (validRanges_cons y t).mp hl
    unfold insertMerge
    split
    · rfl
    · split
      · rw [inRanges_cons, ih x hx ht, inRanges_cons, Bool.or_left_comm]
      · -- `x` and `y` touch or overlap: their union is the range from the smaller start to the larger end
        rw [ih _ (by simp only; omega) ht, inRanges_cons, ← Bool.or_assoc]
        congr 1
        rw [Bool.eq_iff_iff]
        simp only [Bool.and_eq_true, Bool.or_eq_true, decide_eq_true_eq]
        omega

theorem canon_valid (l : List (Nat × Nat)) (hl : validRanges l = true) :
    validRanges (canon l) = true := by
  induction l with
  | nil => rfl
  | cons p t ih =>
    have ⟨hp, ht⟩ := (validRanges_cons p t).mp hl
    exact insertMerge_valid p _ hp (ih ht)

theorem inRanges_canon (l : List (Nat × Nat)) (hl : validRanges l = true) (r : Nat) :
    inRanges (canon l) r = inRanges l r := by
  induction l with
  | nil => rfl
  | cons p t ih =>
    have ⟨hp, ht⟩ := (validRanges_cons p t).mp hl
    show inRanges (insertMerge p (canon t)) r = _
    rw [inRanges_insertMerge p _ r hp (canon_valid t ht), ih ht, inRanges_cons]

/-- the decidable certificate used for every table -/
def sameRanges (a b : List (Nat × Nat)) : Bool :=
  validRanges a && validRanges b && (canon a == canon b)

theorem inRanges_of_sameRanges {a b : List (Nat × Nat)} (h : sameRanges a b = true) (r : Nat) :
    inRanges a r = inRanges b r := by
  simp only [sameRanges, Bool.and_eq_true, beq_iff_eq] at h
  rw [← inRanges_canon a h.1.1, ← inRanges_canon b h.1.2, h.2]

theorem isCb_of_sameRanges {a b : List (Nat × Nat)} (h : sameRanges a b = true) (r : Int) :
    isCb a r = isCb b r := by
  simp only [isCb, inRanges_of_sameRanges h]

end RosedVerif
