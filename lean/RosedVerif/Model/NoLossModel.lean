/-
"No text is lost" (C07 for Wrap; C14, C15 for the composite layouts): statements of
`RosedVerif.Spec.NoLoss` under their property names, and what carries them over to the MODEL of
InsertDefinitionsTableOpts at cluster level: the model's paragraph is the specification's.

In the model the texts are first passed through the separator pre-pass of Wrap
(`replaceAll' cx text lineSep`: every occurrence of the line separator becomes a space), so the
words that are preserved are those of `replaceAll' cx text lineSep`.
-/
import RosedVerif.Spec.NoLoss
import RosedVerif.Model.CompositeLemmas
namespace RosedVerif.NoLossModel
open RosedVerif RosedVerif.Spec RosedVerif.WrapRefine

/-! ### the specification-level statements -/

section spec
variable {α : Type} (tk : Toks α)

/-- the hypothesis `HyOK` of `Spec.dehyphen_wrapLines` (no word can be mistaken for a continuation
piece) is needed by every function that recovers the words from the wrapped lines -/
theorem C07_wrap_dehyphen_needs_HyOK_m :
    Spec.wrapLines tkN 3 [1, 2, 99, 0, 3, 4] = Spec.wrapLines tkN 3 [1, 2, 3, 4] ∧
    words tkN [1, 2, 99, 0, 3, 4] ≠ words tkN [1, 2, 3, 4] := dehyphen_impossible

theorem C14_no_loss_words_m [DecidableEq α] (hsp : tk.ws tk.sp = true) (hhy : tk.ws tk.hy = false)
    (left right : List α) (gap width : Int) (pct : Pct) (hg : 0 ≤ gap)
    (hL : HyOK tk (colWidths gap width pct).1 left) (hR : HyOK tk (colWidths gap width pct).2 right) :
    let lw := (colWidths gap width pct).1
    let rw := (colWidths gap width pct).2
    let cols := twoColumns tk left right gap width pct
    dehyphen tk lw (cols.map (List.take (lw + gap.toNat))) = words tk left ∧
    dehyphen tk rw (cols.map (List.drop (lw + gap.toNat))) = words tk right :=
  twoColumns_words tk hsp hhy left right gap width pct hg hL hR

theorem C15_no_loss_words_m [DecidableEq α] (hsp : tk.ws tk.sp = true) (hhy : tk.ws tk.hy = false)
    (defs : List (List α × List α)) (w : Int) (j : Nat) (hj : j < defs.length)
    (hj' : j < (defTable tk defs w).length)
    (h : HyOK tk (defWidth (termWidth defs) w) defs[j].2) :
    dehyphen tk (defWidth (termWidth defs) w)
      (((defTable tk defs w)[j]).map (List.drop (termWidth defs + 6))) = words tk defs[j].2 :=
  defTable_words tk hsp hhy defs w j hj hj' h

end spec

/-! ### the model at cluster level -/

section model
variable {α : Type} [DecidableEq α] (cx : Ctx α)

omit [DecidableEq α] in
/-- the common term width of the specification is the model's longest term -/
theorem termWidth_eq_maxLineLen (defs : List (List α × List α)) :
    termWidth defs = maxLineLen (defs.map (·.1)) := by
  refine (foldl_max_eq (·.1) id _ (fun _ _ => rfl) defs 0).trans ?_
  rw [Nat.zero_max]
  rfl

/-- the separator pre-pass of Wrap leaves the terms, hence the term width, as they are -/
theorem termWidth_prepass (defs : List (List α × List α)) (sep : List α) :
    termWidth (defs.map fun d => (d.1, replaceAll' cx d.2 sep)) = maxLineLen (defs.map (·.1)) := by
  rw [termWidth_eq_maxLineLen, List.map_map]
  rfl

/-- **the model's definition paragraph IS the specification's** (term at most `T` wide) -/
theorem defParaLines_eq_defParagraph (T : Nat) (w : Int) (term defn : List α) (hT : term.length ≤ T) :
    defParaLines cx T term (defRc (Spec.wrapLines (toks cx) (defWidth T w) defn)) =
      defParagraph (toks cx) T w term defn := by
  have hrc : defRc (Spec.wrapLines (toks cx) (defWidth T w) defn) = defLines (toks cx) T w defn := rfl
  rw [hrc]
  have hne := defLines_ne_nil (toks cx) T w defn
  have hlen : (defParaLines cx T term (defLines (toks cx) T w defn)).length =
      (defLines (toks cx) T w defn).length := by
    have := List.length_pos_iff.2 hne
    rw [defParaLines_length]; omega
  apply List.ext_getElem
  · rw [hlen, defParagraph_length]
  · intro i h1 h2
    obtain ⟨pre, e, _, p0, p1⟩ := defParagraph_column (toks cx) T w term defn hT i h2
    rw [e]
    by_cases hi : i = 0
    · subst hi
      rw [defParaLines_first cx T term _ hne, p0 rfl]
      simp only [padTo, toks_sp, toks_hy, List.append_assoc, List.cons_append, List.nil_append]
    · rw [defParaLines_cont cx T term _ i (by omega) (by omega), p1 hi]
      rfl

end model

end RosedVerif.NoLossModel
