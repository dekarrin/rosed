/-
Model of internal/manip/table.go (MakeTable, parseTableCharSet, buildTable).
-/
import RosedVerif.Model.Manip
namespace RosedVerif

section
variable {α : Type} [DecidableEq α] (cx : Ctx α)

structure TableChars (α : Type) where
  corner : List α
  vert : List α
  horz : List α

/-- manip.parseTableCharSet -/
def parseTableCharSet (charSet : List α) : TableChars α :=
  let n : Int := gLen cx charSet
  let cs :=
    if n < 3 then charSet ++ gSub cx cx.dCharset 0 (3 - n)
    else if n > 3 then gSub cx charSet 0 3
    else charSet
  ⟨gSub cx cs 0 1, gSub cx cs 1 2, gSub cx cs 2 3⟩

/-- one laid-out row of buildTable -/
def tableRow (row : List (List α)) (colWidths : List Int) (isHeader border : Bool)
    (chars : TableChars α) : List α :=
  let start := if border then chars.vert else []
  (List.range colWidths.length).foldl (fun line col =>
    let cellData := row.getD col []
    let w := colWidths.getD col 0
    let cell :=
      if isHeader then
        let hc := cellData.map cx.upper
        if border then alignCenter cx hc w ++ chars.vert else alignLeft cx hc w
      else
        if border then [cx.sp] ++ alignLeft cx cellData (w - 1) ++ chars.vert
        else alignLeft cx cellData w
    line ++ cell) start

/-- manip.buildTable: the lines of the table block -/
def buildTable (data : List (List (List α))) (colWidths : List Int) (width : Int)
    (header border : Bool) (chars : TableChars α) : List (List α) :=
  let horzBar : List α :=
    if border then
      colWidths.foldl (fun bar w => bar ++ gRepeat chars.horz w ++ chars.corner) chars.corner
    else []
  let breakBar : List α := if header ∧ !border then gRepeat chars.horz width else []
  let top := if border then [horzBar] else []
  let body := (List.range data.length).foldl (fun acc rowIdx =>
    let row := data.getD rowIdx []
    let isHeader := rowIdx == 0 && header
    let acc := acc ++ [tableRow cx row colWidths isHeader border chars]
    if isHeader then
      if border then (if data.length > 1 then acc ++ [horzBar] else acc)
      else acc ++ [breakBar]
    else acc) top
  if border then body ++ [horzBar] else body

/-- manip.MakeTable after its clamp of the width (split as `alignLeft` / `alignLeftCore` are) -/
def makeTableCore (data : List (List (List α))) (width : Int) (header border : Bool)
    (charSet : List α) : List (List α) :=
  if data.isEmpty then []
  else
    let colCount := data.foldl (fun m r => max m r.length) 0
    if colCount == 0 then []
    else
      let chars := parseTableCharSet cx charSet
      let horzLen : Int := gLen cx chars.horz
      let contentW : List Int := (List.range colCount).map fun col =>
        data.foldl (fun m row => let n : Int := gLen cx (row.getD col []); if n ≥ m then n else m) 0
      let padded : List Int := (List.range colCount).map fun i =>
        contentW.getD i 0 + (if border then 2 else if i + 1 < colCount then 2 else 0)
      let minTableWidth : Int :=
        padded.foldl (fun s w => s + w + (if border then horzLen else 0)) (if border then horzLen else 0)
      let spaceToAdd := width - minTableWidth
      if spaceToAdd > 0 then
        let numToSpace : Int := if !border ∧ colCount > 1 then (colCount : Int) - 1 else colCount
        let per := spaceToAdd / numToSpace
        let rem := spaceToAdd % numToSpace
        let colWidths := (List.range colCount).map fun i =>
          let w := padded.getD i 0
          if (i : Int) < numToSpace then w + per + (if (i : Int) < rem then 1 else 0) else w
        buildTable cx data colWidths width header border chars
      else
        buildTable cx data padded minTableWidth header border chars

/-- manip.MakeTable: the lines of the resulting block (separator `lineSep`, no trailing mode);
a negative width is clamped to 0 before `width - minTableWidth` (finding D20) -/
def makeTable (data : List (List (List α))) (width : Int) (header border : Bool)
    (charSet : List α) : List (List α) :=
  makeTableCore cx data (if width < 0 then 0 else width) header border charSet

theorem getD_nonneg_of_all (l : List Int) (h : ∀ x ∈ l, 0 ≤ x) (i : Nat) : 0 ≤ l.getD i 0 := by
  rw [List.getD_eq_getElem?_getD]
  cases hi : l[i]? with
  | none => simp
  | some v => simp only [Option.getD_some]; exact h v (List.mem_of_getElem? hi)

omit [DecidableEq α] in
/-- the core sees the width only through `width - minTableWidth > 0` with `minTableWidth ≥ 0`
(and hands it to `buildTable` only inside that branch) -/
theorem makeTableCore_clamp (data : List (List (List α))) (w : Int) (header border : Bool)
    (charSet : List α) :
    makeTableCore cx data (if w < 0 then 0 else w) header border charSet =
      makeTableCore cx data w header border charSet := by
  by_cases h : w < 0
  · rw [if_pos h]
    unfold makeTableCore
    -- the `let`s stay variables: the sums below are never unfolded into the goal
    extract_lets colCount chars horzLen contentW padded minW
    have hc : ∀ x ∈ contentW, 0 ≤ x := by
      intro x hx
      obtain ⟨col, _, rfl⟩ := List.mem_map.1 hx
      exact le_foldl_of_le_step _ data 0 fun m row _ => by simp only; split <;> omega
    have hh : 0 ≤ if border = true then horzLen else 0 := by
      split
      · exact Int.natCast_nonneg _
      · exact Int.le_refl 0
    have hM : 0 ≤ minW := by
      refine Int.le_trans hh (le_foldl_of_le_step _ padded _ fun s x hx => ?_)
      obtain ⟨i, _, rfl⟩ := List.mem_map.1 hx
      have := getD_nonneg_of_all contentW hc i
      have : 0 ≤ if border = true then (2 : Int) else if i + 1 < colCount then 2 else 0 := by
        split
        · omega
        · split <;> omega
      omega
    rw [if_neg (show ¬ 0 - minW > 0 by omega), if_neg (show ¬ w - minW > 0 by omega)]
  · rw [if_neg h]

omit [DecidableEq α] in
/-- the public function is its core (as a function, so that partial applications rewrite too) -/
theorem makeTable_eq_core : makeTable cx = makeTableCore cx := by
  funext d w hd b cs; exact makeTableCore_clamp cx d w hd b cs

end
end RosedVerif
