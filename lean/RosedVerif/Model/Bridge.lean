/-
The bridge from code points to clusters.  On a STABLE vocabulary (every token is
a single cluster, every adjacent pair of tokens is separated by a boundary) the
segmentation of a concatenation of tokens is the concatenation of the tokens, and
the gem-level primitives on the flattened text agree with list operations on the
token list.
-/
import RosedVerif.Model.InstAFacts
import RosedVerif.Model.WrapRefine
namespace RosedVerif
open Cls

/-- a non-empty class string that is a single cluster -/
def SelfContained (c : List Cls) : Prop := c ≠ [] ∧ split c = [c.length]

/-- the concatenation of `c₁` and `c₂` has exactly the two ends `|c₁|` and `|c₁| + |c₂|` -/
def BreakJunction (c₁ c₂ : List Cls) : Prop :=
  split (c₁ ++ c₂) = [c₁.length, c₁.length + c₂.length]

instance (c : List Cls) : Decidable (SelfContained c) := by unfold SelfContained; infer_instance
instance (c₁ c₂ : List Cls) : Decidable (BreakJunction c₁ c₂) := by
  unfold BreakJunction; infer_instance

/-- every token is self-contained and every adjacent pair is a break junction (index form) -/
def StableSeq (ts : List (List Cls)) : Prop :=
  (∀ c ∈ ts, c ≠ [] ∧ split c = [c.length]) ∧
  ∀ i, i + 1 < ts.length →
    split (ts[i]! ++ ts[i+1]!) = [ts[i]!.length, ts[i]!.length + ts[i+1]!.length]

/-- the same, by recursion on the list -/
def StableSeqR : List (List Cls) → Prop
  | [] => True
  | [c] => SelfContained c
  | c :: c₂ :: rest => SelfContained c ∧ BreakJunction c c₂ ∧ StableSeqR (c₂ :: rest)

/-- running sums of the lengths, starting at `k` -/
def cumEnds {β : Type} (k : Nat) : List (List β) → List Nat
  | [] => []
  | c :: rest => (k + c.length) :: cumEnds (k + c.length) rest

/-- the cluster ends of a concatenation of tokens: prefix sums of the lengths -/
def endsOf {β : Type} (ts : List (List β)) : List Nat := cumEnds 0 ts

theorem cumEnds_length {β : Type} (k : Nat) (ts : List (List β)) :
    (cumEnds k ts).length = ts.length := by
  induction ts generalizing k with
  | nil => rfl
  | cons c rest ih => simp only [cumEnds, List.length_cons, ih]

theorem endsOf_length {β : Type} (ts : List (List β)) : (endsOf ts).length = ts.length :=
  cumEnds_length 0 ts

theorem cumEnds_map {β γ : Type} (f : β → γ) (k : Nat) (ts : List (List β)) :
    cumEnds k (ts.map (·.map f)) = cumEnds k ts := by
  induction ts generalizing k with
  | nil => rfl
  | cons c rest ih => simp only [List.map_cons, cumEnds, List.length_map, ih]

theorem endsOf_map {β γ : Type} (f : β → γ) (ts : List (List β)) :
    endsOf (ts.map (·.map f)) = endsOf ts := cumEnds_map f 0 ts

/-- `endsOf` really is the list of prefix sums: its `i`-th entry is the length of the first
`i + 1` tokens -/
theorem cumEnds_getElem {β : Type} (k : Nat) (ts : List (List β)) (i : Nat) (hi : i < ts.length) :
    (cumEnds k ts)[i]'(by rw [cumEnds_length]; exact hi) = k + (ts.take (i + 1)).flatten.length := by
  induction ts generalizing k i with
  | nil => simp at hi
  | cons c rest ih =>
    cases i with
    | zero => simp [cumEnds]
    | succ i =>
      have hi' : i < rest.length := by simpa using hi
      simp only [cumEnds, List.getElem_cons_succ, ih (k + c.length) i hi', List.take_succ_cons,
        List.flatten_cons, List.length_append]
      omega

theorem endsOf_getElem {β : Type} (ts : List (List β)) (i : Nat) (hi : i < ts.length) :
    (endsOf ts)[i]'(by rw [endsOf_length]; exact hi) = (ts.take (i + 1)).flatten.length := by
  have := cumEnds_getElem 0 ts i hi
  simpa [endsOf] using this

theorem getElem!_of_lt {β : Type} [Inhabited β] (l : List β) (i : Nat) (h : i < l.length) :
    l[i]! = l[i] := by
  simp [h]

theorem StableSeq.tail {c : List Cls} {rest : List (List Cls)} (h : StableSeq (c :: rest)) :
    StableSeq rest :=
  ⟨fun x hx => h.1 x (List.mem_cons_of_mem _ hx), fun i hi => h.2 (i + 1) (Nat.succ_lt_succ hi)⟩

theorem stableSeq_iff_R (ts : List (List Cls)) : StableSeq ts ↔ StableSeqR ts :=
  match ts with
  | [] => ⟨fun _ => trivial,
      fun _ => ⟨fun _ h => (List.not_mem_nil h).elim, fun _ h => absurd h (Nat.not_lt_zero _)⟩⟩
  | [c] => ⟨fun h => h.1 c List.mem_cons_self,
      fun h => ⟨fun _ hx => List.mem_singleton.1 hx ▸ h,
        fun _ hi => absurd (Nat.lt_of_succ_lt_succ hi) (Nat.not_lt_zero _)⟩⟩
  | c :: c₂ :: rest => by
    have ih := stableSeq_iff_R (c₂ :: rest)
    constructor
    · exact fun h =>
        ⟨h.1 c List.mem_cons_self, h.2 0 (Nat.succ_lt_succ (Nat.succ_pos _)), ih.1 h.tail⟩
    · rintro ⟨h1, h2, h3⟩
      have h3' := ih.2 h3
      refine ⟨List.forall_mem_cons.2 ⟨h1, h3'.1⟩, fun i hi => ?_⟩
      cases i with
      | zero => exact h2
      | succ i => exact h3'.2 i (Nat.lt_of_succ_lt_succ hi)

/-- a break junction means: the automaton, after reading `c₁`, breaks before the head of `c₂` -/
theorem BreakJunction.brk {c₁ c₂ : List Cls} (h : BreakJunction c₁ c₂) (h1 : c₁ ≠ []) :
    brkD (run St.init c₁) c₂.head? = true := by
  rw [← look_none]
  refine (mem_splitQ_append_iff St.init 0 none c₁ c₂ h1).1 ?_
  rw [← split_eq_splitQ, h, Nat.zero_add]
  exact List.mem_cons_self

/-- a self-contained token followed by anything it breaks before keeps its single end -/
theorem SelfContained.splitQ_eq {c : List Cls} (h : SelfContained c) (i : Nat) (after : Option Cls)
    (hb : brkD (run St.init c) after = true) :
    splitQ St.init i after c = [i + c.length] := by
  rw [splitQ_after _ _ _ none _ (by rw [hb]; rfl) h.1, ← Nat.zero_add i, splitQ_shift,
    ← split_eq_splitQ, h.2, Nat.zero_add]
  simp only [List.map_cons, List.map_nil, Nat.add_comm]

theorem splitQ_flatten_R (ts : List (List Cls)) (h : StableSeqR ts) (i : Nat) :
    splitQ St.init i none ts.flatten = cumEnds i ts := by
  induction ts generalizing i with
  | nil => rfl
  | cons c rest ih =>
    cases rest with
    | nil =>
      have h : SelfContained c := h
      simp only [List.flatten_cons, List.flatten_nil, List.append_nil, cumEnds]
      exact h.splitQ_eq i none rfl
    | cons c₂ rest' =>
      obtain ⟨h1, h2, h3⟩ := h
      have hc₂ : c₂ ≠ [] := by
        cases rest' with
        | nil => exact (show SelfContained c₂ from h3).1
        | cons _ _ => exact h3.1.1
      have hb := h2.brk h1.1
      have hhead : (c₂ :: rest').flatten.head? = c₂.head? := by
        cases c₂ with
        | nil => exact absurd rfl hc₂
        | cons x xs => rfl
      rw [List.flatten_cons, splitQ_append, look_none, hhead, h1.splitQ_eq i _ hb,
        splitQ_restart _ _ _ _ (good_run _ _ good_init) (by rw [hhead]; exact hb),
        ih h3 (i + c.length)]
      rfl

/-- on a stable sequence the cluster ends of the concatenation are exactly the
prefix sums of the token lengths -/
theorem split_flatten (ts : List (List Cls)) (h : StableSeq ts) : split ts.flatten = endsOf ts := by
  rw [split_eq_splitQ]
  exact splitQ_flatten_R ts ((stableSeq_iff_R ts).mp h) 0

def StableRunes (toks : List (List Int)) : Prop := StableSeq (toks.map (·.map classOf))

theorem splitRunes_flatten_stable (toks : List (List Int)) (h : StableRunes toks) :
    splitRunes toks.flatten = endsOf toks := by
  unfold splitRunes
  rw [List.map_flatten, split_flatten _ h, endsOf_map]

theorem StableRunes.ne_nil {toks : List (List Int)} (h : StableRunes toks) :
    ∀ t ∈ toks, t ≠ [] := by
  intro t ht
  have := (h.1 (t.map classOf) (List.mem_map_of_mem ht)).1
  simpa using this

theorem clustersFrom_cumEnds {β : Type} (pre : List β) (toks : List (List β)) :
    clustersFrom (pre ++ toks.flatten) pre.length (cumEnds pre.length toks) = toks := by
  induction toks generalizing pre with
  | nil => rfl
  | cons t rest ih =>
    have e : pre.length + t.length = (pre ++ t).length := by simp
    simp only [cumEnds, clustersFrom, List.flatten_cons, sliceRunes]
    rw [e, ← List.append_assoc, ih (pre ++ t)]
    congr 1
    rw [List.append_assoc, List.drop_left, List.length_append, Nat.add_sub_cancel_left,
      List.take_left]

theorem clusters_flatten_stable (toks : List (List Int)) (h : StableRunes toks) :
    clusters cxA toks.flatten = toks := by
  show clustersFrom toks.flatten 0 (splitRunes toks.flatten) = toks
  rw [splitRunes_flatten_stable toks h]
  exact clustersFrom_cumEnds [] toks

theorem gLen_flatten_stable (toks : List (List Int)) (h : StableRunes toks) :
    gLen cxA toks.flatten = toks.length := by
  show (splitRunes toks.flatten).length = toks.length
  rw [splitRunes_flatten_stable toks h, endsOf_length]

section generic
variable {α : Type} [DecidableEq α] {cx : Ctx α}

theorem cOff_succ (e : List Nat) (k : Nat) : cOff e (k + 1) = e.getD k 0 := by
  simp [cOff]

omit [DecidableEq α] in
theorem gSub_eq_clusters (hwf : cx.WF) (s : List α) (a b : Nat) (hab : a ≤ b)
    (hb : b ≤ (clusters cx s).length) :
    gSub cx s a b = (((clusters cx s).drop a).take (b - a)).flatten := by
  rw [clusters_mid hwf s hab hb]
  rw [clusters_length] at hb
  unfold gSub
  simp only
  rw [rangeToIndexes_id _ _ _ (by omega) (by omega) (by omega)]
  simp only [Int.toNat_natCast]
  split
  · rename_i heq
    have : a = b := by
      have h' : (a : Int) = b := by simpa using heq
      omega
    subst this
    simp [sliceRunes]
  · rename_i hne
    have hne : a ≠ b := by intro e; apply hne; simp [e]
    have hb0 : b ≠ 0 := by omega
    congr 1
    · unfold cOff
      by_cases ha : a = 0
      · subst ha; simp
      · rw [if_pos (by omega), if_neg ha]
    · unfold cOff
      rw [if_neg hb0]

theorem gCharAt_eq_clusters (hwf : cx.WF) (s : List α) (i : Nat) (hi : i < (clusters cx s).length) :
    gCharAt cx s i = .ok (clusters cx s)[i] := by
  have hi' : ((i : Nat) : Int) < gLen cx s := by
    rw [gLen_eq_clusters_length]; omega
  rw [gCharAt_eq s i (by omega) hi']
  have hm := clusters_mid hwf s (Nat.le_add_right i 1) hi
  have e1 : ((clusters cx s).drop i).take (i + 1 - i) = [(clusters cx s)[i]] := by
    rw [Nat.add_sub_cancel_left, List.drop_eq_getElem_cons hi]
    rfl
  rw [e1] at hm
  simp only [List.flatten_cons, List.flatten_nil, List.append_nil] at hm
  rw [hm, cOff_succ, Int.toNat_natCast, clusterSpan_fst]
  rfl

theorem gSetCharAt_eq_clusters (hwf : cx.WF) (s : List α) (i : Nat) (r : List α) (hr : r ≠ [])
    (hi : i < (clusters cx s).length) :
    gSetCharAt cx s i r = .ok ((clusters cx s).set i r).flatten := by
  have hi' : ((i : Nat) : Int) < gLen cx s := by
    rw [gLen_eq_clusters_length]; omega
  rw [gSetCharAt_eq s i r hr (by omega) hi', Int.toNat_natCast, clusterSpan_fst]
  have e2 : (clusterSpan (cx.ends s) i).2 = cOff (cx.ends s) (i + 1) := by
    rw [cOff_succ]; rfl
  rw [e2, ← clusters_take hwf s i (by omega), ← clusters_drop hwf s (i + 1) (by omega),
    List.set_eq_take_append_cons_drop, if_pos hi]
  simp only [List.flatten_append, List.flatten_cons, List.append_assoc]

end generic

theorem gSub_flatten_stable (toks : List (List Int)) (h : StableRunes toks) (a b : Nat)
    (hab : a ≤ b) (hb : b ≤ toks.length) :
    gSub cxA toks.flatten a b = ((toks.drop a).take (b - a)).flatten := by
  have := gSub_eq_clusters cxA_WF toks.flatten a b hab
    (by rw [clusters_flatten_stable toks h]; exact hb)
  rwa [clusters_flatten_stable toks h] at this

theorem gCharAt_flatten_stable (toks : List (List Int)) (h : StableRunes toks) (i : Nat)
    (hi : i < toks.length) :
    gCharAt cxA toks.flatten i = .ok toks[i] := by
  have := gCharAt_eq_clusters cxA_WF toks.flatten i
    (by rw [clusters_flatten_stable toks h]; exact hi)
  rw [this]
  simp only [clusters_flatten_stable toks h]

/-- replacing a cluster (the result is in general NOT a stable sequence again; this is only the
text-level statement) -/
theorem gSetCharAt_flatten_stable (toks : List (List Int)) (h : StableRunes toks) (i : Nat)
    (r : List Int) (hr : r ≠ []) (hi : i < toks.length) :
    gSetCharAt cxA toks.flatten i r = .ok (toks.set i r).flatten := by
  have := gSetCharAt_eq_clusters cxA_WF toks.flatten i r hr
    (by rw [clusters_flatten_stable toks h]; exact hi)
  rwa [clusters_flatten_stable toks h] at this

theorem StableSeqR.tail {c : List Cls} {rest : List (List Cls)} (h : StableSeqR (c :: rest)) :
    StableSeqR rest := by
  cases rest with
  | nil => trivial
  | cons _ _ => exact h.2.2

theorem StableSeqR.append_left {xs ys : List (List Cls)} (h : StableSeqR (xs ++ ys)) :
    StableSeqR xs := by
  induction xs with
  | nil => trivial
  | cons c rest ih =>
    cases rest with
    | nil =>
      cases ys with
      | nil => exact h
      | cons _ _ => exact h.1
    | cons c₂ rest' => exact ⟨h.1, h.2.1, ih h.2.2⟩

theorem StableSeqR.append_right {xs ys : List (List Cls)} (h : StableSeqR (xs ++ ys)) :
    StableSeqR ys := by
  induction xs with
  | nil => exact h
  | cons c rest ih => exact ih (StableSeqR.tail h)

theorem StableSeq.take {ts : List (List Cls)} (h : StableSeq ts) (k : Nat) :
    StableSeq (ts.take k) := by
  rw [stableSeq_iff_R] at h ⊢
  rw [← List.take_append_drop k ts] at h
  exact h.append_left

theorem StableSeq.drop {ts : List (List Cls)} (h : StableSeq ts) (k : Nat) :
    StableSeq (ts.drop k) := by
  rw [stableSeq_iff_R] at h ⊢
  rw [← List.take_append_drop k ts] at h
  exact h.append_right

theorem StableRunes.slice {toks : List (List Int)} (h : StableRunes toks) (a n : Nat) :
    StableRunes ((toks.drop a).take n) := by
  unfold StableRunes
  rw [List.map_take, List.map_drop]
  exact (StableSeq.drop h a).take n

/-- every word of `V` is a single cluster and EVERY ordered pair of words is a break junction -/
def VocabStable (V : List (List Int)) : Bool :=
  (V.all fun v => decide (SelfContained (v.map classOf))) &&
  (V.all fun v₁ => V.all fun v₂ => decide (BreakJunction (v₁.map classOf) (v₂.map classOf)))

theorem vocabStable_iff {V : List (List Int)} : VocabStable V = true ↔
    (∀ v ∈ V, SelfContained (v.map classOf)) ∧
      ∀ v₁ ∈ V, ∀ v₂ ∈ V, BreakJunction (v₁.map classOf) (v₂.map classOf) := by
  simp only [VocabStable, Bool.and_eq_true, List.all_eq_true, decide_eq_true_eq]

theorem vocab_sc {V : List (List Int)} (hV : VocabStable V = true) {t : List Int} (ht : t ∈ V) :
    SelfContained (t.map classOf) := (vocabStable_iff.1 hV).1 t ht

theorem vocab_bj {V : List (List Int)} (hV : VocabStable V = true) {t u : List Int} (ht : t ∈ V)
    (hu : u ∈ V) : BreakJunction (t.map classOf) (u.map classOf) :=
  (vocabStable_iff.1 hV).2 t ht u hu

/-- a sub-vocabulary of a stable vocabulary is stable: one vocabulary is certified by evaluation,
those contained in it follow -/
theorem VocabStable.mono {V W : List (List Int)} (hV : VocabStable V = true)
    (h : ∀ w ∈ W, w ∈ V) : VocabStable W = true :=
  vocabStable_iff.2 ⟨fun _ hw => vocab_sc hV (h _ hw),
    fun _ h₁ _ h₂ => vocab_bj hV (h _ h₁) (h _ h₂)⟩

theorem stableRunes_of_vocab (V : List (List Int)) (hV : VocabStable V = true)
    (toks : List (List Int)) (ht : ∀ t ∈ toks, t ∈ V) : StableRunes toks := by
  unfold StableRunes
  rw [stableSeq_iff_R]
  induction toks with
  | nil => trivial
  | cons t rest ih =>
    have iht := ih (fun x hx => ht x (List.mem_cons_of_mem _ hx))
    have ht1 := ht t List.mem_cons_self
    cases rest with
    | nil => exact vocab_sc hV ht1
    | cons t₂ rest' =>
      exact ⟨vocab_sc hV ht1, vocab_bj hV ht1 (ht t₂ (List.mem_cons_of_mem _ List.mem_cons_self)),
        iht⟩

/-- the words of all demonstration vocabularies of the bridge files: each of those is a sub-list,
so one evaluation certifies them all (`VocabStable.mono`) -/
def demoWords : List (List Int) :=
  [[0x61], [0x62], [0x20], [0x2D], [0x65, 0x301], [0x1F1E9, 0x1F1EA], [0x9], [0x0A], [0x0D, 0x0A],
    [0x41], [0x42], [0x45, 0x301], [0x2B], [0x7C], [0xE9], [0xC9]]

theorem demoWords_stable : VocabStable demoWords = true := by decide +kernel

/-- a small vocabulary: `a`, space, `e` + combining acute, the flag DE, hyphen -/
def demoVocab : List (List Int) := [[0x61], [0x20], [0x65, 0x301], [0x1F1E9, 0x1F1EA], [0x2D]]

theorem demoVocab_stable : VocabStable demoVocab = true :=
  VocabStable.mono demoWords_stable (by decide)

example : clusters cxA [0x61, 0x65, 0x301, 0x20, 0x1F1E9, 0x1F1EA, 0x1F1E9, 0x1F1EA, 0x2D] =
    [[0x61], [0x65, 0x301], [0x20], [0x1F1E9, 0x1F1EA], [0x1F1E9, 0x1F1EA], [0x2D]] :=
  clusters_flatten_stable [[0x61], [0x65, 0x301], [0x20], [0x1F1E9, 0x1F1EA], [0x1F1E9, 0x1F1EA], [0x2D]]
    (stableRunes_of_vocab demoVocab demoVocab_stable _ (by decide))

/-- the hypotheses are needed: a base letter and a combining mark as separate tokens merge -/
example : clusters cxA [[0x65], [0x301]].flatten ≠ [[0x65], [0x301]] := by decide +kernel

/-- self-containedness alone is not enough: two regional indicators are each a single cluster, but
the junction between them is not a boundary -/
example : SelfContained ([0x1F1E9].map classOf) ∧ SelfContained ([0x1F1EA].map classOf) ∧
    ¬ BreakJunction ([0x1F1E9].map classOf) ([0x1F1EA].map classOf) ∧
    clusters cxA [[0x1F1E9], [0x1F1EA]].flatten = [[0x1F1E9, 0x1F1EA]] := by decide +kernel

/-!
`cxA` works on code points with the real segmentation, `cxB` on cluster tokens with the trivial
one.  An operation is transported from `cxB` to `cxA` by showing that it takes related arguments
to related results.  Here: `Len`, the clusters and `Sub` (`rel_gLen`, `rel_clusters`, `rel_gSub`); IndexFunc and
LastIndexFunc are in BridgeAlign.lean; CharAt and SetCharAt are used in the form `g(Set)CharAt_flatten_stable`. -/

namespace BridgeWrap

theorem cxB_triv : ∀ s : List (List Int), cxB.ends s = List.range' 1 s.length := fun _ => rfl

end BridgeWrap

namespace BridgeAlign
open BridgeWrap

/-- the code-point text `x` is the flattening of the token list `y`, and it segments into
exactly these tokens -/
def Rel (x : List Int) (y : List (List Int)) : Prop := StableRunes y ∧ x = y.flatten

theorem Rel.mk' {toks : List (List Int)} (h : StableRunes toks) : Rel toks.flatten toks := ⟨h, rfl⟩

theorem rel_gLen {x : List Int} {y : List (List Int)} (h : Rel x y) :
    gLen cxA x = gLen cxB y := by
  rw [h.2, gLen_flatten_stable y h.1, gLen_triv cxB cxB_triv]

theorem rel_clusters {x : List Int} {y : List (List Int)} (h : Rel x y) : clusters cxA x = y := by
  rw [h.2, clusters_flatten_stable y h.1]

/-- `gem.String.Sub` with arbitrary integer arguments (negative, out of range, …): both levels
cut out the same run of tokens -/
theorem gSub_flatten {y : List (List Int)} (hst : StableRunes y) (a b : Int) :
    ∃ i n, gSub cxB y a b = (y.drop i).take n ∧
      gSub cxA y.flatten a b = ((y.drop i).take n).flatten := by
  have hb := rangeToIndexes_bounds (y.length : Int) a b (Int.natCast_nonneg _)
  generalize hr : rangeToIndexes (y.length : Int) a b = p at hb
  obtain ⟨st, en⟩ := p
  simp only at hb
  refine ⟨st.toNat, en.toNat - st.toNat,
    gSub_triv_of_rti cxB cxB_triv y a b st en hr hb.1 hb.2.1 hb.2.2, ?_⟩
  have eA : gSub cxA y.flatten a b = gSub cxA y.flatten st en := by
    have hl : (cxA.ends y.flatten).length = y.length := gLen_flatten_stable y hst
    unfold gSub
    simp only [hl, hr, rangeToIndexes_id _ _ _ hb.1 hb.2.1 hb.2.2]
  have := gSub_flatten_stable y hst st.toNat en.toNat (by omega) (by omega)
  rwa [Int.toNat_of_nonneg hb.1, Int.toNat_of_nonneg (by omega), ← eA] at this

theorem rel_gSub {x : List Int} {y : List (List Int)} (h : Rel x y) (a b : Int) :
    Rel (gSub cxA x a b) (gSub cxB y a b) := by
  obtain ⟨hst, rfl⟩ := h
  obtain ⟨i, n, eB, eA⟩ := gSub_flatten hst a b
  rw [eB, eA]
  exact ⟨hst.slice i n, rfl⟩

/-- `Rel` for texts over a vocabulary `V`: the form in which the operations that assemble text
from pieces preserve it (a concatenation of stable sequences need not be stable) -/
def RelV (V : List (List Int)) (x : List Int) (y : List (List Int)) : Prop :=
  (∀ t ∈ y, t ∈ V) ∧ x = y.flatten

section relV
variable {V : List (List Int)} {x x' : List Int} {y y' : List (List Int)}

theorem RelV.rel (hV : VocabStable V = true) (h : RelV V x y) : Rel x y :=
  ⟨stableRunes_of_vocab V hV y h.1, h.2⟩

theorem RelV.mk' (h : ∀ t ∈ y, t ∈ V) : RelV V y.flatten y := ⟨h, rfl⟩

theorem RelV.nil : RelV V [] [] := ⟨fun _ h => (List.not_mem_nil h).elim, rfl⟩

theorem RelV.single {t : List Int} (h : t ∈ V) : RelV V t [t] :=
  ⟨fun _ hu => List.mem_singleton.1 hu ▸ h, (List.append_nil t).symm⟩

theorem RelV.append (h : RelV V x y) (h' : RelV V x' y') : RelV V (x ++ x') (y ++ y') :=
  ⟨fun t ht => (List.mem_append.1 ht).elim (h.1 t) (h'.1 t), by
    rw [List.flatten_append, h.2, h'.2]⟩

theorem RelV.ite (c : Prop) [Decidable c] (h : RelV V x y) (h' : RelV V x' y') :
    RelV V (if c then x else x') (if c then y else y') := by
  split
  · exact h
  · exact h'

theorem RelV.gSub (hV : VocabStable V = true) (h : RelV V x y) (a b : Int) :
    RelV V (gSub cxA x a b) (gSub cxB y a b) := by
  obtain ⟨hy, rfl⟩ := h
  obtain ⟨i, n, eB, eA⟩ := gSub_flatten (stableRunes_of_vocab V hV y hy) a b
  rw [eB, eA]
  exact ⟨fun t ht => hy t (List.mem_of_mem_drop (List.mem_of_mem_take ht)), rfl⟩

end relV

/-- whenever the token-level computation `y` succeeds, the code-point computation `x` succeeds
with a related result.  (One-sided because the two levels run their loops with different fuel:
the length of a text in code points is at least its length in clusters.) -/
def Sim {A B : Type} (r : A → B → Prop) (x : R A) (y : R B) : Prop :=
  ∀ b, y = .ok b → ∃ a, x = .ok a ∧ r a b

section sim
variable {A B C D : Type} {r : A → B → Prop} {q : C → D → Prop}

theorem Sim.pure {a : A} {b : B} (h : r a b) : Sim r (Pure.pure a : R A) (Pure.pure b : R B) := by
  intro b' e
  cases e
  exact ⟨a, rfl, h⟩

theorem Sim.throw (x : R A) (e : Err) : Sim r x (throw e : R B) := fun _ h => nomatch h

theorem Sim.bind {x : R A} {y : R B} {f : A → R C} {g : B → R D} (h : Sim r x y)
    (hf : ∀ a b, r a b → Sim q (f a) (g b)) : Sim q (x >>= f) (y >>= g) := by
  intro d hd
  cases y with
  | error e => exact nomatch hd
  | ok b =>
    obtain ⟨a, rfl, hab⟩ := h b rfl
    exact hf a b hab d hd

theorem Sim.ite (c : Prop) [Decidable c] {x x' : R A} {y y' : R B} (h : Sim r x y)
    (h' : Sim r x' y') : Sim r (if c then x else x') (if c then y else y') := by
  split
  · exact h
  · exact h'

end sim

end BridgeAlign

end RosedVerif
