/-
Model of internal/tb (Block) and internal/manip (CollapseSpace, Wrap,
JustifyLine, AlignLine*, CombineColumnBlocks), transliterated from the Go source.
-/
import RosedVerif.Model.Basic
namespace RosedVerif

structure Block (α : Type) where
  lines : List (List α)
  sep : List α
  trailing : Bool
  deriving Repr

section
variable {α : Type} [DecidableEq α] (cx : Ctx α)

/-- tb.New -/
def Block.new (text sep : List α) : Block α :=
  if text.isEmpty then ⟨[], sep, false⟩
  else
    let ls := splitOn text sep
    if ls.length > 1 ∧ ls.getLast? == some [] then ⟨ls.dropLast, sep, true⟩
    else ⟨ls, sep, false⟩

/-- tb.Block.Join -/
def Block.join (b : Block α) : List α :=
  if b.lines.isEmpty then (if b.trailing then b.sep else [])
  else joinWith b.sep b.lines ++ (if b.trailing then b.sep else [])

omit [DecidableEq α] in
/-- the test for "no lines" changes nothing: the join of no lines is empty -/
theorem Block.join_eq (b : Block α) :
    b.join = joinWith b.sep b.lines ++ (if b.trailing then b.sep else []) := by
  unfold Block.join
  split
  · rename_i h
    rw [List.isEmpty_iff.1 h]
    rfl
  · rfl

/-- tb.Block.Line (panics when out of range) -/
def Block.line (b : Block α) (pos : Int) : R (List α) :=
  if pos < 0 ∨ pos ≥ b.lines.length then throw .index else pure (b.lines.getD pos.toNat [])

/-- tb.Block.Set -/
def Block.set (b : Block α) (pos : Int) (content : List α) : R (Block α) :=
  if pos < 0 ∨ pos ≥ b.lines.length then throw .index
  else pure { b with lines := b.lines.set pos.toNat content }

def Block.append (b : Block α) (content : List α) : Block α := { b with lines := b.lines ++ [content] }

/-- regexp " +" → " " -/
def collapseRuns : List α → List α
  | [] => []
  | [c] => [c]
  | c :: d :: t => if c = cx.sp ∧ d = cx.sp then collapseRuns (d :: t) else c :: collapseRuns (d :: t)

/-- the cluster loop of CollapseSpace: `for i := 0; i < text.Len(); i++` with `text` reassigned inside -/
def setSpacesLoop : Nat → List α → Nat → R (List α)
  | 0, _, _ => throw .fuel
  | fuel + 1, text, i =>
    if i < gLen cx text then do
      let ch ← gCharAt cx text i
      match ch with
      | [] => throw .index
      | c :: _ =>
        let text' ← if cx.isSpace c then gSetCharAt cx text i [cx.sp] else pure text
        setSpacesLoop fuel text' (i + 1)
    else pure text

/-- manip.CollapseSpace -/
def collapseSpace (text lineSep : List α) : R (List α) := do
  let text := if lineSep.isEmpty then text else replaceAll text lineSep [cx.sp]
  let text ← setSpacesLoop cx (text.length + 1) text 0
  pure (collapseRuns cx text)

/-- manip.appendWordToWrappedLine; returns (lines, curLine) -/
def appendWord (width : Int) : Nat → List (List α) → List α → List α → R (List (List α) × List α)
  | 0, _, _, _ => throw .fuel
  | fuel + 1, lines, curWord, curLine =>
    if width < 2 then throw .explicit
    else if gLen cx curWord > 0 then
      let lineLen : Int := gLen cx curLine
      let added : Int := (gLen cx curWord : Int) + (if lineLen != 0 then 1 else 0)
      if lineLen + added == width then
        let curLine := (if lineLen != 0 then curLine ++ [cx.sp] else curLine) ++ curWord
        appendWord width fuel (lines ++ [curLine]) [] []
      else if lineLen + added > width then
        if lineLen == 0 then
          let curLine := curLine ++ gSub cx curWord 0 (width - 1) ++ [cx.hy]
          let curWord := gSub cx curWord (width - 1) (gLen cx curWord)
          appendWord width fuel (lines ++ [curLine]) curWord []
        else
          appendWord width fuel (lines ++ [curLine]) curWord []
      else
        let curLine := (if lineLen != 0 then curLine ++ [cx.sp] else curLine) ++ curWord
        appendWord width fuel lines [] curLine
    else pure (lines, curLine)

/-- the character loop of manip.Wrap over the clusters of the collapsed text -/
def wrapLoop (width : Int) : List (List α) → List (List α) → List α → List α → R (List (List α) × List α × List α)
  | [], lines, curWord, curLine => pure (lines, curWord, curLine)
  | ch :: rest, lines, curWord, curLine =>
    match ch with
    | [] => throw .index
    | c :: _ =>
      if c = cx.sp then do
        let (lines, curLine) ← appendWord cx width (2 * curWord.length + 2) lines curWord curLine
        wrapLoop width rest lines [] curLine
      else wrapLoop width rest lines (curWord ++ ch) curLine

/-- manip.Wrap: the lines of the resulting block (its separator is `lineSep`, no trailing mode) -/
def wrapLines (text : List α) (width : Int) (lineSep : List α) : R (List (List α)) := do
  let width := if width < 2 then 2 else width
  let text ← collapseSpace cx text lineSep
  if text.isEmpty then pure [[]]
  else
    let (lines, curWord, curLine) ← wrapLoop cx width (clusters cx text) [] [] []
    let (lines, curLine) ←
      if !curWord.isEmpty then appendWord cx width (2 * curWord.length + 2) lines curWord curLine
      else pure (lines, curLine)
    pure (if !curLine.isEmpty then lines ++ [curLine] else lines)

/-- the space-distribution loop of JustifyLine: `extra[g]` = spaces added to gap `g` -/
def distribute (numGaps : Int) (odd : Int) : Nat → Int → Bool → List Nat → R (List Nat)
  | 0, _, _, extra => pure extra
  | n + 1, spaceIdx, fromRight, extra =>
    let g : Int := if fromRight then (numGaps - odd) - spaceIdx else spaceIdx
    if g < 0 ∨ g ≥ numGaps then throw .index
    else
      let extra := extra.modify g.toNat (· + 1)
      let spaceIdx := if spaceIdx + 1 ≥ numGaps then 0 else spaceIdx + 1
      distribute numGaps odd n spaceIdx (!fromRight) extra

/-- words interleaved with gaps of `1 + extra[g]` spaces -/
def interleave : List (List α) → List Nat → List α
  | [], _ => []
  | [w], _ => w
  | w :: ws, e :: es => w ++ List.replicate (1 + e) cx.sp ++ interleave ws es
  | w :: ws, [] => w ++ [cx.sp] ++ interleave ws []

/-- manip.JustifyLine -/
def justifyLine (text : List α) (width : Int) : R (List α) := do
  let text ← collapseSpace cx text [cx.nl]
  if (gLen cx text : Int) ≥ width then pure text
  else
    let words := splitOn text [cx.sp]
    let numGaps : Int := (words.length : Int) - 1
    if numGaps < 1 then pure text
    else
      let spacesToAdd : Int := width - gLen cx text
      let odd : Int := if numGaps % 2 == 0 then 0 else 1
      let extra ← distribute numGaps odd spacesToAdd.toNat 0 false (List.replicate numGaps.toNat 0)
      pure (interleave cx words extra)

/-- manip.AlignLineLeft after its first statement, the clamp `if width < 0 { width = 0 }`.  The source
clamps because on 64-bit `int` the difference `width - len` wraps around for a width near `math.MinInt`
(fix c609ea8, finding D20 of DESIGN.md §12.4).  The model keeps the clamp in `alignLeft`, as the source
has it; on unbounded `Int` it changes nothing (`alignLeft_eq_core`), and the lemmas are about the core.
`alignRight`, `alignCenter`, `makeTable` and `Editor.insertDefTableOpts` are split in the same way. -/
def alignLeftCore (text : List α) (width : Int) : List α :=
  let startSpaces := countLeadingWs cx text
  let endingText := if startSpaces > 0 then gSub cx text startSpaces (gLen cx text) else text
  let extra : Int := width - gLen cx endingText
  endingText ++ gRepeat [cx.sp] (if extra > 0 then extra else 0)

/-- manip.AlignLineLeft: a negative width is clamped to 0 before `width - len` (finding D20) -/
def alignLeft (text : List α) (width : Int) : List α :=
  alignLeftCore cx text (if width < 0 then 0 else width)

/-- manip.AlignLineRight after its clamp of the width -/
def alignRightCore (text : List α) (width : Int) : List α :=
  let endSpaces := countTrailingWs cx text
  let startingText := if endSpaces > 0 then gSub cx text 0 (-endSpaces) else text
  let extra : Int := width - gLen cx startingText
  gRepeat [cx.sp] (if extra > 0 then extra else 0) ++ startingText

/-- manip.AlignLineRight: a negative width is clamped to 0 before `width - len` (finding D20) -/
def alignRight (text : List α) (width : Int) : List α :=
  alignRightCore cx text (if width < 0 then 0 else width)

/-- manip.AlignLineCenter after its clamp of the width -/
def alignCenterCore (text : List α) (width : Int) : List α :=
  let startSpaces := countLeadingWs cx text
  let endSpaces := countTrailingWs cx text
  let midText := if endSpaces > 0 then gSub cx text startSpaces (-endSpaces)
                 else gSub cx text startSpaces (gLen cx text)
  let spaceNeeded : Int := width - gLen cx midText
  if spaceNeeded ≤ 0 then midText
  else
    let right := spaceNeeded / 2     -- Go `/` truncates; operands are positive here
    let left := spaceNeeded - right
    gRepeat [cx.sp] left ++ midText ++ gRepeat [cx.sp] right

/-- manip.AlignLineCenter: a negative width is clamped to 0 before `width - len` (finding D20) -/
def alignCenter (text : List α) (width : Int) : List α :=
  alignCenterCore cx text (if width < 0 then 0 else width)

theorem clamp_sub_pos_false {w : Int} (h : w ≤ 0) (n : Nat) : (w - (n : Int) > 0) = False :=
  eq_false (by omega)
theorem clamp_sub_le_true {w : Int} (h : w ≤ 0) (n : Nat) : (w - (n : Int) ≤ 0) = True :=
  eq_true (by omega)

omit [DecidableEq α] in
/-- the core sees the width only through `width - len > 0` with `len ≥ 0` -/
theorem alignLeftCore_clamp (text : List α) (w : Int) :
    alignLeftCore cx text (if w < 0 then 0 else w) = alignLeftCore cx text w := by
  by_cases h : w < 0
  · simp only [h, if_true]
    unfold alignLeftCore
    simp only [clamp_sub_pos_false (Int.le_refl 0), clamp_sub_pos_false (Int.le_of_lt h), if_false]
  · simp only [h, if_false]

omit [DecidableEq α] in
theorem alignRightCore_clamp (text : List α) (w : Int) :
    alignRightCore cx text (if w < 0 then 0 else w) = alignRightCore cx text w := by
  by_cases h : w < 0
  · simp only [h, if_true]
    unfold alignRightCore
    simp only [clamp_sub_pos_false (Int.le_refl 0), clamp_sub_pos_false (Int.le_of_lt h), if_false]
  · simp only [h, if_false]

omit [DecidableEq α] in
theorem alignCenterCore_clamp (text : List α) (w : Int) :
    alignCenterCore cx text (if w < 0 then 0 else w) = alignCenterCore cx text w := by
  by_cases h : w < 0
  · simp only [h, if_true]
    unfold alignCenterCore
    simp only [clamp_sub_le_true (Int.le_refl 0), clamp_sub_le_true (Int.le_of_lt h), if_true]
  · simp only [h, if_false]

omit [DecidableEq α] in
/-- the public functions are their cores (as functions, so that partial applications rewrite too) -/
theorem alignLeft_eq_core : alignLeft cx = alignLeftCore cx := by
  funext t w; exact alignLeftCore_clamp cx t w
omit [DecidableEq α] in
theorem alignRight_eq_core : alignRight cx = alignRightCore cx := by
  funext t w; exact alignRightCore_clamp cx t w
omit [DecidableEq α] in
theorem alignCenter_eq_core : alignCenter cx = alignCenterCore cx := by
  funext t w; exact alignCenterCore_clamp cx t w

/-- manip.CombineColumnBlocks: the lines of the combined block -/
def combineColumns (left right : List (List α)) (minSpaceBetween : Int) : R (List (List α)) :=
  if left.isEmpty ∧ right.isEmpty then pure []
  else do
    let numLines := max left.length right.length
    let leftMax : Int := left.foldl (fun m l => if (gLen cx l : Int) > m then gLen cx l else m) 0
    let total : Int := leftMax + minSpaceBetween
    (List.range numLines).mapM fun i => do
      let l := left.getD i []
      let lc : Int := if i < left.length then gLen cx l else 0
      let r := right.getD i []
      let spacer ← repeatStr [cx.sp] (total - lc)
      pure (l ++ spacer ++ r)

end
end RosedVerif
