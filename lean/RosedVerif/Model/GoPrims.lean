/-
The TRUSTED semantic mapping  Go primitive ↦ model primitive  used by the typed Go → Lean translator
(harness/gofn.go, output: Gen/Code.lean).  One definition per Go primitive the translator may emit: the model
primitive it stands for where the model has one (a one-liner); slices, integer division, floats, the `Editor` fields and
the loop combinators are defined here.  Core only.

Conventions: `gem.String`, `string`, `[]rune` are all `List α`; `int` is unbounded `Int`; a Go panic is
an `Except.error`.  `gem.New`, `String()`, `string(..)`, `gem.Strings`, `gem.Slice`, `*p` (pointer to a
struct value) are identities and leave no trace in the generated code.
-/
import RosedVerif.Model.Ops
namespace RosedVerif.Go

section
variable {α : Type} [DecidableEq α] (cx : Ctx α) {β σ : Type}

/-! ### gem.String -/
/-- `s.Len()` -/
@[reducible] def gsLen (s : List α) : Int := gLen cx s
/-- `s.Sub(a, b)` -/
@[reducible] def gsSub (s : List α) (a b : Int) : List α := gSub cx s a b
/-- `a.Add(b)` -/
@[reducible] def gsAdd (a b : List α) : List α := a ++ b
/-- `s.CharAt(i)` -/
@[reducible] def gsCharAt (s : List α) (i : Int) : R (List α) := gCharAt cx s i
/-- `s.SetCharAt(i, r)` -/
@[reducible] def gsSetCharAt (s : List α) (i : Int) (r : List α) : R (List α) := gSetCharAt cx s i r
/-- `s.IsEmpty()` -/
@[reducible] def gsIsEmpty (s : List α) : Bool := s.isEmpty
/-- `s.IndexFunc(f)` -/
@[reducible] def gsIndexFunc (s : List α) (f : List α → Bool) : Int := gIndexFunc cx f s
/-- `s.LastIndexFunc(f)` -/
@[reducible] def gsLastIndexFunc (s : List α) (f : List α → Bool) : Int := gLastIndexFunc cx f s
/-- `s.Equal(t)` for `t` a string or a gem.String -/
@[reducible] def gsEqual (s t : List α) : Bool := decide (s = t)
/-- `gem.RepeatStr(s, n)` / `gem.Repeat(s, n)` -/
@[reducible] def gemRepeatStr (s : List α) (n : Int) : List α := gRepeat s n

/-- `s.GraphemeIndexes()`: for every cluster the pair `[start, end)` of rune offsets -/
def gsGraphemeIndexes (s : List α) : List (List Int) :=
  (List.range (cx.ends s).length).map fun i =>
    [((clusterSpan (cx.ends s) i).1 : Int), ((clusterSpan (cx.ends s) i).2 : Int)]

/-! ### strings, unicode, regexp, fmt -/
/-- `strings.Repeat(s, n)` (panics on a negative count) -/
@[reducible] def stringsRepeat (s : List α) (n : Int) : R (List α) := repeatStr s n
/-- `strings.Split(s, sep)` -/
@[reducible] def stringsSplit (s sep : List α) : List (List α) := splitOn s sep
/-- `strings.Join(parts, sep)` -/
@[reducible] def stringsJoin (parts : List (List α)) (sep : List α) : List α := joinWith sep parts
/-- `strings.ReplaceAll(s, old, new)` -/
@[reducible] def stringsReplaceAll (s old new : List α) : List α := replaceAll s old new
/-- `strings.HasSuffix(s, suffix)` -/
@[reducible] def stringsHasSuffix (s suffix : List α) : Bool := suffix.isSuffixOf s
/-- `strings.HasPrefix(s, prefix)` -/
@[reducible] def stringsHasPrefix (s pre : List α) : Bool := pre.isPrefixOf s
/-- `strings.Count(s, sep)` for a non-empty `sep` -/
@[reducible] def stringsCount (s sep : List α) : Int := ((splitOn s sep).length : Int) - 1
/-- `strings.Index(s, sep)`: the byte offset of the leftmost occurrence, or -1 -/
def stringsIndex (s sep : List α) : Int :=
  match indexOf sep s with
  | none => -1
  | some i => ((byteLen cx (s.take i) : Nat) : Int)
/-- `strings.ToUpper(s)` -/
@[reducible] def stringsToUpper (s : List α) : List α := s.map cx.upper
/-- `unicode.IsSpace(r)` -/
@[reducible] def unicodeIsSpace (r : α) : Bool := cx.isSpace r
/-- `strings.ContainsRune(s, r)` -/
@[reducible] def stringsContainsRune (s : List α) (r : α) : Bool := decide (r ∈ s)
/-- `string(r)` for a rune `r` (a valid code point): the one-rune string -/
@[reducible] def stringOfRune (r : α) : List α := [r]
/-- `r++` / `r + 1` on a rune (32-bit wrap-around not modelled) -/
@[reducible] def runeSucc (r : α) : α := cx.phNext r
/-- `unicode.IsSpace(gc[0])` inside a (pure) closure over a grapheme cluster: clusters are never
empty (Gem/Theory), the model maps `[]` to "is a space" -/
@[reducible] def isSpaceHead (gc : List α) : Bool := !notSpaceHead cx gc
/-- `spaceCollapser.ReplaceAllString(s, " ")` with `spaceCollapser = regexp.MustCompile(" +")` -/
@[reducible] def collapseSpaceRuns (s : List α) : List α := collapseRuns cx s

/-! ### slices and strings as byte sequences -/
/-- `len(xs)` for a slice -/
@[reducible] def sliceLen (xs : List β) : Int := xs.length
/-- `len(s)` for a string: bytes -/
@[reducible] def strLen (s : List α) : Int := byteLen cx s
/-- `xs[i]` -/
def idx (xs : List β) (i : Int) : R β :=
  if h : 0 ≤ i ∧ i.toNat < xs.length then pure xs[i.toNat] else throw .index
/-- `xs[i] = v` -/
def sliceSet (xs : List β) (i : Int) (v : β) : R (List β) :=
  if 0 ≤ i ∧ i.toNat < xs.length then pure (xs.set i.toNat v) else throw .index
/-- `xs[:n]` for a slice (bounds: its length; the capacity is not modelled) -/
def sliceTo (xs : List β) (n : Int) : R (List β) :=
  if 0 ≤ n ∧ n.toNat ≤ xs.length then pure (xs.take n.toNat) else throw .slice
/-- `xs[n:]` for a slice -/
def sliceFrom (xs : List β) (n : Int) : R (List β) :=
  if 0 ≤ n ∧ n.toNat ≤ xs.length then pure (xs.drop n.toNat) else throw .slice
/-- `make([]T, n)` (panics on a negative length) -/
def makeSlice (n : Int) (zero : β) : R (List β) := if n < 0 then throw .explicit else pure (List.replicate n.toNat zero)
/-- `copy(dst, src)`: the new value of `dst` -/
@[reducible] def copySlice (dst src : List β) : List β := src.take dst.length ++ dst.drop src.length
/-- `s[:a] + t + s[b:]` on strings with byte offsets -/
@[reducible] def strSplice (s : List α) (a b : Int) (t : List α) : R (List α) := spliceBytes cx s a b t
/-- `s[a:b]` on a string with byte offsets -/
@[reducible] def strSlice (s : List α) (a b : Int) : R (List α) := byteSlice cx s a b
/-- `for byteIdx := range s`: the byte offset of every rune of the string -/
def strByteOffsets (s : List α) : List Int := (List.range s.length).map fun k => ((byteOff cx s k : Nat) : Int)
/-- `a / b` on ints with a divisor that is not a non-zero constant -/
def intDiv (a b : Int) : R Int := if b = 0 then throw .explicit else pure (Int.tdiv a b)
/-- `a % b` likewise -/
def intMod (a b : Int) : R Int := if b = 0 then throw .explicit else pure (Int.tmod a b)

/-! ### float64 (T2)
A finite `float64` is the hand model's `Pct` = ± num / 2^exp (NaN and ±Inf are not represented).  Constants are
emitted as exact `Pct.mk` values; the only operations are the comparisons and `int(float64(n) * p)`. -/
/-- the value of `p` times `2^p.exp`, signed -/
@[reducible] def f64Num (p : Pct) : Int := if p.neg then -(p.num : Int) else (p.num : Int)
/-- `a < b` on floats (cross-multiplied by the positive denominators) -/
def f64Lt (a b : Pct) : Prop := f64Num a * 2 ^ b.exp < f64Num b * 2 ^ a.exp
/-- `a <= b` on floats -/
def f64Le (a b : Pct) : Prop := f64Num a * 2 ^ b.exp ≤ f64Num b * 2 ^ a.exp
/-- `a == b` on floats (`-0.0 == 0.0`) -/
def f64Eq (a b : Pct) : Prop := f64Num a * 2 ^ b.exp = f64Num b * 2 ^ a.exp
instance (a b : Pct) : Decidable (f64Lt a b) := inferInstanceAs (Decidable (_ < _))
instance (a b : Pct) : Decidable (f64Le a b) := inferInstanceAs (Decidable (_ ≤ _))
instance (a b : Pct) : Decidable (f64Eq a b) := inferInstanceAs (Decidable (_ = _))
/-- `int(float64(n) * p)`: the model's product-round-truncate on the magnitudes, sign of the product (Go
truncates toward zero; rounding is symmetric).  As in the hand model, `float64(n)` is taken to be exact
(true for |n| ≤ 2^53) and the result to fit an `int`. -/
def f64MulTrunc (n : Int) (p : Pct) : Int :=
  if (decide (n < 0)) != p.neg then -(mulRoundTrunc n.natAbs p.num p.exp : Int) else (mulRoundTrunc n.natAbs p.num p.exp : Int)

/-! ### Editor -/
/-- `ed.ref.parent` (nil dereference on a root editor) -/
def edRefParent : Editor α → R (Editor α) | .root _ _ => throw .explicit | .sub _ _ p _ _ => pure p
/-- `ed.ref.start` -/
def edRefStart : Editor α → R Int | .root _ _ => throw .explicit | .sub _ _ _ a _ => pure a
/-- `ed.ref.end` -/
def edRefEnd : Editor α → R Int | .root _ _ => throw .explicit | .sub _ _ _ _ b => pure b
/-- `e.ref = &parentRef{parent: &p, start: a, end: b}`: `e` becomes a sub-editor of (a snapshot of) `p` -/
@[reducible] def edWithRef (e p : Editor α) (a b : Int) : Editor α := .sub e.text e.opts p a b
/-- `ed.cache`: the model's Editor has no cache field; every Editor the model can represent has a nil
cache (no function of the library stores a non-nil cache in an Editor it returns or passes on, and the
translator refuses a function in which an Editor with an assigned cache escapes) -/
@[reducible] def edCache (_ed : Editor α) : Option (List α) := none
/-- `*p` for a `*gem.String` (nil dereference panics) -/
def deref : Option β → R β | none => throw .explicit | some x => pure x

/-- `rosed.Edit(s)` -/
@[reducible] def edit (s : List α) : Editor α := .root s {}
/-- `ed.ApplyOpts(op, opts)` with a callback given as a (monadic) closure; the index is an `int` -/
@[reducible] def edApplyOpts (ed : Editor α) (op : Int → List α → R (List (List α))) (o : Options α) : R (Editor α) :=
  ed.applyOptsM cx (fun i l => op i l) o
/-- `ed.applyGParagraphsOpts(op, opts)` / `ed.ApplyParagraphsOpts(op, opts)` likewise -/
@[reducible] def edApplyParagraphsOpts (ed : Editor α) (op : Int → List α → List α → List α → R (List (List α)))
    (o : Options α) : R (Editor α) :=
  ed.applyParasM cx (fun i p a b => op i p a b) o

/-! ### loops -/
/-- `for cond { body }` over the tuple of variables the loop assigns; `fuel` bounds the number of
evaluations of `cond` (running out of fuel is `Err.fuel`, as in the hand model's loops) -/
def whileM (fuel : Nat) (cond : σ → R Bool) (body : σ → R σ) (s : σ) : R σ :=
  match fuel with
  | 0 => throw .fuel
  | n + 1 => do if (← cond s) then whileM n cond body (← body s) else pure s

/-- outcome of one iteration of a loop that contains `break` or `return` -/
inductive Ctl (ρ : Type) where
  | next
  | brk
  | ret (v : ρ)

/-- `whileM` for a loop with `break`/`return`: the final state and the returned value, if any -/
def whileCtlM {ρ : Type} (fuel : Nat) (cond : σ → R Bool) (body : σ → R (σ × Ctl ρ)) (s : σ) : R (σ × Option ρ) :=
  match fuel with
  | 0 => throw .fuel
  | n + 1 => do
    if (← cond s) then do
      let r ← body s
      match r.2 with
      | .next => whileCtlM n cond body r.1
      | .brk => pure (r.1, none)
      | .ret v => pure (r.1, some v)
    else pure (s, none)

def forRangeCtlAux {ρ : Type} (body : Int → β → σ → R (σ × Ctl ρ)) : Int → List β → σ → R (σ × Option ρ)
  | _, [], s => pure (s, none)
  | i, x :: xs, s => do
    let r ← body i x s
    match r.2 with
    | .next => forRangeCtlAux body (i + 1) xs r.1
    | .brk => pure (r.1, none)
    | .ret v => pure (r.1, some v)

/-- `forRangeM` for a loop with `break`/`return` -/
def forRangeCtlM {ρ : Type} (xs : List β) (body : Int → β → σ → R (σ × Ctl ρ)) (s : σ) : R (σ × Option ρ) :=
  forRangeCtlAux body 0 xs s

def forRangeAux (body : Int → β → σ → R σ) : Int → List β → σ → R σ
  | _, [], s => pure s
  | i, x :: xs, s => do forRangeAux body (i + 1) xs (← body i x s)

/-- `for i, x := range xs { body }` (the slice is evaluated once; the translator refuses a body that
writes to the elements of `xs`) -/
def forRangeM (xs : List β) (body : Int → β → σ → R σ) (s : σ) : R σ := forRangeAux body 0 xs s

end
end RosedVerif.Go
