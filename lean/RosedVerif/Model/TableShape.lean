/-
C16 — the SHAPE of a table (cluster level: every atom is its own cluster).

`TableLemmas.lean` proves that a table is rectangular and how many lines it has, from the form of a
row as a line of segments.  This file proves what is IN the lines: segment `k` of every row is
exactly `colWidths[k]` long and starts at the same offset; what a cell segment contains (a missing
cell is blank); the header row is upper-cased and followed by a rule; the borders; rows appear in
order — all of it for `makeTable` with the widths it computes (`makeTable_shape`).
-/
import RosedVerif.Model.TableLemmas
namespace RosedVerif
set_option linter.unusedSectionVars false

/-- the start offsets of all columns -/
def colOffsets (colWidths : List Int) (border : Bool) (vlen : Nat) : List Int :=
  (List.range colWidths.length).map (colOffset colWidths border vlen)

theorem colOffset_zero (cws : List Int) (border : Bool) (vlen : Nat) :
    colOffset cws border vlen 0 = if border = true then (vlen : Int) else 0 := by
  unfold colOffset segOffset
  cases border <;> simp [sumTo]

/-- the next column starts after this column's width and one vertical bar -/
theorem colOffset_succ (cws : List Int) (border : Bool) (vlen : Nat) (k : Nat) :
    colOffset cws border vlen (k + 1) =
      colOffset cws border vlen k + cws.getD k 0 + (if border = true then (vlen : Int) else 0) := by
  unfold colOffset segOffset
  cases border <;> simp only [sumTo, Bool.false_eq_true, if_false, if_true] <;> omega

theorem colOffsets_length (cws : List Int) (border : Bool) (vlen : Nat) :
    (colOffsets cws border vlen).length = cws.length := by
  simp [colOffsets]

theorem colOffsets_getD (cws : List Int) (border : Bool) (vlen : Nat) (k : Nat)
    (hk : k < cws.length) :
    (colOffsets cws border vlen).getD k 0 = colOffset cws border vlen k :=
  getD_map_range _ _ _ _ hk

/-! ## where the cell segments of a row are -/
section
variable {α : Type} [DecidableEq α] (cx : Ctx α)

/-- segment `k` starts at offset `colOffset … k` in EVERY row whose cells up to `k` fit:
cutting `colWidths[k]` atoms at that offset gives the cell segment -/
theorem tableRow_seg_at (htriv : ∀ s, cx.ends s = List.range' 1 s.length)
    (row : List (List α)) (cws : List Int) (isHeader border : Bool) (chars : TableChars α)
    (k : Nat) (hk : k < cws.length)
    (hfit : ∀ i, i ≤ k → cellFits cx row cws isHeader border i) :
    ((tableRow cx row cws isHeader border chars).drop
        (colOffset cws border chars.vert.length k).toNat).take (cws.getD k 0).toNat =
      cellSeg cx row cws isHeader border k := by
  rw [tableRow_eq_segs]
  have := segLine_seg_at (rowSep border chars) (rowSep border chars) cws.length
    (cellSeg cx row cws isHeader border) (fun i => cws.getD i 0) k hk
    (fun i hi => (cellSeg_length_iff cx htriv row cws isHeader border i).2 (hfit i hi))
  rw [rowSep_length] at this
  exact this

/-- with borders a row starts with the vertical bar … -/
theorem tableRow_vert_start (row : List (List α)) (cws : List Int) (isHeader : Bool)
    (chars : TableChars α) :
    (tableRow cx row cws isHeader true chars).take chars.vert.length = chars.vert := by
  rw [tableRow_eq_segs]
  exact segLine_start chars.vert chars.vert _ _

/-- … and has the vertical bar right after every column segment -/
theorem tableRow_vert_at (htriv : ∀ s, cx.ends s = List.range' 1 s.length)
    (row : List (List α)) (cws : List Int) (isHeader : Bool) (chars : TableChars α)
    (k : Nat) (hk : k < cws.length)
    (hfit : ∀ i, i ≤ k → cellFits cx row cws isHeader true i) :
    ((tableRow cx row cws isHeader true chars).drop
        (colOffset cws true chars.vert.length k + cws.getD k 0).toNat).take chars.vert.length =
      chars.vert := by
  rw [tableRow_eq_segs]
  exact segLine_sep_at chars.vert chars.vert cws.length
    (cellSeg cx row cws isHeader true) (fun i => cws.getD i 0) k hk
    (fun i hi => (cellSeg_length_iff cx htriv row cws isHeader true i).2 (hfit i hi))

/-! ## what a cell segment contains -/

/-- bordered header cell, explicitly: `a` spaces, the upper-cased cell stripped on both sides,
`b` spaces, with `a = b` or `a = b + 1`; and when the unstripped cell leaves two columns free (as
`makeTable` guarantees) there is at least one space on either side -/
theorem cellSeg_header_border_shape (htriv : ∀ s, cx.ends s = List.range' 1 s.length)
    (row : List (List α)) (cws : List Int) (k : Nat) :
    ∃ a b, cellSeg cx row cws true true k =
        List.replicate a cx.sp ++
          Spec.stripRight ⟨cx.isSpace, cx.sp, cx.hy⟩ (Spec.stripLeft ⟨cx.isSpace, cx.sp, cx.hy⟩
            ((row.getD k []).map cx.upper)) ++
          List.replicate b cx.sp ∧
      (a = b ∨ a = b + 1) ∧
      (((row.getD k []).length : Int) + 2 ≤ cws.getD k 0 → 1 ≤ a ∧ 1 ≤ b) := by
  rw [cellSeg_triv cx htriv, if_pos rfl, if_pos rfl, Spec.alignCenter_eq]
  refine ⟨_, _, rfl, by omega, ?_⟩
  intro h
  have h2 := Spec.stripLeft_length_le ⟨cx.isSpace, cx.sp, cx.hy⟩ ((row.getD k []).map cx.upper)
  have h3 := Spec.stripRight_length_le ⟨cx.isSpace, cx.sp, cx.hy⟩
    (Spec.stripLeft ⟨cx.isSpace, cx.sp, cx.hy⟩ ((row.getD k []).map cx.upper))
  rw [List.length_map] at h2
  show 1 ≤ _ ∧ 1 ≤ _
  unfold cellText
  rw [if_pos rfl]
  omega

/-- the non-whitespace text of a cell (upper-cased in a header) is exactly the non-whitespace
text of its own segment: nothing is lost, nothing leaks in from a neighbour -/
theorem cellSeg_nonws (htriv : ∀ s, cx.ends s = List.range' 1 s.length)
    (hsp : cx.isSpace cx.sp = true)
    (row : List (List α)) (cws : List Int) (isHeader border : Bool) (k : Nat) :
    (cellSeg cx row cws isHeader border k).filter (fun c => !cx.isSpace c) =
      (cellText cx row isHeader k).filter (fun c => !cx.isSpace c) := by
  rw [cellSeg_triv cx htriv]
  split
  · split
    · exact Spec.alignCenter_nonws ⟨cx.isSpace, cx.sp, cx.hy⟩ hsp _ _
    · rw [List.filter_append, Spec.alignLeft_nonws ⟨cx.isSpace, cx.sp, cx.hy⟩ hsp]
      simp [hsp]
  · exact Spec.alignLeft_nonws ⟨cx.isSpace, cx.sp, cx.hy⟩ hsp _ _

/-- a MISSING cell (`k ≥ row.length`) gives a segment of `colWidths[k]` spaces (a bordered body
cell needs `1 ≤ colWidths[k]` for its leading space) -/
theorem cellSeg_missing (htriv : ∀ s, cx.ends s = List.range' 1 s.length)
    (row : List (List α)) (cws : List Int) (isHeader border : Bool) (k : Nat)
    (hk : row.length ≤ k)
    (hw : border = true → isHeader = false → 1 ≤ cws.getD k 0) :
    cellSeg cx row cws isHeader border k = List.replicate (cws.getD k 0).toNat cx.sp := by
  have hs : Spec.stripLeft ⟨cx.isSpace, cx.sp, cx.hy⟩ ([] : List α) = [] := rfl
  have hr : Spec.stripRight ⟨cx.isSpace, cx.sp, cx.hy⟩ ([] : List α) = [] := rfl
  rw [cellSeg_triv cx htriv, cellText_missing cx row isHeader k hk]
  simp only [Spec.alignLeft_eq, Spec.alignCenter_eq, hs, hr, List.length_nil, List.nil_append,
    List.append_nil, Int.natCast_zero, Int.sub_zero]
  split
  · split
    · rw [List.replicate_append_replicate]
      congr 1
      omega
    · have h1 := hw ‹_› (by simpa using ‹¬isHeader = true›)
      rw [show [cx.sp] = List.replicate 1 cx.sp from rfl, List.replicate_append_replicate]
      congr 1
      omega
  · rfl

theorem mem_cellSeg (htriv : ∀ s, cx.ends s = List.range' 1 s.length)
    (row : List (List α)) (cws : List Int) (isHeader border : Bool) (k : Nat) (a : α)
    (h : a ∈ cellSeg cx row cws isHeader border k) :
    a = cx.sp ∨ a ∈ cellText cx row isHeader k := by
  have hl : ∀ (t : List α), a ∈ Spec.stripLeft ⟨cx.isSpace, cx.sp, cx.hy⟩ t → a ∈ t :=
    fun t h => (Spec.stripLeft_suffix _ t).subset h
  have hr : ∀ (t : List α), a ∈ Spec.stripRight ⟨cx.isSpace, cx.sp, cx.hy⟩ t → a ∈ t :=
    fun t h => (Spec.stripRight_prefix _ t).subset h
  rw [cellSeg_triv cx htriv] at h
  simp only [Spec.alignLeft_eq, Spec.alignCenter_eq] at h
  split at h
  · split at h
    · simp only [List.mem_append, List.mem_replicate] at h
      rcases h with (h | h) | h
      · exact .inl h.2
      · exact .inr (hl _ (hr _ h))
      · exact .inl h.2
    · simp only [List.mem_append, List.mem_replicate, List.mem_singleton] at h
      rcases h with h | h | h
      · exact .inl h
      · exact .inr (hl _ h)
      · exact .inl h.2
  · simp only [List.mem_append, List.mem_replicate] at h
    rcases h with h | h
    · exact .inr (hl _ h)
    · exact .inl h.2

theorem mem_tableRow (htriv : ∀ s, cx.ends s = List.range' 1 s.length)
    (row : List (List α)) (cws : List Int) (isHeader border : Bool) (chars : TableChars α) (a : α)
    (h : a ∈ tableRow cx row cws isHeader border chars) :
    (border = true ∧ a ∈ chars.vert) ∨ a = cx.sp ∨
      ∃ k, k < cws.length ∧ a ∈ cellText cx row isHeader k := by
  rw [tableRow_eq_segs] at h
  have hsep : a ∈ rowSep border chars → border = true ∧ a ∈ chars.vert := by
    intro h
    unfold rowSep at h
    split at h
    · exact ⟨‹_›, h⟩
    · cases h
  rcases mem_segLine _ _ _ _ a h with h | h | ⟨k, hk, h⟩
  · exact .inl (hsep h)
  · exact .inl (hsep h)
  · rcases mem_cellSeg cx htriv row cws isHeader border k a h with h | h
    · exact .inr (.inl h)
    · exact .inr (.inr ⟨k, hk, h⟩)

/-- a borderless row does not depend on the character set at all -/
theorem tableRow_noBorder_chars (row : List (List α)) (cws : List Int) (isHeader : Bool)
    (chars chars' : TableChars α) :
    tableRow cx row cws isHeader false chars = tableRow cx row cws isHeader false chars' := by
  rw [tableRow_eq_segs, tableRow_eq_segs]
  rfl

end

/-! ## the horizontal bar -/
section
variable {α : Type} (cx : Ctx α)

theorem mem_gRepeat (s : List α) (w : Int) (a : α) (h : a ∈ gRepeat s w) : a ∈ s := by
  unfold gRepeat at h
  obtain ⟨l, hl, ha⟩ := List.mem_flatten.1 h
  rw [(List.mem_replicate.1 hl).2] at ha
  exact ha

theorem mem_tableHorzBar (cws : List Int) (chars : TableChars α) (a : α)
    (h : a ∈ tableHorzBar cws chars) : a ∈ chars.corner ∨ a ∈ chars.horz := by
  rw [tableHorzBar_eq_segs] at h
  rcases mem_segLine _ _ _ _ a h with h | h | ⟨k, _, h⟩
  · exact .inl h
  · exact .inl h
  · exact .inr (mem_gRepeat _ _ _ h)

/-- the bar starts with a corner … -/
theorem tableHorzBar_corner_start (cws : List Int) (chars : TableChars α) :
    (tableHorzBar cws chars).take chars.corner.length = chars.corner := by
  rw [tableHorzBar_eq_segs]
  exact segLine_start _ _ _ _

/-- … has `w_k` horizontal atoms under column `k` (same offset as the cell segments of the
rows when the corner is as long as the vertical bar) … -/
theorem tableHorzBar_seg_at (cws : List Int) (chars : TableChars α) (hh : chars.horz.length = 1)
    (k : Nat) (hk : k < cws.length) (hpos : ∀ i, i ≤ k → 0 ≤ cws.getD i 0) :
    ((tableHorzBar cws chars).drop (colOffset cws true chars.corner.length k).toNat).take
      (cws.getD k 0).toNat = gRepeat chars.horz (cws.getD k 0) := by
  rw [tableHorzBar_eq_segs]
  exact segLine_seg_at chars.corner chars.corner cws.length
    (fun k => gRepeat chars.horz (cws.getD k 0)) (fun i => cws.getD i 0) k hk
    (fun i hi => gRepeat_length_one _ hh _ (hpos i hi))

/-- … and a corner at every column boundary (where the rows have their vertical bar) -/
theorem tableHorzBar_corner_at (cws : List Int) (chars : TableChars α) (hh : chars.horz.length = 1)
    (k : Nat) (hk : k < cws.length) (hpos : ∀ i, i ≤ k → 0 ≤ cws.getD i 0) :
    ((tableHorzBar cws chars).drop
      (colOffset cws true chars.corner.length k + cws.getD k 0).toNat).take chars.corner.length =
      chars.corner := by
  rw [tableHorzBar_eq_segs]
  exact segLine_sep_at chars.corner chars.corner cws.length
    (fun k => gRepeat chars.horz (cws.getD k 0)) (fun i => cws.getD i 0) k hk
    (fun i hi => gRepeat_length_one _ hh _ (hpos i hi))

end

/-! ## the lines of `buildTable` -/
section
variable {α : Type} [DecidableEq α] (cx : Ctx α)

/-- the line number of data row `i`: after the top border (if any) and, for the rows below a
header row, after the rule under the header -/
def rowLine (header border : Bool) (i : Nat) : Nat :=
  (if border = true then 1 else 0) + i + (if header = true ∧ 0 < i then 1 else 0)

theorem rowLine_lt (header border : Bool) (i j : Nat) (h : i < j) :
    rowLine header border i < rowLine header border j := by
  have : (if header = true ∧ 0 < i then 1 else 0) ≤ (if header = true ∧ 0 < j then 1 else 0) := by
    split
    · rw [if_pos ⟨‹_ ∧ _›.1, by omega⟩]
      exact Nat.le_refl 1
    · exact Nat.zero_le _
  unfold rowLine
  omega

/-- rows appear in order: line `rowLine i` of the table is the laid-out row `i` (a header row
iff `i = 0` and `header`) -/
theorem buildTable_rowLine (data : List (List (List α))) (cws : List Int) (width : Int)
    (header border : Bool) (chars : TableChars α) (i : Nat) (hi : i < data.length) :
    (buildTable cx data cws width header border chars)[rowLine header border i]? =
      some (tableRow cx data[i] cws (i == 0 && header) border chars) := by
  have hrow : data.getD i [] = data[i] := (List.getElem_eq_getD []).symm
  rw [buildTable_eq,
    flatten_map_range_split (tableRowLines cx data cws width header border chars)
      data.length i hi, tableRowLines, hrow, List.append_assoc, List.append_assoc,
      List.append_assoc, List.singleton_append, ← List.append_assoc]
  apply getElem?_of_split
  -- a header rule before row `i` means there is a second row, so a bordered table has it too
  rw [List.length_append, length_tableRowLines_prefix, rowLine]
  have hd : 0 < i → data.length > 1 := by omega
  cases border <;> simp only [Bool.false_eq_true, if_false, if_true, List.length_nil,
    List.length_cons]
  · omega
  · split
    · rw [if_pos (hd ‹_ ∧ _›.2)]
      omega
    · omega

/-- with borders the first line is the horizontal bar … -/
theorem buildTable_first_border (data : List (List (List α))) (cws : List Int) (width : Int)
    (header : Bool) (chars : TableChars α) :
    (buildTable cx data cws width header true chars)[0]? = some (tableHorzBar cws chars) := by
  rw [buildTable_eq]
  simp

/-- … and so is the last one -/
theorem buildTable_last_border (data : List (List (List α))) (cws : List Int) (width : Int)
    (header : Bool) (chars : TableChars α) :
    (buildTable cx data cws width header true chars).getLast? = some (tableHorzBar cws chars) := by
  rw [buildTable_eq]
  simp only [if_true]
  exact List.getLast?_concat

/-- borderless table with a header: line 1 (right under the header row, line 0) is the rule
`horz^width` -/
theorem buildTable_header_rule_noBorder (data : List (List (List α))) (cws : List Int)
    (width : Int) (chars : TableChars α) (hd : 0 < data.length) :
    (buildTable cx data cws width true false chars)[1]? = some (gRepeat chars.horz width) := by
  rw [buildTable_eq,
    flatten_map_range_split (tableRowLines cx data cws width true false chars)
      data.length 0 hd]
  simp [tableRowLines]

/-- bordered table with a header and at least one more row: line 2 (right under the header
row, line 1) is the horizontal bar -/
theorem buildTable_header_rule_border (data : List (List (List α))) (cws : List Int)
    (width : Int) (chars : TableChars α) (hd : 1 < data.length) :
    (buildTable cx data cws width true true chars)[2]? = some (tableHorzBar cws chars) := by
  rw [buildTable_eq,
    flatten_map_range_split (tableRowLines cx data cws width true true chars)
      data.length 0 (by omega)]
  simp [tableRowLines, hd]

/-- a borderless table uses the character set only for the header rule: it depends on `horz`
alone, and not even on that without a header -/
theorem buildTable_noBorder_chars (data : List (List (List α))) (cws : List Int) (width : Int)
    (header : Bool) (chars chars' : TableChars α) (hh : header = true → chars.horz = chars'.horz) :
    buildTable cx data cws width header false chars =
      buildTable cx data cws width header false chars' := by
  rw [buildTable_eq, buildTable_eq]
  simp only [Bool.false_eq_true, if_false, List.nil_append, List.append_nil]
  congr 1
  apply List.map_congr_left
  intro i _
  unfold tableRowLines
  rw [tableRow_noBorder_chars cx _ _ _ chars chars']
  cases hc : (i == 0 && header)
  · rfl
  · rw [hh (Bool.and_eq_true_iff.1 hc).2]
    simp only [Bool.false_eq_true, if_false]

/-- every line of a borderless table is a borderless row, or the header rule (line 1) -/
theorem mem_buildTable_noBorder (data : List (List (List α))) (cws : List Int) (width : Int)
    (header : Bool) (chars : TableChars α) (line : List α)
    (h : line ∈ buildTable cx data cws width header false chars) :
    (header = true ∧ line = gRepeat chars.horz width) ∨
    ∃ i, i < data.length ∧
      line = tableRow cx (data.getD i []) cws (i == 0 && header) false chars := by
  rcases mem_buildTable cx data cws width header false chars line h with ⟨hb, _⟩ | ⟨hh, _, hl⟩ | h
  · cases hb
  · exact .inl ⟨hh, hl⟩
  · exact .inr h

end

/-! ## everything together for `makeTable` -/
section
variable {α : Type} [DecidableEq α] (cx : Ctx α) (data : List (List (List α))) (width : Int)
  (header border : Bool) (c v h : α)

/-- the lines of the table -/
local notation "𝐓" => makeTable cx data width header border [c, v, h]
/-- the column widths `makeTable` computes; `𝐖[k] = colW data width border k` -/
local notation "𝐖" => tableColWidths data width border
/-- corner, vertical, horizontal -/
local notation "𝐂" => (TableChars.mk [c] [v] [h] : TableChars α)
/-- the number of columns -/
local notation "𝐊" => tableColCount data
/-- the horizontal bar -/
local notation "𝐁" => tableHorzBar (tableColWidths data width border) (TableChars.mk [c] [v] [h])
local notation "𝐭𝐤" => (Spec.Toks.mk cx.isSpace cx.sp cx.hy : Spec.Toks α)

/-- C16, the shape of `makeTable cx data width header border [c, v, h]` (cluster level) -/
structure MakeTableShape : Prop where
  /-- rows in order: line `rowLine i` is data row `i`, laid out as a header row iff `i = 0`
  and `header` -/
  rows : ∀ (i : Nat) (hi : i < data.length),
    𝐓[rowLine header border i]? = some (tableRow cx data[i] 𝐖 (i == 0 && header) border 𝐂)
  /-- the number of lines -/
  count : (𝐓).length = data.length + (if border = true then 2 else 0) +
    (if header = true then (if border = true then (if data.length > 1 then 1 else 0) else 1) else 0)
  /-- all lines are equally long -/
  rect : ∀ line ∈ 𝐓, (line.length : Int) = max width (tableMinWidth data border)
  /-- every row is `v ++ cell_0 ++ v ++ cell_1 ++ v …` resp. `cell_0 ++ cell_1 ++ …` -/
  row_segs : ∀ (row : List (List α)) (isHeader : Bool),
    tableRow cx row 𝐖 isHeader border 𝐂 =
      segLine (if border = true then [v] else []) (if border = true then [v] else []) 𝐊
        (cellSeg cx row 𝐖 isHeader border)
  /-- in every row of `data` the segment of column `k` is exactly as long as the column -/
  seg_length : ∀ row ∈ data, ∀ (isHeader : Bool) (k : Nat), k < 𝐊 →
    ((cellSeg cx row 𝐖 isHeader border k).length : Int) = colW data width border k
  /-- … and starts at the same offset `colOffset 𝐖 border 1 k` in every row -/
  seg_at : ∀ row ∈ data, ∀ (isHeader : Bool) (k : Nat), k < 𝐊 →
    ((tableRow cx row 𝐖 isHeader border 𝐂).drop (colOffset 𝐖 border 1 k).toNat).take
      (colW data width border k).toNat = cellSeg cx row 𝐖 isHeader border k
  /-- the offsets: `1 + Σ_{i<k} (w_i + 1)` resp. `Σ_{i<k} w_i` -/
  offsets : ∀ (k : Nat), k ≤ 𝐊 → colOffset 𝐖 border 1 k =
    (if border = true then 1 else 0) +
      sumTo (fun i => colW data width border i + (if border = true then 1 else 0)) k
  /-- a body cell: (a space, if bordered,) the cell without its leading whitespace, padding -/
  body_cell : ∀ (row : List (List α)) (k : Nat), k < 𝐊 →
    cellSeg cx row 𝐖 false border k =
      (if border = true then [cx.sp] else []) ++ Spec.stripLeft 𝐭𝐤 (row.getD k []) ++
        List.replicate (colW data width border k - (if border = true then 1 else 0) -
          ((Spec.stripLeft 𝐭𝐤 (row.getD k [])).length : Int)).toNat cx.sp
  /-- a header cell without borders: upper-cased, left-aligned -/
  header_cell_noBorder : border = false → ∀ (row : List (List α)) (k : Nat), k < 𝐊 →
    cellSeg cx row 𝐖 true border k =
      Spec.stripLeft 𝐭𝐤 ((row.getD k []).map cx.upper) ++
        List.replicate (colW data width border k -
          ((Spec.stripLeft 𝐭𝐤 ((row.getD k []).map cx.upper)).length : Int)).toNat cx.sp
  /-- a header cell with borders: upper-cased, centred, at least one space on either side -/
  header_cell_border : border = true → ∀ row ∈ data, ∀ (k : Nat), k < 𝐊 →
    ∃ a b, cellSeg cx row 𝐖 true border k =
        List.replicate a cx.sp ++
          Spec.stripRight 𝐭𝐤 (Spec.stripLeft 𝐭𝐤 ((row.getD k []).map cx.upper)) ++
          List.replicate b cx.sp ∧
      (a = b ∨ a = b + 1) ∧ 1 ≤ a ∧ 1 ≤ b
  /-- a missing cell is blank -/
  missing : ∀ (row : List (List α)) (isHeader : Bool) (k : Nat), k < 𝐊 → row.length ≤ k →
    cellSeg cx row 𝐖 isHeader border k = List.replicate (colW data width border k).toNat cx.sp
  /-- the non-whitespace text of a cell is that of its own segment -/
  nonws : cx.isSpace cx.sp = true → ∀ (row : List (List α)) (isHeader : Bool) (k : Nat),
    (cellSeg cx row 𝐖 isHeader border k).filter (fun a => !cx.isSpace a) =
      (cellText cx row isHeader k).filter (fun a => !cx.isSpace a)
  /-- the atoms of a row: `v` (bordered only), spaces, cell text -/
  row_atoms : ∀ (row : List (List α)) (isHeader : Bool) (a : α),
    a ∈ tableRow cx row 𝐖 isHeader border 𝐂 →
      (border = true ∧ a = v) ∨ a = cx.sp ∨ ∃ k, k < 𝐊 ∧ a ∈ cellText cx row isHeader k
  /-- the rule under a borderless header: line 1, `h` repeated over the whole width -/
  rule_noBorder : header = true → border = false →
    𝐓[1]? = some (List.replicate (max width (tableMinWidth data border)).toNat h)
  /-- the rule under a bordered header (if there is another row): line 2, the bar -/
  rule_border : header = true → border = true → 1 < data.length → 𝐓[2]? = some 𝐁
  /-- the first line of a bordered table is the bar -/
  first_border : border = true → 𝐓[0]? = some 𝐁
  /-- the last line of a bordered table is the bar -/
  last_border : border = true → (𝐓).getLast? = some 𝐁
  /-- the bar is `c ++ h^{w_0} ++ c ++ h^{w_1} ++ c …` -/
  bar_segs : 𝐁 = segLine [c] [c] 𝐊 (fun k => List.replicate (colW data width border k).toNat h)
  /-- under column `k` (same offset as in the rows) the bar has `w_k` atoms `h` -/
  bar_seg_at : ∀ (k : Nat), k < 𝐊 →
    ((𝐁).drop (colOffset 𝐖 true 1 k).toNat).take (colW data width border k).toNat =
      List.replicate (colW data width border k).toNat h
  /-- the bar starts with `c` … -/
  bar_corner_start : (𝐁).take 1 = [c]
  /-- … and has `c` at every column boundary -/
  bar_corner_at : ∀ (k : Nat), k < 𝐊 →
    ((𝐁).drop (colOffset 𝐖 true 1 k + colW data width border k).toNat).take 1 = [c]
  /-- the bar consists of `c` and `h` only -/
  bar_atoms : ∀ a ∈ 𝐁, a = c ∨ a = h
  /-- a bordered row starts with `v` … -/
  row_vert_start : border = true → ∀ (row : List (List α)) (isHeader : Bool),
    (tableRow cx row 𝐖 isHeader border 𝐂).take 1 = [v]
  /-- … and has `v` after every column segment (where the bar has `c`) -/
  row_vert_at : border = true → ∀ row ∈ data, ∀ (isHeader : Bool) (k : Nat), k < 𝐊 →
    ((tableRow cx row 𝐖 isHeader border 𝐂).drop
      (colOffset 𝐖 border 1 k + colW data width border k).toNat).take 1 = [v]
  /-- without borders the character set is used for the header rule only: the table depends
  on `h` alone, and on nothing without a header -/
  noBorder_charset : border = false → ∀ (c' v' h' : α), (header = true → h' = h) →
    𝐓 = makeTable cx data width header border [c', v', h']

end

section
variable {α : Type} [DecidableEq α] (cx : Ctx α)

/-- **C16, shape.**  For arbitrary ragged `data` (not empty, not only empty rows), any `width`,
`header`, `border` and any three atoms `c v h`, the table has the shape `MakeTableShape`. -/
theorem makeTable_shape (htriv : ∀ s, cx.ends s = List.range' 1 s.length)
    (data : List (List (List α))) (width : Int) (header border : Bool) (c v h : α)
    (hd : data ≠ []) (hk : tableColCount data ≠ 0) :
    MakeTableShape cx data width header border c v h := by
  -- the lemmas about `buildTable` speak of `cws.getD k 0` and `cws.length`; for `makeTable`'s own
  -- widths these are `colW … k` (`hget`, for `k` below the column count) and the column count (`hlen`)
  have hT := fun (c v h : α) => makeTable_eq_buildTable cx htriv data width header border c v h hd hk
  have hlen := tableColWidths_length data width border
  have hget := tableColWidths_getD data width border
  have hlt : ∀ k, k < tableColCount data → k < (tableColWidths data width border).length :=
    fun k h => hlen ▸ h
  have hfit := makeTable_cellFits cx data width border hk
  have hpos : ∀ k, (if border = true then 2 else 0) ≤ colW data width border k :=
    fun k => pad_le_colW data width border k hk
  have hposW : ∀ k i, k < tableColCount data → i ≤ k →
      0 ≤ (tableColWidths data width border).getD i 0 := by
    intro k i hkK hi
    rw [hget i (by omega)]
    have := hpos i
    split at this <;> omega
  exact {
    rows := by
      intro i hi
      rw [hT]
      exact buildTable_rowLine cx data _ _ header border _ i hi
    count := makeTable_length cx data width header border [c, v, h] hd hk
    rect := makeTable_rect cx htriv data width header border [c, v, h] rfl
    row_segs := by
      intro row isHeader
      rw [tableRow_eq_segs, hlen]
      cases border <;> rfl
    seg_length := by
      intro row hrow isHeader k hkK
      rw [← hget k hkK]
      exact (cellSeg_length_iff cx htriv _ _ _ _ _).2 (hfit row hrow isHeader k hkK)
    seg_at := by
      intro row hrow isHeader k hkK
      exact hget k hkK ▸ tableRow_seg_at cx htriv row (tableColWidths data width border) isHeader
        border ⟨[c], [v], [h]⟩ k (hlt k hkK) (fun i hi => hfit row hrow isHeader i (by omega))
    offsets := by
      intro k hkK
      have hb : ((if border = true then 1 else 0 : Nat) : Int) = if border = true then 1 else 0 := by
        cases border <;> rfl
      unfold colOffset segOffset
      rw [hb]
      congr 1
      exact sumTo_congr k fun i hi => congrArg (· + _) (hget i (by omega))
    body_cell := by
      intro row k hkK
      rw [cellSeg_triv cx htriv, hget k hkK]
      cases border <;> simp only [cellText, Bool.false_eq_true, if_false, if_true, Spec.alignLeft_eq,
        List.nil_append, Int.sub_zero, List.append_assoc]
    header_cell_noBorder := by
      intro hb row k hkK
      subst hb
      rw [cellSeg_triv cx htriv, hget k hkK]
      simp only [cellText, Bool.false_eq_true, if_false, if_true, Spec.alignLeft_eq]
    header_cell_border := by
      intro hb row hrow k hkK
      subst hb
      obtain ⟨a, b, h1, h2, h3⟩ := cellSeg_header_border_shape cx htriv row
        (tableColWidths data width true) k
      refine ⟨a, b, h1, h2, h3 ?_⟩
      rw [hget k hkK]
      exact cell_le_colW data width true hk row hrow k
    missing := by
      intro row isHeader k hkK hrl
      rw [← hget k hkK]
      apply cellSeg_missing cx htriv _ _ _ _ _ hrl
      intro hb _
      rw [hget k hkK]
      have := hpos k
      rw [if_pos hb] at this
      omega
    nonws := by
      intro hsp row isHeader k
      exact cellSeg_nonws cx htriv hsp row _ isHeader border k
    row_atoms := by
      intro row isHeader a ha
      rcases mem_tableRow cx htriv row _ isHeader border _ a ha with ⟨hb, hv⟩ | h | ⟨k, hk', h⟩
      · exact .inl ⟨hb, List.mem_singleton.1 hv⟩
      · exact .inr (.inl h)
      · exact .inr (.inr ⟨k, by rwa [hlen] at hk', h⟩)
    rule_noBorder := by
      intro hh hb
      subst hh hb
      rw [hT, buildTable_header_rule_noBorder cx data _ _ _ (List.length_pos_iff.2 hd)]
      exact congrArg some (gRepeat_single h _)
    rule_border := by
      intro hh hb hdl
      subst hh hb
      rw [hT]
      exact buildTable_header_rule_border cx data _ _ _ hdl
    first_border := by
      intro hb
      subst hb
      rw [hT]
      exact buildTable_first_border cx data _ _ header _
    last_border := by
      intro hb
      subst hb
      rw [hT]
      exact buildTable_last_border cx data _ _ header _
    bar_segs := by
      rw [tableHorzBar_eq_segs, hlen]
      unfold segLine
      congr 2
      apply List.map_congr_left
      intro k hk'
      show gRepeat [h] ((tableColWidths data width border).getD k 0) ++ [c] = _
      rw [hget k (List.mem_range.1 hk'), gRepeat_single]
    bar_seg_at := by
      intro k hkK
      have := hget k hkK ▸ tableHorzBar_seg_at (tableColWidths data width border) ⟨[c], [v], [h]⟩
        rfl k (hlt k hkK) (hposW k · hkK)
      exact this.trans (gRepeat_single h _)
    bar_corner_start := by
      exact tableHorzBar_corner_start (tableColWidths data width border) ⟨[c], [v], [h]⟩
    bar_corner_at := by
      intro k hkK
      exact hget k hkK ▸ tableHorzBar_corner_at (tableColWidths data width border) ⟨[c], [v], [h]⟩
        rfl k (hlt k hkK) (hposW k · hkK)
    bar_atoms := by
      intro a ha
      rcases mem_tableHorzBar _ _ a ha with h | h
      · exact .inl (List.mem_singleton.1 h)
      · exact .inr (List.mem_singleton.1 h)
    row_vert_start := by
      intro hb row isHeader
      subst hb
      exact tableRow_vert_start cx row _ isHeader ⟨[c], [v], [h]⟩
    row_vert_at := by
      intro hb row hrow isHeader k hkK
      subst hb
      exact hget k hkK ▸ tableRow_vert_at cx htriv row (tableColWidths data width true) isHeader
        ⟨[c], [v], [h]⟩ k (hlt k hkK) (fun i hi => hfit row hrow isHeader i (by omega))
    noBorder_charset := by
      intro hb c' v' h' hh'
      subst hb
      rw [hT, hT]
      exact buildTable_noBorder_chars cx data _ _ header _ _ (fun hh => by rw [hh' hh])
  }

end

/-! ## concrete checks: a ragged table (rows of 2, 1 and 3 cells) in the context `cxEx`
(`0` and `5` are whitespace, `upper 7 = 0`), character set `+|-` = `[43, 124, 45]` -/
section examples

/-- rows of 2, 1, 3 cells; the header cell `7 1 2` upper-cases to ` 1 2`; `0 6` has a leading
space -/
def exData : List (List (List Nat)) := [[[7, 1, 2], [3]], [[4]], [[0, 6], [8, 8, 8], [9]]]

/-- header + borders: bar, centred upper-cased header, bar, the body rows with blank missing
cells, bar -/
example : makeTable cxEx exData 0 true true [43, 124, 45] =
    [[43, 45, 45, 45, 45, 45, 43, 45, 45, 45, 45, 45, 43, 45, 45, 45, 43],
     [124, 0, 0, 1, 2, 0, 124, 0, 0, 3, 0, 0, 124, 0, 0, 0, 124],
     [43, 45, 45, 45, 45, 45, 43, 45, 45, 45, 45, 45, 43, 45, 45, 45, 43],
     [124, 0, 4, 0, 0, 0, 124, 0, 0, 0, 0, 0, 124, 0, 0, 0, 124],
     [124, 0, 6, 0, 0, 0, 124, 0, 8, 8, 8, 0, 124, 0, 9, 0, 124],
     [43, 45, 45, 45, 45, 45, 43, 45, 45, 45, 45, 45, 43, 45, 45, 45, 43]] := by decide +kernel

/-- header, no borders: the rule of `-` on line 1; neither `+` nor `|` anywhere -/
example : makeTable cxEx exData 0 true false [43, 124, 45] =
    [[1, 2, 0, 0, 0, 3, 0, 0, 0, 0, 0],
     [45, 45, 45, 45, 45, 45, 45, 45, 45, 45, 45],
     [4, 0, 0, 0, 0, 0, 0, 0, 0, 0, 0],
     [6, 0, 0, 0, 0, 8, 8, 8, 0, 0, 9]] := by decide +kernel

/-- borders, no header: row 0 is an ordinary (not upper-cased, left-aligned) row -/
example : makeTable cxEx exData 0 false true [43, 124, 45] =
    [[43, 45, 45, 45, 45, 45, 43, 45, 45, 45, 45, 45, 43, 45, 45, 45, 43],
     [124, 0, 7, 1, 2, 0, 124, 0, 3, 0, 0, 0, 124, 0, 0, 0, 124],
     [124, 0, 4, 0, 0, 0, 124, 0, 0, 0, 0, 0, 124, 0, 0, 0, 124],
     [124, 0, 6, 0, 0, 0, 124, 0, 8, 8, 8, 0, 124, 0, 9, 0, 124],
     [43, 45, 45, 45, 45, 45, 43, 45, 45, 45, 45, 45, 43, 45, 45, 45, 43]] := by decide +kernel

/-- neither: the character set is not used at all -/
example : makeTable cxEx exData 0 false false [43, 124, 45] =
    [[7, 1, 2, 0, 0, 3, 0, 0, 0, 0, 0], [4, 0, 0, 0, 0, 0, 0, 0, 0, 0, 0],
     [6, 0, 0, 0, 0, 8, 8, 8, 0, 0, 9]] := by decide +kernel
example : makeTable cxEx exData 0 false false [43, 124, 45] =
    makeTable cxEx exData 0 false false [1, 2, 3] := by decide +kernel

/-- widths and column offsets (bordered / borderless), also when the table is stretched to 24 -/
example : tableColWidths exData 0 true = [5, 5, 3] ∧
    colOffsets (tableColWidths exData 0 true) true 1 = [1, 7, 13] ∧
    tableColWidths exData 0 false = [5, 5, 1] ∧
    colOffsets (tableColWidths exData 0 false) false 1 = [0, 5, 10] ∧
    tableColWidths exData 24 true = [8, 7, 5] ∧
    colOffsets (tableColWidths exData 24 true) true 1 = [1, 10, 18] := by decide +kernel

/-- line numbers of the three data rows in the four modes -/
example : (List.range 3).map (rowLine true true) = [1, 3, 4] ∧
    (List.range 3).map (rowLine true false) = [0, 2, 3] ∧
    (List.range 3).map (rowLine false true) = [1, 2, 3] ∧
    (List.range 3).map (rowLine false false) = [0, 1, 2] := by decide +kernel

/-- cutting column 1 (offset 7, width 5) out of every row line gives the cell segments; out of
the bar it gives `-----` -/
example : ((makeTable cxEx exData 0 true true [43, 124, 45]).map fun l => (l.drop 7).take 5) =
    [[45, 45, 45, 45, 45], [0, 0, 3, 0, 0], [45, 45, 45, 45, 45], [0, 0, 0, 0, 0],
     [0, 8, 8, 8, 0], [45, 45, 45, 45, 45]] := by decide +kernel

/-- the side condition of `cellSeg_length_iff` is needed: in a column that is too narrow (which
`makeTable` never produces) the segment is longer than the column and everything after it
shifts -/
example : (cellSeg cxEx [[1, 2, 3], [4]] [2, 3] false true 0).length = 4 ∧
    tableRow cxEx [[1, 2, 3], [4]] [2, 3] false true ⟨[43], [124], [45]⟩ =
      [124, 0, 1, 2, 3, 124, 0, 4, 0, 124] ∧
    tableRow cxEx [[1], [4]] [2, 3] false true ⟨[43], [124], [45]⟩ =
      [124, 0, 1, 124, 0, 4, 0, 124] := by decide +kernel

/-- a bordered body cell in a column of width `0` still gets its leading space: `cellSeg_missing`
needs `1 ≤ colWidths[k]` there -/
example : cellSeg cxEx [] [0] false true 0 = [0] := by decide +kernel

end examples
end RosedVerif

