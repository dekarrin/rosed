/-
Model of editor.go (lines), subeditor.go (Lines*), rosed.go (applyGParagraphsOpts)
and operations.go, transliterated.
-/
import RosedVerif.Model.Editor
namespace RosedVerif

section
variable {α : Type} [DecidableEq α] (cx : Ctx α)

/-- Editor.linesSep (uses the Editor's own NoTrailingLineSeparators flag) -/
def Editor.linesSep (ed : Editor α) (sep : List α) : List (List α) :=
  let ls := splitOn ed.text sep
  if !ls.isEmpty ∧ !ed.opts.noTrailing ∧ ls.getLast? == some [] then ls.dropLast else ls

/-- Editor.lines -/
def Editor.lines (ed : Editor α) : List (List α) := ed.linesSep (ed.opts.withDefaults cx).lineSep

/-- Editor.LineCount -/
def Editor.lineCount (ed : Editor α) : Nat := (ed.lines cx).length

/-- advance over `k` separators starting at atom position `pos`: `strings.Index` + skip, `k` times -/
def skipSeps (s sep : List α) : Nat → Nat → Option Nat
  | 0, pos => some pos
  | k + 1, pos =>
    match indexOf sep (s.drop pos) with
    | none => none
    | some i => skipSeps s sep k (pos + i + sep.length)

/-- Editor.Lines -/
def Editor.linesSel (ed : Editor α) (start end_ : Int) : R (Editor α) :=
  if ed.text.isEmpty then ed.subEd cx 0 0
  else
    let lc : Int := ed.lineCount cx
    let start := if start == Gen.endSentinel then lc else start
    let end_ := if end_ == Gen.endSentinel then lc else end_
    let (st, en) := rangeToIndexes lc start end_
    let total : Int := byteLen cx ed.text
    if st ≥ lc then ed.subEd cx total total
    else
      let sep := (ed.opts.withDefaults cx).lineSep
      match skipSeps ed.text sep st.toNat 0 with
      | none => ed.subEd cx total total
      | some aStart =>
        let bStart : Int := byteOff cx ed.text aStart
        match skipSeps ed.text sep (en - st).toNat aStart with
        | none => ed.subEd cx bStart total
        | some aEnd => ed.subEd cx bStart (byteOff cx ed.text aEnd)

def Editor.linesFrom (ed : Editor α) (start : Int) : R (Editor α) := ed.linesSel cx start (ed.lineCount cx)
def Editor.linesTo (ed : Editor α) (end_ : Int) : R (Editor α) := ed.linesSel cx 0 end_

/-- Editor.ApplyOpts with a callback that may fail -/
def Editor.applyOptsM (ed : Editor α) (op : Nat → List α → R (List (List α))) (o : Options α) :
    R (Editor α) := do
  let o := o.withDefaults cx
  let ls := (ed.withOpts o).linesSep o.lineSep
  let outs ← (List.range ls.length).mapM fun i => op i (ls.getD i [])
  let applied := outs.flatten
  -- `len(lines) < strings.Count(text, sep)+1`: linesSep dropped a final empty line
  let applied := if !o.noTrailing ∧ ls.length < (splitOn ed.text o.lineSep).length then applied ++ [[]]
    else applied
  pure (ed.withText (joinWith o.lineSep applied))

def Editor.applyOpts (ed : Editor α) (op : Nat → List α → List (List α)) (o : Options α) : R (Editor α) :=
  ed.applyOptsM cx (fun i l => pure (op i l)) o

/-- the paragraph loop of applyGParagraphsOpts; `cur` is `paragraphs[idx]` as it is when the
iteration starts (possibly already shortened by the previous iteration's look-ahead) -/
def paraLoop (op : Nat → List α → List α → List α → R (List (List α)))
    (lineSep prevSuffix nextPrefix : List α) (ambig : Bool) :
    Nat → List α → List (List α) → R (List (List α))
  | idx, cur, [] => do
    -- last paragraph
    let pre := if idx != 0 then nextPrefix else []
    op idx cur pre []
  | idx, cur, nxt :: rest => do
    let pre := if idx != 0 then nextPrefix else []
    let steal := ambig && lineSep.isPrefixOf nxt
    let nxt' := if steal then nxt.drop lineSep.length else nxt
    let cur' := if steal then cur ++ lineSep else cur
    let out ← op idx cur' pre prevSuffix
    let more ← paraLoop op lineSep prevSuffix nextPrefix ambig (idx + 1) nxt' rest
    pure (out ++ more)

/-- Editor.applyGParagraphsOpts -/
def Editor.applyParasM (ed : Editor α) (op : Nat → List α → List α → List α → R (List (List α)))
    (o : Options α) : R (Editor α) := do
  let o := o.withDefaults cx
  let ambig : Bool := (o.paraSep ++ o.lineSep) == (o.lineSep ++ o.paraSep)
  let parts := splitOn o.paraSep o.lineSep
  let prevSuffix := parts.headD []
  let nextPrefix := if parts.length > 1 then parts.getLastD [] else []
  match splitOn ed.text o.paraSep with
  | [] => pure (ed.withText [])
  | p :: ps =>
    let outs ← paraLoop op o.lineSep prevSuffix nextPrefix ambig 0 p ps
    pure (ed.withText (joinWith o.paraSep outs))

/-- the block `b` with every line mapped (tb.Block.Apply with a 1:1 callback) -/
def Block.mapLinesM (b : Block α) (f : Nat → List α → R (List α)) : R (Block α) := do
  let ls ← (List.range b.lines.length).mapM fun i => f i (b.lines.getD i [])
  pure { b with lines := ls }

/-- the paragraph callback of AlignOpts for Left -/
def alignParaLeft (width : Int) (lineSep para pre suf : List α) : R (List α) := do
  let sepStart := gRepeat [cx.sp] (gLen cx pre)
  let sepEnd := gRepeat [cx.sp] (gLen cx suf)
  let bl := Block.new (para ++ sepEnd) lineSep
  if bl.lines.isEmpty then return bl.join
  let endIdx : Int := (bl.lines.length : Int) - 1
  let bl ← bl.set 0 ((← bl.line 0) ++ sepStart)
  let bl ← bl.mapLinesM fun _ l => pure (alignLeft cx l width)
  let bl ← if gLen cx sepStart > 0 then bl.set 0 (gSub cx (← bl.line 0) 0 (-(gLen cx sepStart : Int))) else pure bl
  let bl ← if gLen cx sepEnd > 0 then bl.set endIdx (gSub cx (← bl.line endIdx) 0 (-(gLen cx sepEnd : Int))) else pure bl
  pure bl.join

/-- … for Right -/
def alignParaRight (width : Int) (lineSep para pre suf : List α) : R (List α) := do
  let sepStart := gRepeat [cx.sp] (gLen cx pre)
  let sepEnd := gRepeat [cx.sp] (gLen cx suf)
  let bl := Block.new (sepStart ++ para) lineSep
  if bl.lines.isEmpty then return bl.join
  let endIdx : Int := (bl.lines.length : Int) - 1
  let bl ← bl.set endIdx (sepEnd ++ (← bl.line endIdx))
  let bl ← bl.mapLinesM fun _ l => pure (alignRight cx l width)
  let bl ← if gLen cx sepStart > 0 then do
      let l0 ← bl.line 0
      bl.set 0 (gSub cx l0 (gLen cx sepStart) (gLen cx l0))
    else pure bl
  let bl ← if gLen cx sepEnd > 0 then do
      let le ← bl.line endIdx
      bl.set endIdx (gSub cx le (gLen cx sepEnd) (gLen cx le))
    else pure bl
  pure bl.join

/-- … for Center -/
def alignParaCenter (width : Int) (lineSep para pre suf : List α) : R (List α) := do
  let sepStart := gRepeat [cx.sp] (gLen cx pre)
  let sepEnd := gRepeat [cx.sp] (gLen cx suf)
  let bl := Block.new para lineSep
  if bl.lines.isEmpty then return bl.join
  let bl ← bl.mapLinesM fun _ l => pure (alignCenter cx l width)
  let ss : Int := gLen cx sepStart
  let se : Int := gLen cx sepEnd
  let bl ← if ss > 0 then do
      let first ← bl.line 0
      let leftSpace := countLeadingWs cx first
      let first :=
        if leftSpace ≥ ss then gSub cx first ss (gLen cx first)
        else
          let rightSpace := countTrailingWs cx first
          let rr := ss - leftSpace
          let rr := if rr > rightSpace then rightSpace else rr
          gSub cx first leftSpace ((gLen cx first : Int) - rr)
      bl.set 0 first
    else pure bl
  let bl ← if se > 0 then do
      let lastIdx : Int := (bl.lines.length : Int) - 1
      let last ← bl.line lastIdx
      let rightSpace := countTrailingWs cx last
      let last :=
        if rightSpace ≥ se then gSub cx last 0 (-se)
        else
          let leftSpace := countLeadingWs cx last
          let lr := se - rightSpace
          let lr := if lr > leftSpace then leftSpace else lr
          gSub cx last lr ((gLen cx last : Int) - rightSpace)
      bl.set lastIdx last
    else pure bl
  pure bl.join

/-- Editor.AlignOpts; `align` is the raw Alignment integer -/
def Editor.alignOpts (ed : Editor α) (align : Int) (width : Int) (o : Options α) : R (Editor α) :=
  if align == Gen.alignNone ∨ (align != Gen.alignLeft ∧ align != Gen.alignRight ∧ align != Gen.alignCenter) then
    pure ed
  else
    let o := o.withDefaults cx
    if o.preservePara then
      ed.applyParasM cx (fun _ para pre suf => do
        let p ←
          if align == Gen.alignLeft then alignParaLeft cx width o.lineSep para pre suf
          else if align == Gen.alignRight then alignParaRight cx width o.lineSep para pre suf
          else alignParaCenter cx width o.lineSep para pre suf
        pure [p]) o
    else
      ed.applyOpts cx (fun _ line =>
        if align == Gen.alignLeft then [alignLeft cx line width]
        else if align == Gen.alignRight then [alignRight cx line width]
        else [alignCenter cx line width]) o

/-- Editor.CollapseSpaceOpts -/
def Editor.collapseSpaceOpts (ed : Editor α) (o : Options α) : R (Editor α) := do
  let o := o.withDefaults cx
  pure (ed.withText (← collapseSpace cx ed.text o.lineSep))

/-- Editor.Insert -/
def Editor.insert (ed : Editor α) (pos : Int) (t : List α) : R (Editor α) := do
  let before := (← ed.charsTo cx pos).text
  let after := (← ed.charsFrom cx pos).text
  pure (ed.withText (before ++ t ++ after))

/-- Editor.Delete -/
def Editor.delete (ed : Editor α) (start end_ : Int) : R (Editor α) :=
  let count : Int := ed.charCount cx
  let start := if start == Gen.endSentinel then count else start
  let end_ := if end_ == Gen.endSentinel then count else end_
  let (start, end_) := rangeToIndexes count start end_
  if start ≥ end_ then pure ed
  else do
    let before := (← ed.charsTo cx start).text
    let after := (← ed.charsFrom cx end_).text
    pure (ed.withText (before ++ after))

/-- Editor.Overtype -/
def Editor.overtype (ed : Editor α) (pos : Int) (t : List α) : R (Editor α) := do
  let count : Int := ed.charCount cx
  let pos := if pos == Gen.endSentinel then count else pos
  let pos := (rangeToIndexes count pos pos).1
  let before := (← ed.charsTo cx pos).text
  let after := (← ed.charsFrom cx (wrap64 (pos + gLen cx t))).text
  pure (ed.withText (before ++ t ++ after))

/-- Editor.IndentOpts -/
def Editor.indentOpts (ed : Editor α) (level : Int) (o : Options α) : R (Editor α) :=
  if level < 1 then pure ed
  else do
    let od := o.withDefaults cx
    let indent ← repeatStr od.indentStr level
    let doIndent := fun (_ : Nat) (line : List α) => [indent ++ line]
    if od.preservePara then
      ed.applyParasM cx (fun _ para _ _ => do
        let e ← (Editor.root para o).applyOpts cx doIndent o
        pure [← e.string cx]) o
    else ed.applyOpts cx doIndent o

/-- Editor.WrapOpts -/
def Editor.wrapOpts (ed : Editor α) (width : Int) (o : Options α) : R (Editor α) := do
  let o := o.withDefaults cx
  let width := if width < 2 then 2 else width
  if o.preservePara then
    -- the stand-in for the separator's affixes must not occur in the line separator
    let ph := cx.placeholder o.lineSep
    ed.applyParasM cx (fun _ para pre suf => do
      let sepStart := gRepeat [ph] (gLen cx pre)
      let sepEnd := gRepeat [ph] (gLen cx suf)
      let ls ← wrapLines cx (sepStart ++ para ++ sepEnd) width o.lineSep
      let text := (Block.mk ls o.lineSep false).join
      let ss : Int := gLen cx sepStart
      let se : Int := gLen cx sepEnd
      let text := if se > 0 then gSub cx text ss (-se) else gSub cx text ss (gLen cx text)
      -- a paragraph that ends with the line separator keeps it, as outside of paragraph mode
      pure [if o.lineSep.isSuffixOf para then text ++ o.lineSep else text]) o
  else
    let ls ← wrapLines cx ed.text width o.lineSep
    let t := (Block.mk ls o.lineSep false).join
    let t := if o.lineSep.isSuffixOf ed.text then t ++ o.lineSep else t
    pure (ed.withText t)

/-- Editor.JustifyOpts -/
def Editor.justifyOpts (ed : Editor α) (width : Int) (o : Options α) : R (Editor α) := do
  let o := o.withDefaults cx
  if o.preservePara then
    -- the stand-in for the separator's affixes must not occur in the line separator
    let ph := cx.placeholder o.lineSep
    ed.applyParasM cx (fun _ para pre suf => do
      let sepStart := gRepeat [ph] (gLen cx pre)
      let sepEnd := gRepeat [ph] (gLen cx suf)
      let bl := Block.new (sepStart ++ para ++ sepEnd) o.lineSep
      let n := bl.lines.length
      let bl ← bl.mapLinesM fun idx line =>
        if !o.justifyLast ∧ (idx : Int) == (n : Int) - 1 then pure line else justifyLine cx line width
      let text := bl.join
      let ss : Int := gLen cx sepStart
      let se : Int := gLen cx sepEnd
      pure [if se > 0 then gSub cx text ss (-se) else gSub cx text ss (gLen cx text)]) o
  else do
    let originalOpts := ed.opts
    let ed ← if !o.justifyLast then (ed.withOpts o).linesTo cx (-1) else pure ed
    let ed ← ed.applyOptsM cx (fun _ line => do pure [← justifyLine cx line width]) o
    if !o.justifyLast then pure ((← ed.commit cx).withOpts originalOpts) else pure ed

/-- Editor.InsertDefinitionsTableOpts after its clamp of the width (split as `alignLeft` / `alignLeftCore` are) -/
def Editor.insertDefTableOptsCore (ed : Editor α) (pos : Int) (defs : List (List α × List α))
    (width : Int) (o : Options α) : R (Editor α) := do
  let o := o.withDefaults cx
  let longest : Int := defs.foldl (fun m d => if (gLen cx d.1 : Int) > m then (gLen cx d.1 : Int) else m) (-1)
  let leftWidth := longest + 2
  let rightWidth := width - leftWidth - 2
  let full ← defs.foldlM (fun (full : List (List α)) (item : List α × List α) => do
    let term := item.1
    let pad ← if (gLen cx term : Int) < longest then repeatStr [cx.sp] (longest - (gLen cx term : Int)) else pure []
    let leftCol := [[cx.sp, cx.sp] ++ term ++ pad]
    let rc ← wrapLines cx item.2 (rightWidth - 2) o.lineSep
    let rc := if rc.isEmpty then [[]] else rc
    let rightCol := (List.range rc.length).map fun i =>
      (if i == 0 then [cx.hy, cx.sp] else [cx.sp, cx.sp]) ++ rc.getD i []
    let combined ← combineColumns cx leftCol rightCol 2
    match full.isEmpty, combined with
    | false, c0 :: crest =>
      let lastIdx := full.length - 1
      let lastLine := full.getD lastIdx [] ++ o.paraSep ++ c0
      pure (full.set lastIdx lastLine ++ crest)
    | _, _ => pure (full ++ combined)) []
  if !full.isEmpty then ed.insert cx pos (Block.mk full o.lineSep (!o.noTrailing)).join
  else pure ed

/-- Editor.InsertDefinitionsTableOpts: a negative width is clamped to 0 before
`width - leftWidth - minBetween` (fix 5c0cdaf, finding D21 of DESIGN.md §12.4) -/
def Editor.insertDefTableOpts (ed : Editor α) (pos : Int) (defs : List (List α × List α))
    (width : Int) (o : Options α) : R (Editor α) :=
  ed.insertDefTableOptsCore cx pos defs (if width < 0 then 0 else width) o

/-- manip.Wrap takes every width below 2 as 2 -/
theorem wrapLines_lt_two (text : List α) (w : Int) (sep : List α) (h : w < 2) :
    wrapLines cx text w sep = wrapLines cx text 2 sep := by
  unfold wrapLines
  simp only [h, if_true, show ¬ ((2 : Int) < 2) by decide, if_false]

/-- the core sees the width only through `Wrap(def, width - leftWidth - 4)` with `leftWidth ≥ 1`,
and Wrap takes every width below 2 as 2 -/
theorem Editor.insertDefTableOptsCore_clamp (ed : Editor α) (pos : Int) (defs : List (List α × List α))
    (w : Int) (o : Options α) :
    ed.insertDefTableOptsCore cx pos defs (if w < 0 then 0 else w) o =
      ed.insertDefTableOptsCore cx pos defs w o := by
  by_cases h : w < 0
  · rw [if_pos h]
    unfold Editor.insertDefTableOptsCore
    extract_lets od longest leftWidth rw0 rw1
    have hl : -1 ≤ longest := le_foldl_of_le_step _ defs (-1) fun m d _ => by split <;> omega
    have e : ∀ t s, wrapLines cx t (rw0 - 2) s = wrapLines cx t (rw1 - 2) s := fun t s => by
      rw [wrapLines_lt_two cx t (rw0 - 2) s (show 0 - (longest + 2) - 2 - 2 < 2 by omega),
        wrapLines_lt_two cx t (rw1 - 2) s (show w - (longest + 2) - 2 - 2 < 2 by omega)]
    simp only [e]
  · rw [if_neg h]

/-- the public function is its core (as a function, so that partial applications rewrite too) -/
theorem Editor.insertDefTableOpts_eq_core :
    Editor.insertDefTableOpts cx = Editor.insertDefTableOptsCore cx := by
  funext ed pos defs w o; exact Editor.insertDefTableOptsCore_clamp cx ed pos defs w o

/-- Editor.InsertTableOpts -/
def Editor.insertTableOpts (ed : Editor α) (pos : Int) (data : List (List (List α))) (width : Int)
    (o : Options α) : R (Editor α) := do
  let o := o.withDefaults cx
  let ls := makeTable cx data width o.headers o.borders o.charset
  let table := (Block.mk ls o.lineSep false).join
  let table := if !o.noTrailing ∧ !table.isEmpty then table ++ o.lineSep else table
  ed.insert cx pos table

/-- percentage as an exact dyadic rational: (negative?, numerator, exponent) = ± num / 2^exp -/
structure Pct where
  neg : Bool
  num : Nat
  exp : Nat
  deriving Repr

/-- `int(float64(n) * p)` for `n ≥ 0`, `0 ≤ p ≤ 1`: exact product, round to nearest-even at
53 bits, truncate -/
def mulRoundTrunc (n : Nat) (num exp : Nat) : Nat :=
  let N := n * num
  if N == 0 then 0
  else
    let bits := N.log2 + 1
    if bits ≤ 53 then N >>> exp
    else
      let shift := bits - 53
      let m := N >>> shift
      let r := N % (2 ^ shift)
      let half := 2 ^ (shift - 1)
      let m := if r > half ∨ (r == half ∧ m % 2 == 1) then m + 1 else m
      (m <<< shift) >>> exp

/-- Editor.InsertTwoColumnsOpts -/
def Editor.insertTwoColumnsOpts (ed : Editor α) (pos : Int) (leftText rightText : List α)
    (minSpaceBetween width : Int) (pct : Pct) (o : Options α) : R (Editor α) :=
  if leftText.isEmpty ∧ rightText.isEmpty then pure ed
  else do
    -- clamp the percentage to [0, 1]
    let (num, exp) :=
      if pct.neg ∨ pct.num == 0 then (0, 0)
      else if pct.num > 2 ^ pct.exp then (1, 0) else (pct.num, pct.exp)
    -- a negative minimum distance between the columns is no minimum at all
    let minSpaceBetween := if minSpaceBetween < 0 then 0 else minSpaceBetween
    let minWidth := minSpaceBetween + 2 + 2
    let width := if width < minWidth then minWidth else width
    let avail := width - minSpaceBetween
    let leftW : Int := mulRoundTrunc avail.toNat num exp
    let leftW := if leftW < 2 then 2 else leftW
    let leftW := if leftW > avail - 2 then avail - 2 else leftW
    let rightW := avail - leftW
    if rightW < 2 then throw .explicit
    else
      let o := o.withDefaults cx
      let lb ← wrapLines cx leftText leftW o.lineSep
      let rb ← wrapLines cx rightText rightW o.lineSep
      let maxLeft : Int := lb.foldl (fun m l => if (gLen cx l : Int) > m then gLen cx l else m) 0
      let spaceBetween := minSpaceBetween + (leftW - maxLeft)
      let combined ← combineColumns cx lb rb spaceBetween
      ed.insert cx pos (Block.mk combined o.lineSep (!o.noTrailing)).join

end
end RosedVerif
