/-
The A→B bridge for CollapseSpace and Wrap.  On a stable vocabulary `V` (every token is a single
cluster, every ordered pair of tokens is a break junction) running the model on CODE POINTS
(instance `cxA`, real UAX #29 segmentation) gives exactly the flattening of running it on CLUSTER
TOKENS (instance `cxB`, one atom per cluster).

Hypotheses used (beyond `VocabStable V`, `[0x20] ∈ V`, all tokens in `V`):
  `hspTail : ∀ t ∈ V, 0x20 ∉ t.tail` — no cluster of the vocabulary contains U+0020 in a
  NON-HEAD position.  It is implied by `∀ t ∈ V, 0x20 ∈ t → t = [0x20]` and is needed: the stable
  vocabulary `[[0x61], [0x20], [0x600, 0x20]]` (Prepend + space is one cluster) is a counterexample
  (see the end of the file).  Clusters that START with U+0020 (e.g. space + combining mark) are
  harmless: the cluster loop of CollapseSpace replaces the whole cluster by a single space on both
  levels before anything is compared with `' '`.
-/
import RosedVerif.Model.Bridge
namespace RosedVerif
namespace BridgeWrap
open BridgeAlign

theorem isSpaceRune_sp : isSpaceRune 0x20 = true := by decide

theorem cxB_sp_space : cxB.isSpace cxB.sp = true := by decide

theorem vocab_ne_nil {V : List (List Int)} (hV : VocabStable V = true) {t : List Int}
    (ht : t ∈ V) : t ≠ [] :=
  fun e => (vocab_sc hV ht).1 (by rw [e]; rfl)

/-- token-level whitespace test = rune-level whitespace test on the first rune -/
theorem cxB_isSpace_cons (r : Int) (t : List Int) : cxB.isSpace (r :: t) = cxA.isSpace r := rfl

theorem cxB_isSpace_eq (t : List Int) (h : t ≠ []) : cxB.isSpace t = cxA.isSpace (t.head h) := by
  cases t with
  | nil => exact absurd rfl h
  | cons r t => rfl

theorem length_le_flatten {β : Type} : ∀ (toks : List (List β)), (∀ t ∈ toks, t ≠ []) →
    toks.length ≤ toks.flatten.length
  | [], _ => Nat.le_refl _
  | t :: rest, h => by
    have := length_le_flatten rest (fun x hx => h x (List.mem_cons_of_mem _ hx))
    have := List.length_pos_iff.2 (h t List.mem_cons_self)
    simp only [List.length_cons, List.flatten_cons, List.length_append]
    omega

theorem flatten_eq_nil {β : Type} (toks : List (List β)) (h : ∀ t ∈ toks, t ≠ []) :
    toks.flatten = [] ↔ toks = [] := by
  cases toks with
  | nil => simp
  | cons t rest =>
    have := h t List.mem_cons_self
    simp [this]

theorem flatten_isEmpty {β : Type} (toks : List (List β)) (h : ∀ t ∈ toks, t ≠ []) :
    toks.flatten.isEmpty = toks.isEmpty := by
  cases toks with
  | nil => rfl
  | cons t rest =>
    have := h t List.mem_cons_self
    cases t with
    | nil => exact absurd rfl this
    | cons _ _ => rfl

theorem over_ne_nil {V : List (List Int)} (hV : VocabStable V = true) {toks : List (List Int)}
    (ht : ∀ t ∈ toks, t ∈ V) : ∀ t ∈ toks, t ≠ [] := fun t h => vocab_ne_nil hV (ht t h)

theorem over_append {V : List (List Int)} {a b : List (List Int)} (ha : ∀ t ∈ a, t ∈ V)
    (hb : ∀ t ∈ b, t ∈ V) : ∀ t ∈ a ++ b, t ∈ V := by
  intro t h
  rcases List.mem_append.1 h with h | h
  · exact ha t h
  · exact hb t h

theorem over_single {V : List (List Int)} {x : List Int} (hx : x ∈ V) : ∀ t ∈ [x], t ∈ V := by
  intro t h; rw [List.mem_singleton] at h; subst h; exact hx

theorem over_nil {V : List (List Int)} : ∀ t ∈ ([] : List (List Int)), t ∈ V := by
  intro t h; cases h

/-- lines over `V`, flattened, segment back (real UAX #29 segmentation) into themselves -/
theorem map_clusters_flatten_over {V : List (List Int)} (hV : VocabStable V = true)
    {ls : List (List (List Int))} (h : ∀ l ∈ ls, ∀ t ∈ l, t ∈ V) :
    (ls.map List.flatten).map (clusters cxA) = ls := by
  rw [List.map_map]
  exact (List.map_congr_left fun l hl =>
    clusters_flatten_stable l (stableRunes_of_vocab V hV l (h l hl))).trans (List.map_id _)

/-- the cluster loop at rune level: every cluster whose FIRST rune is whitespace is replaced, as a
whole, by a single U+0020 — which is what the token-level loop does (`spaceMap cxB`).  The token
list is described by an invariant `P` that implies stability and survives the replacement of one
token; for CollapseSpace `P` is "all tokens in `V`", for the pre-pass of JustifyLine it also
admits lone CRs. -/
theorem setSpacesLoop_A (P : List (List Int) → Prop) (hP : ∀ L, P L → StableRunes L)
    (hstep : ∀ a c b, P (a ++ c :: b) → P (a ++ WrapRefine.spaceMap cxB c :: b)) :
    ∀ (fuel : Nat) (a b : List (List Int)), P (a ++ b) → b.length < fuel →
      setSpacesLoop cxA fuel (a ++ b).flatten a.length =
        .ok (a ++ b.map (WrapRefine.spaceMap cxB)).flatten := by
  intro fuel
  induction fuel with
  | zero => intro a b _ h; omega
  | succ fuel ih =>
    intro a b hab h
    have hst := hP _ hab
    cases b with
    | nil =>
      unfold setSpacesLoop
      rw [gLen_flatten_stable _ hst]
      simp only [List.append_nil, Nat.lt_irrefl, ↓reduceIte, List.map_nil]
      rfl
    | cons c b =>
      have e : gCharAt cxA (a ++ c :: b).flatten (a.length : Int) = .ok c := by
        rw [gCharAt_flatten_stable _ hst a.length (by simp)]
        simp
      unfold setSpacesLoop
      rw [gLen_flatten_stable _ hst, if_pos (by simp), e]
      simp only [bind, Except.bind]
      cases c with
      | nil => exact absurd rfl (hst.ne_nil [] (by simp))
      | cons r c' =>
        simp only
        have hab' : P ((a ++ [WrapRefine.spaceMap cxB (r :: c')]) ++ b) := by
          have := hstep a (r :: c') b hab
          simpa only [List.append_assoc, List.cons_append, List.nil_append] using this
        have key := ih (a ++ [WrapRefine.spaceMap cxB (r :: c')]) b hab' (by simpa using h)
        simp only [List.length_append, List.length_cons, List.length_nil, List.append_assoc,
          List.cons_append, List.nil_append] at key
        cases hr : cxA.isSpace r with
        | true =>
          have hB : cxB.isSpace (r :: c') = true := hr
          rw [if_pos rfl]
          have hs := gSetCharAt_flatten_stable _ hst a.length [cxA.sp] (by simp) (by simp)
          rw [hs]
          simp only [WrapRefine.spaceMap, hB, ↓reduceIte] at key
          simp only [List.set_append_right _ _ (Nat.le_refl _), Nat.sub_self, List.set_cons_zero,
            List.map_cons, WrapRefine.spaceMap, hB, ↓reduceIte]
          exact key
        | false =>
          have hB : cxB.isSpace (r :: c') = false := hr
          rw [if_neg (by simp)]
          simp only [WrapRefine.spaceMap, hB, Bool.false_eq_true, ↓reduceIte] at key
          simp only [pure, Except.pure, List.map_cons, WrapRefine.spaceMap, hB, Bool.false_eq_true,
            ↓reduceIte]
          exact key

/-- a token that is either the space token or does not contain U+0020 at all -/
def SpOK (t : List Int) : Prop := t = [0x20] ∨ (0x20 : Int) ∉ t

/-- for a token that is the space token or free of U+0020: "first rune is ' '" ⇔ "token is ' '" -/
theorem head_sp_iff (r : Int) (t' : List Int) (h : SpOK (r :: t')) :
    r = cxA.sp ↔ (r :: t') = cxB.sp := by
  constructor
  · intro e
    rcases h with h | h
    · exact h
    · exact absurd (by rw [e]; exact List.mem_cons_self) h
  · intro e
    exact (List.cons.inj e).1

theorem collapseRuns_cons_ne {α : Type} [DecidableEq α] (cx : Ctx α) (c : α) (rest : List α)
    (h : c ≠ cx.sp) : collapseRuns cx (c :: rest) = c :: collapseRuns cx rest := by
  cases rest with
  | nil => rfl
  | cons d t => rw [collapseRuns, if_neg (fun h1 => h h1.1)]

theorem collapseRuns_sp_cons {α : Type} [DecidableEq α] (cx : Ctx α) (rest : List α) :
    collapseRuns cx (cx.sp :: rest) =
      if rest.head? = some cx.sp then collapseRuns cx rest else cx.sp :: collapseRuns cx rest := by
  cases rest with
  | nil => rfl
  | cons d t => simp only [collapseRuns, true_and, List.head?_cons, Option.some.injEq]

theorem collapseRuns_A_append (t rest : List Int) (h : (0x20 : Int) ∉ t) :
    collapseRuns cxA (t ++ rest) = t ++ collapseRuns cxA rest := by
  induction t with
  | nil => rfl
  | cons c t ih =>
    rw [List.cons_append,
      collapseRuns_cons_ne cxA _ _ (fun e => h (e ▸ List.mem_cons_self) : c ≠ cxA.sp),
      ih (fun e => h (List.mem_cons_of_mem _ e)), List.cons_append]

theorem collapseRuns_mem {α : Type} [DecidableEq α] (cx : Ctx α) :
    ∀ (l : List α) (c : α), c ∈ collapseRuns cx l → c ∈ l := by
  intro l
  fun_induction collapseRuns cx l with
  | case1 => exact fun _ h => h
  | case2 a => exact fun _ h => h
  | case3 a d t _ ih => exact fun c h => List.mem_cons_of_mem _ (ih c h)
  | case4 a d t _ ih =>
    exact fun c h => (List.mem_cons.1 h).elim (fun e => e ▸ List.mem_cons_self)
      fun h => List.mem_cons_of_mem _ (ih c h)

/-- the regexp `" +" → " "` on code points agrees with the one on tokens, provided U+0020 occurs
only as the token `[0x20]` -/
theorem collapseRuns_bridge : ∀ (toks : List (List Int)), (∀ t ∈ toks, t ≠ [] ∧ SpOK t) →
    collapseRuns cxA toks.flatten = (collapseRuns cxB toks).flatten
  | [], _ => rfl
  | t :: rest, h => by
    have ih := collapseRuns_bridge rest (fun x hx => h x (List.mem_cons_of_mem _ hx))
    rcases (h t List.mem_cons_self).2 with rfl | ht
    · -- a space: the next code point is a space iff the next token is the space token
      have hh : rest.flatten.head? = some cxA.sp ↔ rest.head? = some cxB.sp := by
        cases rest with
        | nil => exact iff_of_false nofun nofun
        | cons u rest' =>
          obtain ⟨hu, hok⟩ := h u (List.mem_cons_of_mem _ List.mem_cons_self)
          cases u with
          | nil => exact absurd rfl hu
          | cons a u' =>
            simp only [List.flatten_cons, List.cons_append, List.head?_cons, Option.some.injEq]
            exact head_sp_iff a u' hok
      show collapseRuns cxA (cxA.sp :: rest.flatten) = (collapseRuns cxB (cxB.sp :: rest)).flatten
      rw [collapseRuns_sp_cons, collapseRuns_sp_cons, apply_ite List.flatten, ih]
      simp only [hh]
      rfl
    · have hne : t ≠ [0x20] := fun e => ht (e ▸ List.mem_cons_self)
      rw [List.flatten_cons, collapseRuns_A_append _ _ ht, collapseRuns_cons_ne cxB _ _ hne, ih,
        List.flatten_cons]

theorem spaceMap_SpOK {V : List (List Int)} (hV : VocabStable V = true)
    (hspTail : ∀ t ∈ V, (0x20 : Int) ∉ t.tail) {t : List Int} (ht : t ∈ V) :
    WrapRefine.spaceMap cxB t ≠ [] ∧ SpOK (WrapRefine.spaceMap cxB t) := by
  unfold WrapRefine.spaceMap
  split
  · exact ⟨List.cons_ne_nil _ _, Or.inl rfl⟩
  · rename_i hns
    refine ⟨vocab_ne_nil hV ht, Or.inr ?_⟩
    cases t with
    | nil => exact absurd rfl (vocab_ne_nil hV ht)
    | cons r t' =>
      intro hm
      rcases List.mem_cons.1 hm with hm | hm
      · apply hns
        show isSpaceRune r = true
        rw [← hm]; exact isSpaceRune_sp
      · exact hspTail _ ht hm

theorem spaceMap_mem {V : List (List Int)} (hsp : [0x20] ∈ V) {t : List Int} (ht : t ∈ V) :
    WrapRefine.spaceMap cxB t ∈ V := by
  unfold WrapRefine.spaceMap
  split
  · exact hsp
  · exact ht

/-- CollapseSpace on code points, for a token list described by an invariant `P` as in
`setSpacesLoop_A` -/
theorem collapseSpace_A (P : List (List Int) → Prop) (hP : ∀ L, P L → StableRunes L)
    (hstep : ∀ a c b, P (a ++ c :: b) → P (a ++ WrapRefine.spaceMap cxB c :: b))
    (toks : List (List Int)) (h : P toks)
    (hok : ∀ t ∈ toks.map (WrapRefine.spaceMap cxB), t ≠ [] ∧ SpOK t) :
    collapseSpace cxA toks.flatten [] =
      .ok (Spec.collapse (WrapRefine.toks cxB) toks).flatten := by
  have hlen := length_le_flatten toks (hP _ h).ne_nil
  have := setSpacesLoop_A P hP hstep (toks.flatten.length + 1) [] toks h (by omega)
  simp only [List.nil_append, List.length_nil] at this
  unfold collapseSpace
  simp only [List.isEmpty_nil, ↓reduceIte, this, bind, Except.bind, pure, Except.pure]
  rw [collapseRuns_bridge _ hok, WrapRefine.collapseRuns_map cxB cxB_sp_space]

theorem over_spaceMap {V : List (List Int)} (hsp : [0x20] ∈ V) (a : List (List Int))
    (c : List Int) (b : List (List Int)) (h : ∀ t ∈ a ++ c :: b, t ∈ V) :
    ∀ t ∈ a ++ WrapRefine.spaceMap cxB c :: b, t ∈ V := by
  intro t ht
  rcases List.mem_append.1 ht with ht | ht
  · exact h t (List.mem_append_left _ ht)
  · rcases List.mem_cons.1 ht with rfl | ht
    · exact spaceMap_mem hsp (h c (by simp))
    · exact h t (by simp [ht])

/-- the full statement: the token-level result `r`, its closed form, the rune-level result, and
the invariants of `r` needed downstream -/
theorem collapseSpace_bridge_full {V : List (List Int)} (hV : VocabStable V = true)
    (hsp : [0x20] ∈ V) (hspTail : ∀ t ∈ V, (0x20 : Int) ∉ t.tail)
    (toks : List (List Int)) (ht : ∀ t ∈ toks, t ∈ V) :
    ∃ r, collapseSpace cxB toks [] = .ok r ∧
      collapseSpace cxA toks.flatten [] = .ok r.flatten ∧
      r = Spec.collapse ⟨cxB.isSpace, cxB.sp, cxB.hy⟩ toks ∧
      (∀ t ∈ r, t ∈ V) ∧ (∀ t ∈ r, SpOK t) := by
  have hm : ∀ t ∈ toks.map (WrapRefine.spaceMap cxB), t ∈ V ∧ t ≠ [] ∧ SpOK t := by
    intro t h
    obtain ⟨u, hu, rfl⟩ := List.mem_map.1 h
    exact ⟨spaceMap_mem hsp (ht u hu), spaceMap_SpOK hV hspTail (ht u hu)⟩
  have hr : ∀ t ∈ Spec.collapse (WrapRefine.toks cxB) toks, t ∈ V ∧ SpOK t := by
    intro t h
    rw [← WrapRefine.collapseRuns_map cxB cxB_sp_space toks] at h
    have := hm t (collapseRuns_mem cxB _ t h)
    exact ⟨this.1, this.2.2⟩
  exact ⟨_, collapseSpace_triv_all cxB cxB_triv cxB_sp_space toks [],
    collapseSpace_A _ (stableRunes_of_vocab V hV) (over_spaceMap hsp) toks ht
      (fun t h => (hm t h).2), rfl, fun t h => (hr t h).1, fun t h => (hr t h).2⟩

/-- CollapseSpace on code points = flattening of CollapseSpace on cluster tokens. -/
theorem _root_.RosedVerif.collapseSpace_bridge {V : List (List Int)} (hV : VocabStable V = true)
    (hsp : [0x20] ∈ V) (hspTail : ∀ t ∈ V, (0x20 : Int) ∉ t.tail)
    (toks : List (List Int)) (ht : ∀ t ∈ toks, t ∈ V) :
    ∃ r, collapseSpace cxB toks [] = .ok r ∧
      collapseSpace cxA toks.flatten [] = .ok r.flatten ∧ ∀ t ∈ r, t ∈ V := by
  obtain ⟨r, h1, h2, _, h4, _⟩ := collapseSpace_bridge_full hV hsp hspTail toks ht
  exact ⟨r, h1, h2, h4⟩

theorem _root_.RosedVerif.collapseSpace_bridge_map {V : List (List Int)}
    (hV : VocabStable V = true) (hsp : [0x20] ∈ V) (hspTail : ∀ t ∈ V, (0x20 : Int) ∉ t.tail)
    (toks : List (List Int)) (ht : ∀ t ∈ toks, t ∈ V) :
    collapseSpace cxA toks.flatten [] = (collapseSpace cxB toks []).map List.flatten := by
  obtain ⟨r, h1, h2, _⟩ := collapseSpace_bridge_full hV hsp hspTail toks ht
  rw [h1, h2]; rfl

/-- closed form: CollapseSpace on code points is the flattening of `Spec.collapse` on clusters -/
theorem _root_.RosedVerif.collapseSpace_bridge_spec {V : List (List Int)}
    (hV : VocabStable V = true) (hsp : [0x20] ∈ V) (hspTail : ∀ t ∈ V, (0x20 : Int) ∉ t.tail)
    (toks : List (List Int)) (ht : ∀ t ∈ toks, t ∈ V) :
    collapseSpace cxA toks.flatten [] =
      .ok (Spec.collapse ⟨cxB.isSpace, cxB.sp, cxB.hy⟩ toks).flatten := by
  obtain ⟨r, _, h2, h3, _⟩ := collapseSpace_bridge_full hV hsp hspTail toks ht
  rw [h2, h3]

/-- the natural sufficient hypothesis: no cluster other than the space itself contains U+0020 -/
theorem spTail_of_spOnly {V : List (List Int)} (h : ∀ t ∈ V, (0x20 : Int) ∈ t → t = [0x20]) :
    ∀ t ∈ V, (0x20 : Int) ∉ t.tail := by
  intro t ht hm
  have := h t ht (List.mem_of_mem_tail hm)
  rw [this] at hm
  simp at hm

section sim
variable {V : List (List Int)}

theorem map_flatten_snoc {xs : List (List Int)} {ys : List (List (List Int))} {x : List Int}
    {y : List (List Int)} (hs : xs = ys.map List.flatten) (h : x = y.flatten) :
    xs ++ [x] = (ys ++ [y]).map List.flatten := by
  rw [hs, h, List.map_append, List.map_singleton]

/-- related lines, related word, related current line -/
def AwRel (V : List (List Int)) (a : List (List Int) × List Int)
    (b : List (List (List Int)) × List (List Int)) : Prop :=
  a.1 = b.1.map List.flatten ∧ RelV V a.2 b.2

/-- the same for the state of the character loop: lines, word being collected, current line -/
def WlRel (V : List (List Int)) (a : List (List Int) × List Int × List Int)
    (b : List (List (List Int)) × List (List Int) × List (List Int)) : Prop :=
  a.1 = b.1.map List.flatten ∧ RelV V a.2.1 b.2.1 ∧ RelV V a.2.2 b.2.2

/-- `appendWord` on code points simulates `appendWord` on cluster tokens, for any width, also when
it is given more fuel -/
theorem appendWord_sim (hV : VocabStable V = true) (hsp : [0x20] ∈ V) (width : Int) :
    ∀ (g f : Nat), g ≤ f → ∀ {xs ys xw yw xl yl}, xs = ys.map List.flatten → RelV V xw yw →
      RelV V xl yl →
      Sim (AwRel V) (appendWord cxA width f xs xw xl) (appendWord cxB width g ys yw yl) := by
  intro g
  induction g with
  | zero => intros; exact Sim.throw _ _
  | succ g ih =>
    intro f hfg xs ys xw yw xl yl hs hw hl
    obtain ⟨f, rfl⟩ : ∃ f', f = f' + 1 := ⟨f - 1, by omega⟩
    have ih := @ih f (by omega)
    have hspR : RelV V [cxA.sp] [cxB.sp] := RelV.single hsp
    have hl' := (RelV.ite ((gLen cxB yl : Int) != 0) (hl.append hspR) hl).append hw
    rw [appendWord, appendWord]
    simp only [rel_gLen (hw.rel hV), rel_gLen (hl.rel hV)]
    -- `appendWord`'s branches in order: width < 2 (throws); the word is used up (the `pure` at the end);
    -- the line is filled exactly; overflow on an empty line (hyphenate) or on a non-empty one (emit it); room left
    refine Sim.ite _ (Sim.throw _ _) (Sim.ite _ ?_ (Sim.pure ⟨hs, hl⟩))
    refine Sim.ite _ (ih (map_flatten_snoc hs hl'.2) .nil .nil) (Sim.ite _ (Sim.ite _ ?_ ?_) ?_)
    · refine ih (map_flatten_snoc hs ?_) (hw.gSub hV _ _) .nil
      rw [List.flatten_append, List.flatten_append, ← hl.2, ← (hw.gSub hV _ _).2]
      rfl
    · exact ih (map_flatten_snoc hs hl.2) hw .nil
    · exact ih hs .nil hl'

theorem appendWord_sim_model (hV : VocabStable V = true) (hsp : [0x20] ∈ V) (width : Int)
    {xs ys xw yw xl yl} (hs : xs = ys.map List.flatten) (hw : RelV V xw yw) (hl : RelV V xl yl) :
    Sim (AwRel V) (appendWord cxA width (2 * xw.length + 2) xs xw xl)
      (appendWord cxB width (2 * yw.length + 2) ys yw yl) := by
  refine appendWord_sim hV hsp width _ _ ?_ hs hw hl
  have := length_le_flatten yw (over_ne_nil hV hw.1)
  rw [← hw.2] at this
  omega

theorem wrapLoop_sim (hV : VocabStable V = true) (hsp : [0x20] ∈ V) (width : Int) :
    ∀ (toks : List (List Int)), (∀ t ∈ toks, t ∈ V) → (∀ t ∈ toks, SpOK t) →
      ∀ {xs ys xw yw xl yl}, xs = ys.map List.flatten → RelV V xw yw → RelV V xl yl →
      Sim (WlRel V) (wrapLoop cxA width toks xs xw xl)
        (wrapLoop cxB width (toks.map fun t => [t]) ys yw yl) := by
  intro toks
  induction toks with
  | nil => intro _ _ _ _ _ _ _ _ hs hw hl; exact Sim.pure ⟨hs, hw, hl⟩
  | cons t rest ih =>
    intro hV' hok xs ys xw yw xl yl hs hw hl
    have ih := @ih (fun x hx => hV' x (List.mem_cons_of_mem _ hx))
      (fun x hx => hok x (List.mem_cons_of_mem _ hx))
    have htV := hV' t List.mem_cons_self
    cases t with
    | nil => exact absurd rfl (vocab_ne_nil hV htV)
    | cons r t' =>
      rw [List.map_cons, wrapLoop, wrapLoop]
      simp only [head_sp_iff r t' (hok _ List.mem_cons_self)]
      refine Sim.ite _ (Sim.bind (appendWord_sim_model hV hsp width hs hw hl) ?_)
        (ih hs (hw.append (RelV.single htV)) hl)
      rintro ⟨_, _⟩ ⟨_, _⟩ ⟨h1, h2⟩
      exact ih h1 .nil h2

theorem wrapLines_sim (hV : VocabStable V = true) (hsp : [0x20] ∈ V)
    (hspTail : ∀ t ∈ V, (0x20 : Int) ∉ t.tail) (toks : List (List Int))
    (ht : ∀ t ∈ toks, t ∈ V) (w : Int) :
    Sim (fun a b => a = b.map List.flatten) (wrapLines cxA toks.flatten w [])
      (wrapLines cxB toks w []) := by
  unfold wrapLines
  refine Sim.bind (r := fun a b => a = b.flatten ∧ (∀ t ∈ b, t ∈ V) ∧ ∀ t ∈ b, SpOK t) ?_ ?_
  · obtain ⟨ct, c1, c2, _, c4, c5⟩ := collapseSpace_bridge_full hV hsp hspTail toks ht
    rw [c1, c2]
    exact Sim.pure ⟨rfl, c4, c5⟩
  rintro _ ct ⟨rfl, c4, c5⟩
  rw [flatten_isEmpty ct (over_ne_nil hV c4),
    clusters_flatten_stable ct (stableRunes_of_vocab V hV ct c4),
    WrapRefine.clusters_triv cxB cxB_triv]
  refine Sim.ite _ (Sim.pure rfl) (Sim.bind (wrapLoop_sim hV hsp _ ct c4 c5 rfl .nil .nil) ?_)
  rintro ⟨_, _, _⟩ ⟨L, cw, cl⟩ ⟨h1, ⟨h2, rfl⟩, h3⟩
  dsimp only at h1 h3 ⊢
  rw [flatten_isEmpty cw (over_ne_nil hV h2)]
  have last : ∀ a b, AwRel V a b → Sim (fun a b => a = b.map List.flatten)
      (pure (if !a.2.isEmpty then a.1 ++ [a.2] else a.1) : R _)
      (pure (if !b.2.isEmpty then b.1 ++ [b.2] else b.1)) := by
    rintro ⟨_, _⟩ ⟨L', c⟩ ⟨rfl, hc, rfl⟩
    dsimp only
    rw [flatten_isEmpty c (over_ne_nil hV hc)]
    refine Sim.pure ?_
    split
    · rw [List.map_append, List.map_singleton]
    · rfl
  exact Sim.ite _ (Sim.bind (appendWord_sim_model hV hsp _ h1 (.mk' h2) h3) last)
    (Sim.bind (Sim.pure (r := AwRel V) ⟨h1, h3⟩) last)

end sim

/-- Wrap on code points = line-wise flattening of Wrap on cluster tokens. -/
theorem _root_.RosedVerif.wrapLines_bridge {V : List (List Int)} (hV : VocabStable V = true)
    (hsp : [0x20] ∈ V) (hspTail : ∀ t ∈ V, (0x20 : Int) ∉ t.tail)
    (toks : List (List Int)) (ht : ∀ t ∈ toks, t ∈ V) (w : Int) :
    ∃ r, wrapLines cxB toks w [] = .ok r ∧
      wrapLines cxA toks.flatten w [] = .ok (r.map List.flatten) := by
  have hB := wrapLines_triv cxB cxB_triv cxB_sp_space toks w []
  obtain ⟨_, hA, rfl⟩ := wrapLines_sim hV hsp hspTail toks ht w _ hB
  exact ⟨_, hB, hA⟩

theorem _root_.RosedVerif.wrapLines_bridge_map {V : List (List Int)} (hV : VocabStable V = true)
    (hsp : [0x20] ∈ V) (hspTail : ∀ t ∈ V, (0x20 : Int) ∉ t.tail)
    (toks : List (List Int)) (ht : ∀ t ∈ toks, t ∈ V) (w : Int) :
    wrapLines cxA toks.flatten w [] = (wrapLines cxB toks w []).map (List.map List.flatten) := by
  obtain ⟨r, h1, h2⟩ := wrapLines_bridge hV hsp hspTail toks ht w
  rw [h1, h2]; rfl

/-- On a stable vocabulary the real-segmentation model of manip.Wrap IS the greedy
specification on clusters. -/
theorem _root_.RosedVerif.wrapLines_bridge_spec {V : List (List Int)} (hV : VocabStable V = true)
    (hsp : [0x20] ∈ V) (hspTail : ∀ t ∈ V, (0x20 : Int) ∉ t.tail)
    (toks : List (List Int)) (ht : ∀ t ∈ toks, t ∈ V) (w : Int) :
    wrapLines cxA toks.flatten w [] =
      .ok ((Spec.wrapLines ⟨cxB.isSpace, cxB.sp, cxB.hy⟩ (max w 2).toNat toks).map
        List.flatten) := by
  obtain ⟨r, h1, h2⟩ := wrapLines_bridge hV hsp hspTail toks ht w
  have h3 := wrapLines_triv cxB cxB_triv cxB_sp_space toks w []
  have e : replaceAll' cxB toks [] = toks := rfl
  rw [e, h1] at h3
  cases h3
  exact h2

section specmem
variable {α : Type} (tk : Spec.Toks α)
open Spec

theorem wrapLines_mem_tokens (w : Nat) (l : List α) :
    ∀ line ∈ Spec.wrapLines tk w l, ∀ c ∈ line, c ∈ l ∨ c = tk.sp ∨ c = tk.hy := by
  intro line hl
  unfold Spec.wrapLines at hl
  split at hl
  · rw [List.mem_singleton.1 hl]
    nofun
  · refine fill_forall tk (P := fun line => ∀ c ∈ line, c ∈ l ∨ c = tk.sp ∨ c = tk.hy) ?_ _ []
      ?_ (fun h => absurd rfl h) line hl
    · intro a b ha hb _ c hc
      rcases List.mem_append.1 hc with hc | hc
      · rcases List.mem_append.1 hc with hc | hc
        · exact ha c hc
        · exact Or.inr (Or.inl (List.mem_singleton.1 hc))
      · exact hb c hc
    · intro u hu c hc
      obtain ⟨wd, hwd, hp⟩ := List.mem_flatMap.1 hu
      rcases pieces_mem_tokens tk w wd wd.length u hp c hc with h | h
      · have : c ∈ (words tk l).flatten := List.mem_flatten.2 ⟨wd, hwd, h⟩
        rw [words_flatten] at this
        exact Or.inl (List.mem_filter.1 this).1
      · exact Or.inr (Or.inr h)

end specmem

theorem _root_.RosedVerif.BridgeOps.wrapLines_spec_over {V : List (List Int)} (hsp : [0x20] ∈ V)
    (hhy : [0x2D] ∈ V) (W : Nat) (l : List (List Int)) (hl : ∀ t ∈ l, t ∈ V) :
    ∀ line ∈ Spec.wrapLines ⟨cxB.isSpace, cxB.sp, cxB.hy⟩ W l, ∀ c ∈ line, c ∈ V := by
  intro line hline c hc
  rcases wrapLines_mem_tokens _ _ l line hline c hc with h | h | h
  · exact hl c h
  · rw [h]; exact hsp
  · rw [h]; exact hhy

/-- With the hyphen in the vocabulary: Wrap on code points succeeds, and segmenting each
output line (real UAX #29 segmentation) gives back exactly the lines of the greedy specification
on clusters; in particular `gLen` of a line is the token count of the specification's line.  So
all clauses of Spec/WrapLemmas.lean (width, greedy, hyphenation shape, idempotence) transfer. -/
theorem _root_.RosedVerif.wrapLines_bridge_clusters {V : List (List Int)}
    (hV : VocabStable V = true) (hsp : [0x20] ∈ V) (hhy : [0x2D] ∈ V)
    (hspTail : ∀ t ∈ V, (0x20 : Int) ∉ t.tail)
    (toks : List (List Int)) (ht : ∀ t ∈ toks, t ∈ V) (w : Int) :
    ∃ r, wrapLines cxA toks.flatten w [] = .ok r ∧
      r.map (clusters cxA) = Spec.wrapLines ⟨cxB.isSpace, cxB.sp, cxB.hy⟩ (max w 2).toNat toks ∧
      r.map (gLen cxA) =
        (Spec.wrapLines ⟨cxB.isSpace, cxB.sp, cxB.hy⟩ (max w 2).toNat toks).map List.length := by
  have hcl := map_clusters_flatten_over hV
    (BridgeOps.wrapLines_spec_over hsp hhy (max w 2).toNat toks ht)
  refine ⟨_, wrapLines_bridge_spec hV hsp hspTail toks ht w, hcl, ?_⟩
  conv => rhs; rw [← hcl, List.map_map]
  exact List.map_congr_left fun l _ => gLen_eq_clusters_length cxA l

/-- width clause transferred to code-point text, as an illustration -/
theorem _root_.RosedVerif.wrapLines_bridge_width {V : List (List Int)}
    (hV : VocabStable V = true) (hsp : [0x20] ∈ V) (hhy : [0x2D] ∈ V)
    (hspTail : ∀ t ∈ V, (0x20 : Int) ∉ t.tail)
    (toks : List (List Int)) (ht : ∀ t ∈ toks, t ∈ V) (w : Int) :
    ∃ r, wrapLines cxA toks.flatten w [] = .ok r ∧ ∀ l ∈ r, gLen cxA l ≤ (max w 2).toNat := by
  obtain ⟨r, h1, _, h3⟩ := wrapLines_bridge_clusters hV hsp hhy hspTail toks ht w
  refine ⟨r, h1, ?_⟩
  intro l hl
  have hm : gLen cxA l ∈ r.map (gLen cxA) := List.mem_map_of_mem hl
  rw [h3] at hm
  obtain ⟨line, hline, e⟩ := List.mem_map.1 hm
  rw [← e]
  exact Spec.wrapLines_width _ (by omega) toks line hline

def demoVocab2 : List (List Int) :=
  [[0x61], [0x62], [0x20], [0x2D], [0x65, 0x301], [0x1F1E9, 0x1F1EA], [0x9]]

theorem demoVocab2_stable : VocabStable demoVocab2 = true :=
  VocabStable.mono demoWords_stable (by decide)

theorem demoVocab2_spOnly : ∀ t ∈ demoVocab2, (0x20 : Int) ∈ t → t = [0x20] := by decide

theorem demoVocab2_spTail : ∀ t ∈ demoVocab2, (0x20 : Int) ∉ t.tail :=
  spTail_of_spOnly demoVocab2_spOnly

/-- "a é<TAB> 🇩🇪🇩🇪b ab" wrapped at 3 clusters: the code-point model gives the flattening of the
greedy specification run on clusters -/
example (w : Int) :
    wrapLines cxA ([[0x61], [0x20], [0x65, 0x301], [0x9], [0x20], [0x1F1E9, 0x1F1EA],
        [0x1F1E9, 0x1F1EA], [0x62], [0x20], [0x61], [0x62]] : List (List Int)).flatten w [] =
      .ok ((Spec.wrapLines ⟨cxB.isSpace, cxB.sp, cxB.hy⟩ (max w 2).toNat
        [[0x61], [0x20], [0x65, 0x301], [0x9], [0x20], [0x1F1E9, 0x1F1EA],
          [0x1F1E9, 0x1F1EA], [0x62], [0x20], [0x61], [0x62]]).map List.flatten) :=
  wrapLines_bridge_spec demoVocab2_stable (by decide) demoVocab2_spTail _ (by decide) w

example : collapseSpace cxA [0x61, 0x9, 0x20, 0x65, 0x301, 0x20, 0x20, 0x62] [] =
    .ok [0x61, 0x20, 0x65, 0x301, 0x20, 0x62] := by
  have := collapseSpace_bridge_spec demoVocab2_stable (by decide) demoVocab2_spTail
    [[0x61], [0x9], [0x20], [0x65, 0x301], [0x20], [0x20], [0x62]] (by decide)
  rw [show ([[0x61], [0x9], [0x20], [0x65, 0x301], [0x20], [0x20], [0x62]] :
    List (List Int)).flatten = [0x61, 0x9, 0x20, 0x65, 0x301, 0x20, 0x20, 0x62] from rfl] at this
  rw [this]
  exact congrArg Except.ok (by decide +kernel)

/-- decidable test for `x = .ok y` (there is no `DecidableEq (Except _ _)` instance) -/
def okEq {β : Type} [DecidableEq β] (x : R β) (y : β) : Bool :=
  match x with
  | .ok r => decide (r = y)
  | .error _ => false

theorem of_okEq {β : Type} [DecidableEq β] {x : R β} {y : β} (h : okEq x y = true) : x = .ok y := by
  cases x with
  | error e => cases h
  | ok r => exact congrArg Except.ok (of_decide_eq_true h)

/-- the hypothesis `hspTail` is needed: `[0x600, 0x20]` (Prepend + space) is a single cluster, the
vocabulary below is stable, but the rune-level regexp merges the space inside the cluster with the
following space token while the token level keeps both tokens. -/
theorem spTail_needed :
    VocabStable [[0x61], [0x20], [0x600, 0x20]] = true ∧
    collapseSpace cxA ([[0x600, 0x20], [0x20], [0x61]] : List (List Int)).flatten [] =
      .ok [0x600, 0x20, 0x61] ∧
    collapseSpace cxB [[0x600, 0x20], [0x20], [0x61]] [] =
      .ok [[0x600, 0x20], [0x20], [0x61]] :=
  ⟨by decide +kernel, of_okEq (by decide +kernel), of_okEq (by decide +kernel)⟩

theorem spTail_needed' :
    collapseSpace cxA ([[0x600, 0x20], [0x20], [0x61]] : List (List Int)).flatten [] ≠
      (collapseSpace cxB [[0x600, 0x20], [0x20], [0x61]] []).map List.flatten := by
  rw [spTail_needed.2.1, spTail_needed.2.2]
  intro h
  have h' : ([0x600, 0x20, 0x61] : List Int) =
      ([[0x600, 0x20], [0x20], [0x61]] : List (List Int)).flatten := Except.ok.inj h
  revert h'
  decide

/-- clusters that START with U+0020 are harmless (space + combining acute is one cluster; both
levels replace it by a plain space) -/
example : VocabStable [[0x61], [0x20], [0x2D], [0x20, 0x301]] = true ∧
    (∀ t ∈ ([[0x61], [0x20], [0x2D], [0x20, 0x301]] : List (List Int)), (0x20 : Int) ∉ t.tail) ∧
    ¬ (∀ t ∈ ([[0x61], [0x20], [0x2D], [0x20, 0x301]] : List (List Int)),
        (0x20 : Int) ∈ t → t = [0x20]) := by
  decide +kernel

end BridgeWrap
end RosedVerif
