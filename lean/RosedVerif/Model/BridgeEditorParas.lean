/-
The A→B bridge at EDITOR level in PARAGRAPH mode (`preservePara = true`): `Editor.applyParasM`
(rosed.go, applyGParagraphsOpts) with corresponding per-paragraph callbacks, and from it
IndentOpts, WrapOpts, JustifyOpts and AlignOpts in paragraph mode.

Condition on the separators (`GoodPara V L P`, `L` the line separator, `P` the paragraph
separator, both lists of cluster tokens): both are `BridgeOps.GoodSep`, both are over `V`, and the
PREFIX test for `L` agrees on the two levels (the paragraph loop looks for a line separator at
the start of the next paragraph when `P ++ L = L ++ P`, which is the case for the defaults
"\n" / "\n\n").  Lists of marker tokens (`goodPara_markers`) satisfy it.

The paragraph loop and the callbacks of Wrap / Justify / Align are walked in `LayoutSim.lean` along
a homomorphism of texts; here it is flattening over `V` (`BridgeComposite.homFlat`), and the
identity for "what the loop hands to the callback stays over `V`".
-/
import RosedVerif.Model.BridgeEditorOps
import RosedVerif.Model.ParaStructure
set_option linter.unusedSectionVars false
namespace RosedVerif
namespace BridgeEditorParas
open BridgeWrap BridgeOps BridgeAlign BridgeComposite OpsStructure BridgeEditorOps LayoutSim

/-- what paragraph mode asks of a line separator `L` and a paragraph separator `P` over the
vocabulary `V`: both are found in the code points of a text over `V` only where they stand as tokens
(`GoodSep`), and so is `L` as a prefix (`pre`; the loop tests for it after an ambiguous split).
`pre` names the `BEq` instance: the generic model compares atoms with the `BEq` that comes from
`DecidableEq α`, whereas instance synthesis at `List Int` would pick `List.instBEq`; the same
spelling recurs wherever a statement mentions `isPrefixOf`/`isSuffixOf` of the model at `cxB`. -/
structure GoodPara (V : List (List Int)) (L P : List (List Int)) : Prop where
  line : GoodSep V L
  para : GoodSep V P
  lineV : ∀ t ∈ L, t ∈ V
  paraV : ∀ t ∈ P, t ∈ V
  pre : ∀ toks : List (List Int), (∀ t ∈ toks, t ∈ V) →
    @List.isPrefixOf Int instBEqOfDecidableEq L.flatten toks.flatten =
      @List.isPrefixOf (List Int) instBEqOfDecidableEq L toks

section vocab
variable {V : List (List Int)}

/-- non-empty lists of marker tokens of the vocabulary are good separators for paragraph mode -/
theorem goodPara_markers (hV : VocabStable V = true) (L P : List (List Int)) (hL : L ≠ [])
    (hP : P ≠ []) (hLm : ∀ s ∈ L, Marker V s) (hPm : ∀ s ∈ P, Marker V s)
    (hLV : ∀ t ∈ L, t ∈ V) (hPV : ∀ t ∈ P, t ∈ V) : GoodPara V L P where
  line := goodSep_markers hV L hL hLm
  para := goodSep_markers hV P hP hPm
  lineV := hLV
  paraV := hPV
  pre := fun toks ht => by
    rw [Bool.eq_iff_iff, isPrefixOf_dec_iff, isPrefixOf_dec_iff]
    exact ⟨prefix_aligned L toks hLm ht (over_ne_nil hV ht), flatten_prefix⟩

/-- the default separators `"\n"` / `"\n\n"`, when the line feed is a marker of the vocabulary -/
theorem goodPara_nl (hV : VocabStable V = true) (hm : Marker V [0x0A]) (hnl : [0x0A] ∈ V) :
    GoodPara V [[0x0A]] [[0x0A], [0x0A]] :=
  goodPara_markers hV _ _ (List.cons_ne_nil _ _) (List.cons_ne_nil _ _)
    (fun s hs => List.mem_singleton.1 hs ▸ hm)
    (fun s hs => by
      simp only [List.mem_cons, List.not_mem_nil, or_false, or_self] at hs
      exact hs ▸ hm)
    (over_single hnl) (over_append (over_single hnl) (over_single hnl))

/-- two token lists over `V` with the same code points are equal -/
theorem flatten_inj_over (hV : VocabStable V = true) {a b : List (List Int)}
    (ha : ∀ t ∈ a, t ∈ V) (hb : ∀ t ∈ b, t ∈ V) (h : a.flatten = b.flatten) : a = b := by
  rw [← clusters_flat_over hV ha, ← clusters_flat_over hV hb, h]

end vocab

theorem ambig_iff {α : Type} [DecidableEq α] (o : Options α) :
    o.ambig = true ↔ o.paraSep ++ o.lineSep = o.lineSep ++ o.paraSep := by
  unfold Options.ambig
  exact beq_iff_eq

/-- flatten every component of a call `(index, paragraph, prefix, suffix)`: by definition
`LayoutSim.mapCall List.flatten`, which is how `paraCallsOf_sim` closes `paraCallsOf_bridge` -/
def flatCall (c : Nat × List (List Int) × List (List Int) × List (List Int)) :
    Nat × List Int × List Int × List Int :=
  (c.1, c.2.1.flatten, c.2.2.1.flatten, c.2.2.2.flatten)

section vocab
variable {V : List (List Int)}

theorem paraCallsOf_bridge (hV : VocabStable V = true) (toks : List (List Int))
    (ht : ∀ t ∈ toks, t ∈ V) (o : Options (List Int))
    (hG : GoodPara V (o.withDefaults cxB).lineSep (o.withDefaults cxB).paraSep) :
    paraCallsOf toks.flatten (o.flat.withDefaults cxA) =
      (paraCallsOf toks (o.withDefaults cxB)).map flatCall := by
  have hL := lineSep_flat_gen o hG.line.tok_ne
  have hP := paraSep_flat_gen o hG.para.tok_ne
  have hamb : (o.flat.withDefaults cxA).ambig = (o.withDefaults cxB).ambig := by
    rw [Bool.eq_iff_iff, ambig_iff, ambig_iff, hL, hP, ← List.flatten_append,
      ← List.flatten_append]
    exact ⟨flatten_inj_over hV (over_append hG.paraV hG.lineV) (over_append hG.lineV hG.paraV),
      fun h => by rw [h]⟩
  exact (paraCallsOf_sim rfl (fun _ _ => List.flatten_append) (sepHomFlat hG.line hG.lineV)
    (sepHomFlat hG.para hG.paraV) hL hP hamb hG.pre ht).1

/-- the identity as the homomorphism: what the paragraph loop hands on stays over `V` -/
theorem paraCallsOf_over (toks : List (List Int)) (ht : ∀ t ∈ toks, t ∈ V)
    (o : Options (List Int))
    (hLV : ∀ t ∈ (o.withDefaults cxB).lineSep, t ∈ V)
    (hPV : ∀ t ∈ (o.withDefaults cxB).paraSep, t ∈ V) :
    ∀ c ∈ paraCallsOf toks (o.withDefaults cxB),
      (∀ t ∈ c.2.1, t ∈ V) ∧ (∀ t ∈ c.2.2.1, t ∈ V) ∧ (∀ t ∈ c.2.2.2, t ∈ V) :=
  (paraCallsOf_sim (φ := id) (Q := (· ∈ V)) rfl (fun _ _ => rfl)
    ⟨hLV, fun _ _ => (List.map_id _).symm⟩ ⟨hPV, fun _ _ => (List.map_id _).symm⟩ rfl rfl rfl
    (fun _ _ => rfl) ht).2

theorem mapM_map_bridge' {β β' γ δ : Type} (φ : β → β') (f : β' → R γ) (g : β → R δ)
    (h : δ → γ) (l : List β) (hl : ∀ x ∈ l, f (φ x) = (g x).map h) :
    (l.map φ).mapM f = (l.mapM g).map (List.map h) := by
  rw [List.mapM_map]
  exact mapM_map_bridge (f ∘ φ) g h l hl

/-- `Editor.applyParasM`: if the per-paragraph callbacks correspond on paragraphs, prefixes and
suffixes over `V`, the results correspond -/
theorem applyParasM_bridge (hV : VocabStable V = true) (ed : Editor (List Int))
    (ht : ∀ t ∈ ed.text, t ∈ V) (o : Options (List Int))
    (hG : GoodPara V (o.withDefaults cxB).lineSep (o.withDefaults cxB).paraSep)
    (opA : Nat → List Int → List Int → List Int → R (List (List Int)))
    (opB : Nat → List (List Int) → List (List Int) → List (List Int) →
      R (List (List (List Int))))
    (hop : ∀ (i : Nat) (para pre suf : List (List Int)), (∀ t ∈ para, t ∈ V) →
      (∀ t ∈ pre, t ∈ V) → (∀ t ∈ suf, t ∈ V) →
      opA i para.flatten pre.flatten suf.flatten =
        (opB i para pre suf).map (List.map List.flatten)) :
    Editor.applyParasM cxA ed.flat opA o.flat =
      (Editor.applyParasM cxB ed opB o).map Editor.flat := by
  rw [applyParasM_eq_mapM, applyParasM_eq_mapM, flat_text, paraCallsOf_bridge hV ed.text ht o hG,
    mapM_map_bridge' flatCall (fun c => opA c.1 c.2.1 c.2.2.1 c.2.2.2)
      (fun c => opB c.1 c.2.1 c.2.2.1 c.2.2.2) (List.map List.flatten) _
      (fun c hc => by
        obtain ⟨h1, h2, h3⟩ := paraCallsOf_over ed.text ht o hG.lineV hG.paraV c hc
        exact hop c.1 c.2.1 c.2.2.1 c.2.2.2 h1 h2 h3)]
  cases (paraCallsOf ed.text (o.withDefaults cxB)).mapM
      (fun c => opB c.1 c.2.1 c.2.2.1 c.2.2.2) with
  | error e => rfl
  | ok outs =>
    show Except.ok _ = Except.ok _
    rw [flat_withText, paraSep_flat_gen o hG.para.tok_ne, flatten_map_map_flatten,
      joinWith_flatten]

theorem mapped_bridge_text (hV : VocabStable V = true) (ed : Editor (List Int))
    (ht : ∀ t ∈ ed.text, t ∈ V) (o : Options (List Int))
    (hS : GoodSep V (o.withDefaults cxB).lineSep)
    (gA : List Int → List Int) (gB : List (List Int) → List (List Int))
    (hg : ∀ l ∈ inLines cxB ed o, gA l.flatten = (gB l).flatten) :
    joinWith (o.flat.withDefaults cxA).lineSep
        ((inLines cxA ed.flat o.flat).map gA ++ trailing cxA ed.flat o.flat) =
      (joinWith (o.withDefaults cxB).lineSep
        ((inLines cxB ed o).map gB ++ trailing cxB ed o)).flatten := by
  have h := congrArg Editor.text (mapped_bridge hV ed ht o hS gA gB hg)
  rw [Editor.withText_text, flat_text, Editor.withText_text] at h
  exact h

theorem string_root {α : Type} [DecidableEq α] (cx : Ctx α) (t : List α) (o : Options α) :
    (Editor.root t o).string cx = .ok t := rfl

/-- `IndentOpts` in paragraph mode, any context: every paragraph is indented as an editor of its
own; the callback ignores the affixes of the paragraph separator -/
theorem indentOpts_para_structure {α : Type} [DecidableEq α] (cx : Ctx α) (ed : Editor α)
    (level : Int) (o : Options α) (hpp : o.preservePara = true) :
    ed.indentOpts cx level o =
      if level < 1 then .ok ed
      else repeatStr (o.withDefaults cx).indentStr level >>= fun ind =>
        ed.applyParasM cx (fun _ para _ _ => .ok [joinWith (o.withDefaults cx).lineSep
          ((inLines cx (.root para o) o).map (fun line => ind ++ line) ++
            trailing cx (.root para o) o)]) o := by
  unfold Editor.indentOpts
  split
  · rfl
  · dsimp only
    rw [withDefaults_preservePara, hpp]
    refine congrArg _ (funext fun ind => ?_)
    simp only [if_true, applyOpts_map cx _ (fun line => ind ++ line)]
    rfl

theorem indentOpts_bridge_para (hV : VocabStable V = true) (ed : Editor (List Int))
    (ht : ∀ t ∈ ed.text, t ∈ V) (level : Int) (o : Options (List Int))
    (hpp : o.preservePara = true)
    (hG : GoodPara V (o.withDefaults cxB).lineSep (o.withDefaults cxB).paraSep)
    (hi : ∀ t ∈ o.indentStr, t ≠ []) :
    Editor.indentOpts cxA ed.flat level o.flat =
      (Editor.indentOpts cxB ed level o).map Editor.flat := by
  rw [indentOpts_para_structure cxA _ _ _ hpp, indentOpts_para_structure cxB _ _ _ hpp,
    indentStr_flat_gen o (indentStr_ne_of_ne o hi), repeatStr_bridge]
  refine ite_map_eq _ _ _ _ _ _ rfl (map_bind_eq fun ind _ =>
    applyParasM_bridge hV ed ht o hG _ _ fun i para pre suf hpara _ _ => ?_)
  exact congrArg (fun t => Except.ok [t])
    (mapped_bridge_text hV (.root para o) hpara o hG.line _ (fun line => ind ++ line)
      (fun l _ => (List.flatten_append).symm))

end vocab

/-! In paragraph mode Wrap / Justify / Align are `applyParasM` with the callbacks `wrapParaCb`,
`justifyParaCb`, `alignParaCb` of `LayoutSim.lean`, in any context. -/

section generic
variable {α : Type} [DecidableEq α] (cx : Ctx α)

theorem wrapOpts_para (ed : Editor α) (width : Int) (o : Options α)
    (hpp : o.preservePara = true) (hph : cx.phA ∉ (o.withDefaults cx).lineSep) :
    ed.wrapOpts cx width o =
      ed.applyParasM cx (wrapParaCb cx (if width < 2 then 2 else width)
        (o.withDefaults cx).lineSep) o := by
  have hppd : (o.withDefaults cx).preservePara = true :=
    (withDefaults_preservePara cx o).trans hpp
  rw [← ParaStructure.applyParasM_withDefaults]
  unfold Editor.wrapOpts
  simp only [hppd, if_true, Ctx.placeholder_eq_phA cx hph]
  rfl

theorem justifyOpts_para (ed : Editor α) (width : Int) (o : Options α)
    (hpp : o.preservePara = true) (hph : cx.phA ∉ (o.withDefaults cx).lineSep) :
    ed.justifyOpts cx width o =
      ed.applyParasM cx (justifyParaCb cx width (o.withDefaults cx).lineSep
        (o.withDefaults cx).justifyLast) o := by
  have hppd : (o.withDefaults cx).preservePara = true :=
    (withDefaults_preservePara cx o).trans hpp
  rw [← ParaStructure.applyParasM_withDefaults]
  unfold Editor.justifyOpts
  simp only [hppd, if_true, Ctx.placeholder_eq_phA cx hph]
  rfl

theorem alignOpts_para (ed : Editor α) (align width : Int) (o : Options α)
    (hal : align = Gen.alignLeft ∨ align = Gen.alignRight ∨ align = Gen.alignCenter)
    (hpp : o.preservePara = true) :
    ed.alignOpts cx align width o =
      ed.applyParasM cx (alignParaCb cx align width (o.withDefaults cx).lineSep) o := by
  have hppd : (o.withDefaults cx).preservePara = true :=
    (withDefaults_preservePara cx o).trans hpp
  rw [← ParaStructure.applyParasM_withDefaults]
  unfold Editor.alignOpts
  rw [if_neg]
  · simp only [hppd, if_true]
    rfl
  · simp only [beq_iff_eq, bne_iff_ne, ne_eq]
    rcases hal with h | h | h <;> subst h <;> decide

end generic

section vocab
variable {V : List (List Int)}

/-- the letter `A` is not a rune of the line separator: then WrapOpts pads with `A` on both levels
(`Ctx.placeholder_eq_phA`) -/
theorem phA_not_mem_B {L : List (List Int)} (hAL : (0x41 : Int) ∉ L.flatten) : cxB.phA ∉ L :=
  fun h => hAL (List.mem_flatten.2 ⟨[0x41], h, List.mem_singleton.2 rfl⟩)

theorem phA_not_mem_A (o : Options (List Int)) (hne : ∀ t ∈ (o.withDefaults cxB).lineSep, t ≠ [])
    (hAL : (0x41 : Int) ∉ ((o.withDefaults cxB).lineSep).flatten) :
    cxA.phA ∉ (o.flat.withDefaults cxA).lineSep := by
  rw [lineSep_flat_gen o hne]; exact hAL

theorem wrapParaCb_bridge (hV : VocabStable V = true) (hsp : [0x20] ∈ V) (hhy : [0x2D] ∈ V)
    (hA : [0x41] ∈ V) (hspTail : ∀ t ∈ V, (0x20 : Int) ∉ t.tail) {S : List (List Int)}
    (hS : GoodSep V S) (hSV : ∀ t ∈ S, t ∈ V) (width : Int) (i : Nat)
    {para pre suf : List (List Int)} (hpara : ∀ t ∈ para, t ∈ V) (hpre : ∀ t ∈ pre, t ∈ V)
    (hsuf : ∀ t ∈ suf, t ∈ V) :
    wrapParaCb cxA width S.flatten i para.flatten pre.flatten suf.flatten =
      (wrapParaCb cxB width S i para pre suf).map (List.map List.flatten) :=
  wrapParaCb_sim (homFlat hV hsp) hSV (TR.single rfl hA) hS.suffix
    (fun b hb w => RRel.of_eq_map (wrapLines_bridge_good hV hsp hspTail hS b hb w)
      (wrapLines_B_over hsp hhy b hb w _)) width i hpara hpre hsuf

/-- `Editor.WrapOpts`, paragraph mode (`[0x41]`, the placeholder "A", must be a token of the
vocabulary and must not be a rune of the line separator: a separator that contains it is padded
with another letter, which need not be a cluster of `V`) -/
theorem wrapOpts_bridge_para (hV : VocabStable V = true) (hsp : [0x20] ∈ V) (hhy : [0x2D] ∈ V)
    (hA : [0x41] ∈ V) (hspTail : ∀ t ∈ V, (0x20 : Int) ∉ t.tail) (ed : Editor (List Int))
    (ht : ∀ t ∈ ed.text, t ∈ V) (width : Int) (o : Options (List Int))
    (hpp : o.preservePara = true)
    (hG : GoodPara V (o.withDefaults cxB).lineSep (o.withDefaults cxB).paraSep)
    (hAL : (0x41 : Int) ∉ ((o.withDefaults cxB).lineSep).flatten) :
    Editor.wrapOpts cxA ed.flat width o.flat = (Editor.wrapOpts cxB ed width o).map Editor.flat := by
  rw [wrapOpts_para cxA ed.flat width o.flat hpp (phA_not_mem_A o hG.line.tok_ne hAL),
    wrapOpts_para cxB ed width o hpp (phA_not_mem_B hAL), lineSep_flat_gen o hG.line.tok_ne]
  exact applyParasM_bridge hV ed ht o hG _ _ fun i _ _ _ hpara hpre hsuf =>
    wrapParaCb_bridge hV hsp hhy hA hspTail hG.line hG.lineV _ i hpara hpre hsuf

theorem justifyParaCb_bridge (hV : VocabStable V = true) (hsp : [0x20] ∈ V)
    (hA : [0x41] ∈ V) (hspTail : ∀ t ∈ V, (0x20 : Int) ∉ t.tail) {S : List (List Int)}
    (hS : GoodSep V S) (hSV : ∀ t ∈ S, t ∈ V) (width : Int) (jl : Bool) (i : Nat)
    {para pre suf : List (List Int)} (hpara : ∀ t ∈ para, t ∈ V) (hpre : ∀ t ∈ pre, t ∈ V)
    (hsuf : ∀ t ∈ suf, t ∈ V) :
    justifyParaCb cxA width S.flatten jl i para.flatten pre.flatten suf.flatten =
      (justifyParaCb cxB width S jl i para pre suf).map (List.map List.flatten) :=
  justifyParaCb_sim (homFlat hV hsp) (sepHomFlat hS hSV) (TR.single rfl hA)
    (fun b hb w => by
      obtain ⟨r, h1, h2, h3⟩ := justifyLine_bridge_general hV hsp hspTail b hb w
      rw [h1, h2]
      exact ⟨rfl, h3⟩) width jl i hpara hpre hsuf

theorem justifyOpts_bridge_para (hV : VocabStable V = true) (hsp : [0x20] ∈ V)
    (hA : [0x41] ∈ V) (hspTail : ∀ t ∈ V, (0x20 : Int) ∉ t.tail) (ed : Editor (List Int))
    (ht : ∀ t ∈ ed.text, t ∈ V) (width : Int) (o : Options (List Int))
    (hpp : o.preservePara = true)
    (hG : GoodPara V (o.withDefaults cxB).lineSep (o.withDefaults cxB).paraSep)
    (hAL : (0x41 : Int) ∉ ((o.withDefaults cxB).lineSep).flatten) :
    Editor.justifyOpts cxA ed.flat width o.flat =
      (Editor.justifyOpts cxB ed width o).map Editor.flat := by
  rw [justifyOpts_para cxA ed.flat width o.flat hpp (phA_not_mem_A o hG.line.tok_ne hAL),
    justifyOpts_para cxB ed width o hpp (phA_not_mem_B hAL),
    lineSep_flat_gen o hG.line.tok_ne, Options.justifyLast_withDefaults,
    Options.justifyLast_withDefaults]
  exact applyParasM_bridge hV ed ht o hG _ _ fun i _ _ _ hpara hpre hsuf =>
    justifyParaCb_bridge hV hsp hA hspTail hG.line hG.lineV _ _ i hpara hpre hsuf

def TR (V : List (List Int)) (a : List Int) (b : List (List Int)) : Prop :=
  a = b.flatten ∧ ∀ t ∈ b, t ∈ V

theorem TR.append {a c : List Int} {b d : List (List Int)} (h1 : TR V a b) (h2 : TR V c d) :
    TR V (a ++ c) (b ++ d) :=
  ⟨by rw [h1.1, h2.1, List.flatten_append], over_append h1.2 h2.2⟩

/-- `TR V` is the relation of `LayoutSim` at the flattening -/
theorem TR_iff {a : List Int} {b : List (List Int)} :
    TR V a b ↔ LayoutSim.TR List.flatten (· ∈ V) a b := Iff.rfl

theorem alignOpts_bridge_para (hV : VocabStable V = true) (hsp : [0x20] ∈ V)
    (ed : Editor (List Int)) (ht : ∀ t ∈ ed.text, t ∈ V) (align width : Int)
    (o : Options (List Int)) (hpp : o.preservePara = true)
    (hG : GoodPara V (o.withDefaults cxB).lineSep (o.withDefaults cxB).paraSep) :
    Editor.alignOpts cxA ed.flat align width o.flat =
      (Editor.alignOpts cxB ed align width o).map Editor.flat := by
  by_cases hal : align = Gen.alignLeft ∨ align = Gen.alignRight ∨ align = Gen.alignCenter
  · rw [alignOpts_para cxA ed.flat align width o.flat hal hpp,
      alignOpts_para cxB ed align width o hal hpp, lineSep_flat_gen o hG.line.tok_ne]
    exact applyParasM_bridge hV ed ht o hG _ _ (fun i _ _ _ hpara hpre hsuf =>
      alignParaCb_sim (homFlat hV hsp) (sepHomFlat hG.line hG.lineV) align width i hpara hpre hsuf)
  · rw [alignOpts_other cxA _ _ _ _ hal, alignOpts_other cxB _ _ _ _ hal]
    rfl

end vocab

/-- `BridgeOps.demoVocab3` plus the placeholder letter "A" -/
def demoVocabA : List (List Int) := BridgeOps.demoVocab3 ++ [[0x41]]

theorem demoVocabA_stable : VocabStable demoVocabA = true :=
  VocabStable.mono demoWords_stable (by decide)

theorem demoVocabA_marker_nl : Marker demoVocabA [0x0A] :=
  ⟨0x0A, [], rfl, List.not_mem_nil, by decide⟩

/-- the default separators `"\n"` / `"\n\n"` -/
theorem demoVocabA_goodPara : GoodPara demoVocabA [[0x0A]] [[0x0A], [0x0A]] :=
  goodPara_nl demoVocabA_stable demoVocabA_marker_nl (by decide)

theorem default_seps (o : Options (List Int)) (hl : o.lineSep = []) (hp : o.paraSep = []) :
    (o.withDefaults cxB).lineSep = [[0x0A]] ∧ (o.withDefaults cxB).paraSep = [[0x0A], [0x0A]] := by
  refine ⟨lineSep_nl_of o (.inl hl), ?_⟩
  rw [Options.paraSep_withDefaults, hp]
  exact dParaSep_B

theorem demoVocabA_goodPara_default (o : Options (List Int)) (hl : o.lineSep = [])
    (hp : o.paraSep = []) :
    GoodPara demoVocabA (o.withDefaults cxB).lineSep (o.withDefaults cxB).paraSep := by
  rw [(default_seps o hl hp).1, (default_seps o hl hp).2]
  exact demoVocabA_goodPara

/-- paragraph mode with the default separators (for which the paragraph loop's look-ahead for a
line separator at the start of the next paragraph is active: `"\n\n" ++ "\n" = "\n" ++ "\n\n"`):
for every text over the vocabulary, every alignment value, width and indent level, all four
operations on code points are the flattening of the same operations on cluster tokens -/
example (toks : List (List Int)) (ht : ∀ t ∈ toks, t ∈ demoVocabA) (align width level : Int)
    (o0 o : Options (List Int)) (hpp : o.preservePara = true) (hl : o.lineSep = [])
    (hp : o.paraSep = []) (hi : ∀ t ∈ o.indentStr, t ≠ []) :
    Editor.alignOpts cxA (.root toks.flatten o0.flat) align width o.flat =
        (Editor.alignOpts cxB (.root toks o0) align width o).map Editor.flat ∧
    Editor.indentOpts cxA (.root toks.flatten o0.flat) level o.flat =
        (Editor.indentOpts cxB (.root toks o0) level o).map Editor.flat ∧
    Editor.justifyOpts cxA (.root toks.flatten o0.flat) width o.flat =
        (Editor.justifyOpts cxB (.root toks o0) width o).map Editor.flat ∧
    Editor.wrapOpts cxA (.root toks.flatten o0.flat) width o.flat =
        (Editor.wrapOpts cxB (.root toks o0) width o).map Editor.flat := by
  have hG := demoVocabA_goodPara_default o hl hp
  have hspT : ∀ t ∈ demoVocabA, (0x20 : Int) ∉ t.tail := spTail_of_spOnly (by decide)
  exact ⟨alignOpts_bridge_para demoVocabA_stable (by decide) (.root toks o0) ht align width o hpp hG,
    indentOpts_bridge_para demoVocabA_stable (.root toks o0) ht level o hpp hG hi,
    justifyOpts_bridge_para demoVocabA_stable (by decide) (by decide) hspT (.root toks o0) ht width o
      hpp hG (by rw [(default_seps o hl hp).1]; decide),
    wrapOpts_bridge_para demoVocabA_stable (by decide) (by decide) (by decide) hspT (.root toks o0)
      ht width o hpp hG (by rw [(default_seps o hl hp).1]; decide)⟩

/-- the look-ahead is really exercised: "a\n\n\nb" has the paragraphs "a\n" and "b" on both
levels -/
example : (paraCallsOf ([[0x61], [0x0A], [0x0A], [0x0A], [0x62]] : List (List Int))
      (({} : Options (List Int)).withDefaults cxB)).map (·.2.1) = [[[0x61], [0x0A]], [[0x62]]] ∧
    (paraCallsOf ([0x61, 0x0A, 0x0A, 0x0A, 0x62] : List Int)
      (({} : Options Int).withDefaults cxA)).map (·.2.1) = [[0x61, 0x0A], [0x62]] := by
  decide +kernel

end BridgeEditorParas
end RosedVerif
