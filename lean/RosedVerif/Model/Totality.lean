/-
Totality of the model: for well-formed contexts (`Ctx.Sane`) the operations return normally
(`∃ r, f … = .ok r`): no modelled Go panic is reachable and every fuelled loop terminates
within its fuel.
-/
import RosedVerif.Model.OptionsLemmas
import RosedVerif.Model.JustifyLemmas
import RosedVerif.Model.PosLemmas
import RosedVerif.Model.AppendWord
namespace RosedVerif
set_option linter.unusedSectionVars false

/-- a well-formed context: the cluster ends of every string partition it, and every atom
occupies at least one byte -/
structure Ctx.Sane {α : Type} (cx : Ctx α) : Prop where
  /-- boundaries partition the atoms -/
  part : ∀ s, Part (cx.ends s) s.length
  blen : ∀ a, 0 < cx.blen a

/-- `Ctx.WF` (the position lemmas) and `Ctx.Sane` (the totality lemmas) are one notion -/
theorem Ctx.Sane.wf {α : Type} {cx : Ctx α} (hs : cx.Sane) : cx.WF := ⟨hs.part, hs.blen⟩

theorem Ctx.WF.sane {α : Type} {cx : Ctx α} (h : cx.WF) : cx.Sane := ⟨h.1, h.2⟩

theorem getD_eq_getElem (e : List Nat) (i : Nat) (h : i < e.length) : e.getD i 0 = e[i] := by
  simp only [List.getD_eq_getElem?_getD, List.getElem?_eq_getElem h, Option.getD_some]

/-- `x` returns normally: no modelled panic, no exhausted fuel -/
abbrev Total {β : Type} (x : R β) : Prop := ∃ r, x = .ok r

theorem ok_of_eq {β : Type} {x : R β} {r : β} (h : x = .ok r) : ∃ r, x = .ok r := ⟨r, h⟩

theorem ok_bind {β γ : Type} (a : β) (f : β → R γ) : ((Except.ok a : R β) >>= f) = f a := rfl

/-- the continuation may use what is known of the value from `x = .ok a` -/
theorem bind_total {β γ : Type} {x : R β} {f : β → R γ}
    (hx : Total x) (hf : ∀ a, x = .ok a → Total (f a)) : Total (x >>= f) := by
  obtain ⟨a, ha⟩ := hx
  rw [ha]
  exact hf a ha

/-- cheaper than `split` when the branches are large -/
theorem ite_total {β : Type} {c : Prop} [Decidable c] {x y : R β}
    (hx : c → Total x) (hy : ¬c → Total y) : Total (if c then x else y) := by
  split
  · exact hx ‹_›
  · exact hy ‹_›

/-- `let a ← if c then x else y; f a`, as `do`-notation lays it out: the continuation is
repeated in both branches -/
theorem ite_bind_total {β γ : Type} {c : Prop} [Decidable c] {x y : R β} {f : β → R γ}
    (hx : c → Total x) (hy : ¬c → Total y) (hf : ∀ a, Total (f a)) :
    Total (if c then x >>= f else y >>= f) :=
  ite_total (fun h => bind_total (hx h) fun a _ => hf a) (fun h => bind_total (hy h) fun a _ => hf a)

theorem mapM_total {β γ : Type} (f : β → R γ) :
    ∀ (l : List β), (∀ x ∈ l, Total (f x)) → Total (l.mapM f)
  | [], _ => ⟨[], List.mapM_nil⟩
  | x :: l, h => by
    rw [List.mapM_cons]
    refine bind_total (h x List.mem_cons_self) (fun a _ => ?_)
    exact bind_total (mapM_total f l (fun y hy => h y (List.mem_cons_of_mem _ hy))) (fun _ _ => ⟨_, rfl⟩)

namespace Part
variable {e : List Nat} {n : Nat}

theorem getElem_lt (h : Part e n) {i j : Nat} (hij : i < j) (hj : j < e.length) :
    e[i]'(by omega) < e[j] :=
  (List.pairwise_iff_getElem.1 h.sorted) i j (by omega) hj hij

theorem getElem_pos (h : Part e n) {i : Nat} (hi : i < e.length) : 0 < e[i] ∧ e[i] ≤ n :=
  h.pos _ (List.getElem_mem hi)

theorem succ_le_getElem (h : Part e n) : ∀ (i : Nat) (hi : i < e.length), i + 1 ≤ e[i]
  | 0, hi => (h.getElem_pos hi).1
  | i + 1, hi => by
    have := succ_le_getElem h i (by omega)
    have h2 : e[i] < e[i + 1] := h.getElem_lt (Nat.lt_succ_self i) hi
    omega

theorem eq_nil_iff (h : Part e n) : e = [] ↔ n = 0 := by
  constructor
  · intro he
    by_cases hn : n = 0
    · exact hn
    · have := h.last hn
      rw [he] at this
      simp at this
  · intro hn
    have := h.length_le
    exact List.eq_nil_of_length_eq_zero (by omega)

theorem length_eq_zero_iff (h : Part e n) : e.length = 0 ↔ n = 0 := by
  rw [← h.eq_nil_iff]
  exact List.length_eq_zero_iff

theorem getElem_last (h : Part e n) (hl : 0 < e.length) : e[e.length - 1] = n := by
  have hn : n ≠ 0 := fun h0 => by
    have := h.length_eq_zero_iff.2 h0
    omega
  have := h.last hn
  rw [List.getLast?_eq_getElem?] at this
  rw [List.getElem?_eq_getElem (by omega)] at this
  exact Option.some.inj this

theorem getD_le_getD (h : Part e n) {i j : Nat} (hij : i ≤ j) (hj : j < e.length) :
    e.getD i 0 ≤ e.getD j 0 := by
  rw [getD_eq_getElem e i (by omega), getD_eq_getElem e j hj]
  rcases Nat.lt_or_eq_of_le hij with h1 | h1
  · exact Nat.le_of_lt (h.getElem_lt h1 hj)
  · subst h1; exact Nat.le_refl _

theorem span (h : Part e n) {i : Nat} (hi : i < e.length) :
    (clusterSpan e i).1 < (clusterSpan e i).2 ∧ (clusterSpan e i).2 ≤ n := by
  unfold clusterSpan
  simp only
  rw [getD_eq_getElem e i hi]
  have hp := h.getElem_pos hi
  refine ⟨?_, hp.2⟩
  split
  · rw [getD_eq_getElem e (i - 1) (by omega)]
    exact h.getElem_lt (by omega) hi
  · exact hp.1

end Part

section gem
variable {α : Type} [DecidableEq α] {cx : Ctx α}

theorem sliceRunes_length (s : List α) (a b : Nat) (hb : b ≤ s.length) :
    (sliceRunes s a b).length = b - a := by
  unfold sliceRunes
  simp only [List.length_take, List.length_drop]
  omega

theorem sliceRunes_length_le (s : List α) (a b : Nat) : (sliceRunes s a b).length ≤ s.length := by
  unfold sliceRunes
  simp only [List.length_take, List.length_drop]
  omega

theorem sliceRunes_ne_nil (s : List α) (a b : Nat) (hab : a < b) (hb : b ≤ s.length) :
    sliceRunes s a b ≠ [] := by
  intro h
  have := sliceRunes_length s a b hb
  rw [h] at this
  simp only [List.length_nil] at this
  omega

theorem gLen_le (hs : cx.Sane) (s : List α) : gLen cx s ≤ s.length := (hs.part s).length_le

theorem gLen_eq_zero_iff (hs : cx.Sane) (s : List α) : gLen cx s = 0 ↔ s = [] := by
  unfold gLen
  rw [(hs.part s).length_eq_zero_iff]
  exact List.length_eq_zero_iff

theorem gLen_nil (hs : cx.Sane) : gLen cx ([] : List α) = 0 := (gLen_eq_zero_iff hs []).2 rfl

theorem gLen_pos_iff (hs : cx.Sane) (s : List α) : 0 < gLen cx s ↔ s ≠ [] := by
  rw [Nat.pos_iff_ne_zero, ne_eq, gLen_eq_zero_iff hs]

theorem gCharAt_eq (s : List α) (i : Int) (h0 : 0 ≤ i) (h1 : i < gLen cx s) :
    gCharAt cx s i = .ok (sliceRunes s (clusterSpan (cx.ends s) i.toNat).1
      (clusterSpan (cx.ends s) i.toNat).2) := by
  unfold gCharAt
  unfold gLen at h1
  simp only
  rw [if_neg (by omega)]
  rfl

/-- `CharAt` does not panic for `0 ≤ i < Len`, and the cluster is non-empty -/
theorem gCharAt_ok (hs : cx.Sane) (s : List α) (i : Int) (h0 : 0 ≤ i) (h1 : i < gLen cx s) :
    ∃ r, gCharAt cx s i = .ok r ∧ r ≠ [] := by
  refine ⟨_, gCharAt_eq s i h0 h1, ?_⟩
  have hi : i.toNat < (cx.ends s).length := by unfold gLen at h1; omega
  have := (hs.part s).span hi
  exact sliceRunes_ne_nil s _ _ this.1 this.2

theorem gSetCharAt_eq (s : List α) (i : Int) (r : List α) (hr : r ≠ []) (h0 : 0 ≤ i)
    (h1 : i < gLen cx s) :
    gSetCharAt cx s i r = .ok (s.take (clusterSpan (cx.ends s) i.toNat).1 ++ r ++
      s.drop (clusterSpan (cx.ends s) i.toNat).2) := by
  unfold gSetCharAt
  unfold gLen at h1
  have : r.isEmpty = false := by cases r <;> simp_all
  simp only [this]
  rw [if_neg (by simp), if_neg (by omega)]
  rfl

/-- `SetCharAt` does not panic for `0 ≤ i < Len` and a non-empty replacement -/
theorem gSetCharAt_ok (s : List α) (i : Int) (r : List α) (hr : r ≠ []) (h0 : 0 ≤ i)
    (h1 : i < gLen cx s) : ∃ t, gSetCharAt cx s i r = .ok t :=
  ⟨_, gSetCharAt_eq s i r hr h0 h1⟩

/-- replacing one cluster by a single atom never lengthens the text -/
theorem gSetCharAt_length_le (hs : cx.Sane) (s : List α) (i : Int) (x : α) (h0 : 0 ≤ i)
    (h1 : i < gLen cx s) (t : List α) (h : gSetCharAt cx s i [x] = .ok t) :
    t.length ≤ s.length := by
  rw [gSetCharAt_eq s i [x] (by simp) h0 h1] at h
  cases h
  have hi : i.toNat < (cx.ends s).length := by unfold gLen at h1; omega
  have := (hs.part s).span hi
  simp only [List.length_append, List.length_take, List.length_drop, List.length_cons,
    List.length_nil]
  omega

/-- `Sub` returns a contiguous slice of `s` -/
theorem gSub_slice (hs : cx.Sane) (s : List α) (st en : Int) :
    ∃ a b, a ≤ b ∧ b ≤ s.length ∧ gSub cx s st en = (s.drop a).take (b - a) := by
  unfold gSub
  simp only
  have hb := rangeToIndexes_bounds (cx.ends s).length st en (by omega)
  generalize rangeToIndexes (cx.ends s).length st en = p at hb
  obtain ⟨x, y⟩ := p
  simp only at hb ⊢
  split
  · exact ⟨0, 0, Nat.le_refl _, Nat.zero_le _, by simp⟩
  · rename_i hne
    have hne : x ≠ y := by simpa using hne
    have hy : y.toNat - 1 < (cx.ends s).length := by omega
    refine ⟨_, _, ?_, ?_, rfl⟩
    · split
      · exact (hs.part s).getD_le_getD (by omega) hy
      · exact Nat.zero_le _
    · rw [getD_eq_getElem _ _ hy]
      exact ((hs.part s).getElem_pos hy).2

theorem gSub_length_le (s : List α) (st en : Int) : (gSub cx s st en).length ≤ s.length := by
  unfold gSub
  simp only
  split
  · simp
  · exact sliceRunes_length_le _ _ _

/-- cutting `k ≥ 1` leading clusters off a word makes it strictly shorter -/
theorem gSub_tail_length_lt (hs : cx.Sane) (w : List α) (k : Int) (h1 : 1 ≤ k)
    (h2 : k < gLen cx w) : (gSub cx w k (gLen cx w)).length < w.length := by
  unfold gSub
  unfold gLen at *
  simp only [rangeToIndexes_id (cx.ends w).length k (cx.ends w).length (by omega) (by omega)
    (Int.le_refl _)]
  rw [if_neg (by simp; omega), if_pos (by omega)]
  have hk : k.toNat - 1 < (cx.ends w).length := by omega
  have hl : ((cx.ends w).length : Int).toNat - 1 = (cx.ends w).length - 1 := by omega
  rw [hl, getD_eq_getElem _ _ hk, getD_eq_getElem _ _ (by omega),
    (hs.part w).getElem_last (by omega)]
  rw [sliceRunes_length _ _ _ (Nat.le_refl _)]
  have := (hs.part w).getElem_pos hk
  omega

end gem

section manip
variable {α : Type} [DecidableEq α] {cx : Ctx α}

/-- the cluster loop of CollapseSpace terminates within `text.length - i + 1` steps: the index
advances and replacing a cluster by the single atom `cx.sp` never lengthens the text -/
theorem setSpacesLoop_total (hs : cx.Sane) : ∀ (fuel : Nat) (text : List α) (i : Nat),
    0 < fuel → text.length + 1 ≤ fuel + i → ∃ r, setSpacesLoop cx fuel text i = .ok r
  | 0, _, _, h, _ => absurd h (by omega)
  | fuel + 1, text, i, _, h => by
    rw [setSpacesLoop]
    split
    · rename_i hi
      have hle := gLen_le hs text
      obtain ⟨ch, hch, hne⟩ := gCharAt_ok hs text (i : Int) (by omega) (by omega)
      rw [hch, ok_bind]
      cases ch with
      | nil => exact absurd rfl hne
      | cons c t =>
        simp only
        split
        · refine bind_total (gSetCharAt_ok text i [cx.sp] (by simp) (by omega) (by omega)) ?_
          intro text' ht
          have hl := gSetCharAt_length_le hs text i cx.sp (by omega) (by omega) text' ht
          exact setSpacesLoop_total hs fuel text' (i + 1) (by omega) (by omega)
        · exact setSpacesLoop_total hs fuel text (i + 1) (by omega) (by omega)
    · exact ⟨_, rfl⟩

theorem collapseSpace_total (hs : cx.Sane) (text sep : List α) :
    ∃ r, collapseSpace cx text sep = .ok r := by
  unfold collapseSpace
  simp only
  exact bind_total (setSpacesLoop_total hs _ _ 0 (by omega) (by omega)) (fun _ _ => ⟨_, rfl⟩)

/-- Each round either uses up the word, shortens it, or keeps it and empties a non-empty current
line: `2 * curWord.length + [curLine non-empty]` decreases. -/
theorem appendWord_total' (hs : cx.Sane) (width : Int) (hw : 2 ≤ width) :
    ∀ (fuel : Nat) (lines : List (List α)) (curWord curLine : List α),
      2 * curWord.length + (if gLen cx curLine = 0 then 0 else 1) + 1 ≤ fuel →
      ∃ r, appendWord cx width fuel lines curWord curLine = .ok r := by
  intro fuel
  induction fuel with
  | zero => intro _ _ _ h; omega
  | succ fuel ih =>
    intro lines curWord curLine h
    have hnil : gLen cx ([] : List α) = 0 := gLen_nil hs
    have hle := gLen_le hs curWord
    have hdone : ∀ l, 2 * ([] : List α).length + (if gLen cx l = 0 then 0 else 1) + 1 ≤ 2 := by
      intro l; rw [List.length_nil]; split <;> omega
    rw [appendWord_succ hw]
    by_cases hword : gLen cx curWord = 0
    · rw [if_pos hword]; exact ⟨_, rfl⟩
    · rw [if_neg hword]
      have hf : 2 ≤ fuel := by omega
      by_cases hz : gLen cx curLine = 0
      · rw [if_pos hz] at h ⊢
        split
        · exact ih _ _ _ (Nat.le_trans (hdone _) hf)
        · split
          · have := gSub_tail_length_lt hs curWord (width - 1) (by omega) (by omega)
            exact ih _ _ _ (by rw [if_pos hnil]; omega)
          · exact ih _ _ _ (Nat.le_trans (hdone _) hf)
      · rw [if_neg hz] at h ⊢
        split
        · exact ih _ _ _ (Nat.le_trans (hdone _) hf)
        · split
          · exact ih _ _ _ (by rw [if_pos hnil]; omega)
          · exact ih _ _ _ (Nat.le_trans (hdone _) hf)

/-- `appendWordToWrappedLine` terminates and never hits its `width < 2` panic -/
theorem appendWord_total (hs : cx.Sane) (width : Int) (hw : 2 ≤ width) (fuel : Nat)
    (lines : List (List α)) (curWord curLine : List α) (hf : 2 * curWord.length + 2 ≤ fuel) :
    ∃ r, appendWord cx width fuel lines curWord curLine = .ok r := by
  refine appendWord_total' hs width hw fuel lines curWord curLine ?_
  split <;> omega

theorem wrapLoop_total (hs : cx.Sane) (width : Int) (hw : 2 ≤ width) :
    ∀ (cls : List (List α)), (∀ c ∈ cls, c ≠ []) → ∀ (lines : List (List α)) (curWord curLine : List α),
      ∃ r, wrapLoop cx width cls lines curWord curLine = .ok r
  | [], _, _, _, _ => ⟨_, rfl⟩
  | [] :: _, h, _, _, _ => absurd rfl (h [] (by simp))
  | (c :: t) :: rest, h, lines, curWord, curLine => by
    have ih := wrapLoop_total hs width hw rest (fun x hx => h x (by simp [hx]))
    rw [wrapLoop]
    simp only
    split
    · refine bind_total (appendWord_total hs width hw _ _ _ _ (Nat.le_refl _)) ?_
      rintro ⟨l, cl⟩ _
      exact ih _ _ _
    · exact ih _ _ _

theorem wrapLines_total (hs : cx.Sane) (text : List α) (w : Int) (sep : List α) :
    ∃ r, wrapLines cx text w sep = .ok r := by
  unfold wrapLines
  simp only
  have hw : (2 : Int) ≤ (if w < 2 then 2 else w) := by omega
  generalize (if w < 2 then 2 else w) = w' at hw
  refine bind_total (collapseSpace_total hs text sep) fun t _ =>
    ite_total (fun _ => ⟨_, rfl⟩) fun _ => ?_
  refine bind_total (wrapLoop_total hs w' hw _ (clusters_nonempty hs.wf t) _ _ _) ?_
  rintro ⟨lines, cw, cl⟩ _
  exact ite_bind_total (fun _ => appendWord_total hs w' hw _ _ _ _ (Nat.le_refl _))
    (fun _ => ⟨_, rfl⟩) (fun _ => ⟨_, rfl⟩)

/-- `JustifyLine` is total: the space-distribution loop never indexes out of range -/
theorem justifyLine_total (hs : cx.Sane) (text : List α) (w : Int) :
    ∃ r, justifyLine cx text w = .ok r := by
  unfold justifyLine
  refine bind_total (collapseSpace_total hs _ _) (fun t _ => ?_)
  simp only
  split
  · exact ⟨_, rfl⟩
  · split
    · exact ⟨_, rfl⟩
    · obtain ⟨r, hr, -⟩ := distribute_int ((splitOn t [cx.sp]).length - 1) (by omega)
        (w - gLen cx t).toNat
      exact bind_total ⟨r, hr⟩ (fun _ _ => ⟨_, rfl⟩)

/-- the running maximum of `CombineColumnBlocks` is the least bound of its start value and all
the line lengths -/
theorem foldl_maxLen_le_iff (cx : Ctx α) (b : Int) : ∀ (l : List (List α)) (m0 : Int),
    l.foldl (fun m x => if (gLen cx x : Int) > m then (gLen cx x : Int) else m) m0 ≤ b ↔
      m0 ≤ b ∧ ∀ x ∈ l, (gLen cx x : Int) ≤ b
  | [], m0 => by simp
  | y :: l, m0 => by
    rw [List.foldl_cons, foldl_maxLen_le_iff cx b l, List.forall_mem_cons, ← and_assoc]
    refine and_congr_left' ?_
    omega

theorem repeatStr_total (s : List α) (n : Int) (h : 0 ≤ n) : ∃ r, repeatStr s n = .ok r := by
  unfold repeatStr
  rw [if_neg (by omega)]
  exact ⟨_, rfl⟩

/-- `CombineColumnBlocks` never panics for a non-negative gap -/
theorem combineColumns_total (cx : Ctx α) (left right : List (List α)) (gap : Int) (hg : 0 ≤ gap) :
    ∃ r, combineColumns cx left right gap = .ok r := by
  unfold combineColumns
  split
  · exact ⟨_, rfl⟩
  · simp only
    apply mapM_total
    intro i _
    have hm := (foldl_maxLen_le_iff cx _ left 0).1 (Int.le_refl _)
    refine bind_total (repeatStr_total _ _ ?_) (fun _ _ => ⟨_, rfl⟩)
    split
    · rename_i hi
      have hmem : left.getD i [] ∈ left := by
        rw [List.getD_eq_getElem?_getD, List.getElem?_eq_getElem hi, Option.getD_some]
        exact List.getElem_mem hi
      have := hm.2 _ hmem
      omega
    · omega

theorem mapM_ok_or {β γ : Type} (f : β → R γ) (e : Err) :
    ∀ (l : List β), (∀ x ∈ l, (∃ r, f x = .ok r) ∨ f x = .error e) →
      (∃ r, l.mapM f = .ok r) ∨ l.mapM f = .error e
  | [], _ => .inl ⟨[], by simp only [List.mapM_nil]; rfl⟩
  | x :: l, h => by
    rcases h x (by simp) with ⟨a, ha⟩ | ha
    · rcases mapM_ok_or f e l (fun y hy => h y (by simp [hy])) with ⟨as, has⟩ | has
      · exact .inl ⟨a :: as, by simp only [List.mapM_cons, ha, has]; rfl⟩
      · exact .inr (by simp only [List.mapM_cons, ha, has]; rfl)
    · exact .inr (by simp only [List.mapM_cons, ha]; rfl)

/-- whatever the gap, the only reachable panic of `CombineColumnBlocks` is `strings.Repeat`'s -/
theorem combineColumns_ok_or (cx : Ctx α) (left right : List (List α)) (gap : Int) :
    (∃ r, combineColumns cx left right gap = .ok r) ∨
      combineColumns cx left right gap = .error .repeatNeg := by
  unfold combineColumns
  split
  · exact .inl ⟨_, rfl⟩
  · simp only
    apply mapM_ok_or
    intro i _
    generalize (List.foldl (fun m l => if (gLen cx l : Int) > m then (gLen cx l : Int) else m) 0 left
      + gap - if i < left.length then (gLen cx (left.getD i []) : Int) else 0) = k
    unfold repeatStr
    split
    · exact .inr rfl
    · exact .inl ⟨_, rfl⟩

end manip

section editor
variable {α : Type} [DecidableEq α] {cx : Ctx α}

theorem byteLen_nil_t (cx : Ctx α) : byteLen cx ([] : List α) = 0 := rfl

theorem byteLen_append_t (cx : Ctx α) : ∀ (a b : List α),
    byteLen cx (a ++ b) = byteLen cx a + byteLen cx b :=
  byteLen_append cx

theorem byteOff_zero (cx : Ctx α) (s : List α) : byteOff cx s 0 = 0 := rfl

theorem byteOff_cons_succ (cx : Ctx α) (c : α) (t : List α) (k : Nat) :
    byteOff cx (c :: t) (k + 1) = cx.blen c + byteOff cx t k :=
  byteLen_cons cx c _

theorem byteOff_length (cx : Ctx α) (s : List α) : byteOff cx s s.length = byteLen cx s := by
  rw [byteOff, List.take_length]

theorem byteOff_append (cx : Ctx α) (a b : List α) : byteOff cx (a ++ b) a.length = byteLen cx a := by
  rw [byteOff, List.take_left]

theorem byteOff_mono (cx : Ctx α) (s : List α) {i j : Nat} (h : i ≤ j) :
    byteOff cx s i ≤ byteOff cx s j := by
  obtain ⟨d, rfl⟩ := Nat.exists_eq_add_of_le h
  rw [byteOff, byteOff, List.take_add, byteLen_append]
  omega

theorem byteOff_le_byteLen (cx : Ctx α) (s : List α) (k : Nat) : byteOff cx s k ≤ byteLen cx s := by
  have := byteLen_append cx (s.take k) (s.drop k)
  rw [List.take_append_drop] at this
  rw [byteOff]
  omega

theorem atomsForBytes_byteLen_take_t (hs : cx.Sane) (s : List α) (k : Nat) (hk : k ≤ s.length) :
    atomsForBytes cx s (byteLen cx (s.take k)) = some k := by
  have h := atomsForBytes_prefix (s.take k) (s.drop k) fun a _ => hs.blen a
  rwa [List.take_append_drop, List.length_take, Nat.min_eq_left hk] at h

/-- byte offsets computed from atom positions are valid rune boundaries -/
theorem atomsForBytes_byteOff (hs : cx.Sane) (s : List α) (k : Nat) :
    atomsForBytes cx s (byteOff cx s k) = some (min k s.length) := by
  rw [byteOff, List.take_eq_take_min]
  exact atomsForBytes_byteLen_take_t hs s _ (Nat.min_le_right _ _)

/-- a sub-editor cut at atom positions of its parent -/
def Editor.CutAtAtoms (cx : Ctx α) (ed r : Editor α) : Prop :=
  ∃ t i j, r = .sub t ed.opts ed (byteOff cx ed.text i : Nat) (byteOff cx ed.text j : Nat)

theorem Editor.subEd_byteOff (hs : cx.Sane) (ed : Editor α) {i j : Nat} (hij : i ≤ j) :
    ed.subEd cx (byteOff cx ed.text i : Nat) (byteOff cx ed.text j : Nat) =
      .ok (.sub ((ed.text.drop i).take (j - i)) ed.opts ed (byteOff cx ed.text i : Nat)
        (byteOff cx ed.text j : Nat)) := by
  have h := Editor.subEd_parts ed (fun a _ => hs.blen a) (take_append_mid_append_drop ed.text hij).symm
  rwa [← take_eq_take_append _ hij] at h

/-- slicing between two atom-position offsets never panics; the positions themselves need not be
ordered or in range, only their offsets: positions in the wrong order then have the same offset -/
theorem subEd_byteOff' (hs : cx.Sane) (ed : Editor α) (i j : Nat)
    (hij : byteOff cx ed.text i ≤ byteOff cx ed.text j) :
    ∃ r, ed.subEd cx (byteOff cx ed.text i : Nat) (byteOff cx ed.text j : Nat) = .ok r ∧
      ed.CutAtAtoms cx r := by
  rcases Nat.le_total i j with h | h
  · exact ⟨_, Editor.subEd_byteOff hs ed h, _, i, j, rfl⟩
  · rw [Nat.le_antisymm hij (byteOff_mono cx _ h)]
    exact ⟨_, Editor.subEd_byteOff hs ed (Nat.le_refl j), _, j, j, rfl⟩

/-- `Chars` is total, and the sub-editor is cut at atom positions: it is cut between the parts
`before ++ selected ++ after` of the text -/
theorem chars_total' (hs : cx.Sane) (ed : Editor α) (st en : Int) :
    ∃ r, ed.chars cx st en = .ok r ∧ ed.CutAtAtoms cx r := by
  rcases hsel : Spec.selectClusters cx ed.text st en with ⟨bf, sel, af⟩
  obtain ⟨h, hcat⟩ := Editor.chars_eq_spec' hs.wf ed st en bf sel af hsel
  refine ⟨_, h, sel, bf.length, (bf ++ sel).length, ?_⟩
  rw [← hcat, byteOff_append, List.append_assoc, byteOff_append]

theorem chars_total (hs : cx.Sane) (ed : Editor α) (st en : Int) :
    ∃ r, ed.chars cx st en = .ok r :=
  let ⟨r, h, _⟩ := chars_total' hs ed st en; ⟨r, h⟩

theorem insert_total (hs : cx.Sane) (ed : Editor α) (pos : Int) (t : List α) :
    ∃ r, ed.insert cx pos t = .ok r :=
  ⟨_, Editor.insert_eq_spec hs.wf.1 ed (hs.wf.pos _) pos t⟩

theorem delete_total (hs : cx.Sane) (ed : Editor α) (st en : Int) :
    ∃ r, ed.delete cx st en = .ok r :=
  ⟨_, Editor.delete_eq_spec hs.wf ed st en⟩

/-- unlike the exact-value theorem `Editor.overtype_eq_spec` this needs no bound on the lengths -/
theorem overtype_total (hs : cx.Sane) (ed : Editor α) (pos : Int) (t : List α) :
    ∃ r, ed.overtype cx pos t = .ok r := by
  unfold Editor.overtype
  simp only
  refine bind_total (chars_total hs ed 0 _) (fun _ _ => ?_)
  exact bind_total (chars_total hs ed _ _) (fun _ _ => ⟨_, rfl⟩)

theorem spliceBytes_byteOff (hs : cx.Sane) (s : List α) (i j : Nat) (t : List α) :
    ∃ r, spliceBytes cx s (byteOff cx s i : Nat) (byteOff cx s j : Nat) t = .ok r := by
  unfold spliceBytes
  simp only
  have := byteOff_le_byteLen cx s i
  have := byteOff_le_byteLen cx s j
  rw [if_neg (by omega)]
  rw [Int.toNat_natCast, Int.toNat_natCast, atomsForBytes_byteOff hs, atomsForBytes_byteOff hs]
  exact ⟨_, rfl⟩

/-- committing a sub-editor that was cut at atom positions is total, whatever its text and
options have become in the meantime -/
theorem commit_total_of_cut (hs : cx.Sane) (ed r : Editor α) (h : ed.CutAtAtoms cx r)
    (t' : List α) (o' : Options α) : ∃ r', ((r.withText t').withOpts o').commit cx = .ok r' := by
  obtain ⟨t, i, j, rfl⟩ := h
  simp only [Editor.withText, Editor.withOpts, Editor.commit]
  exact bind_total (spliceBytes_byteOff hs ed.text i j t') (fun _ _ => ⟨_, rfl⟩)

theorem Editor.CutAtAtoms.commit_total (hs : cx.Sane) {ed r : Editor α} (hc : ed.CutAtAtoms cx r)
    (t' : List α) :
    (∃ r', r.commit cx = .ok r') ∧ ∃ r', (r.withText t').commit cx = .ok r' := by
  have h1 := commit_total_of_cut hs ed r hc r.text r.opts
  have h2 := commit_total_of_cut hs ed r hc t' r.opts
  -- once `r` is a `.sub`, `(r.withText r.text).withOpts r.opts` computes to `r`
  obtain ⟨t, i, j, rfl⟩ := hc
  exact ⟨h1, h2⟩

theorem chars_commit_total (hs : cx.Sane) (ed r : Editor α) (st en : Int)
    (h : ed.chars cx st en = .ok r) (t' : List α) :
    (∃ r', r.commit cx = .ok r') ∧ ∃ r', (r.withText t').commit cx = .ok r' := by
  obtain ⟨r0, h0, hc⟩ := chars_total' hs ed st en
  cases h.symm.trans h0
  exact hc.commit_total hs t'

theorem skipSeps_ge (s sep : List α) : ∀ (k pos r : Nat), skipSeps s sep k pos = some r → pos ≤ r
  | 0, pos, r, h => by simp only [skipSeps, Option.some.injEq] at h; omega
  | k + 1, pos, r, h => by
    rw [skipSeps] at h
    split at h
    · exact absurd h (by simp)
    · have := skipSeps_ge s sep k _ r h
      omega

/-- `Lines` is total, and the sub-editor is cut at atom positions -/
theorem linesSel_total' (hs : cx.Sane) (ed : Editor α) (st en : Int) :
    ∃ r, ed.linesSel cx st en = .ok r ∧ ed.CutAtAtoms cx r := by
  unfold Editor.linesSel
  have h00 : ∃ r, ed.subEd cx 0 0 = .ok r ∧ ed.CutAtAtoms cx r :=
    subEd_byteOff' hs ed 0 0 (Nat.le_refl _)
  have htt : ∃ r, ed.subEd cx (byteLen cx ed.text : Nat) (byteLen cx ed.text : Nat) = .ok r ∧
      ed.CutAtAtoms cx r := by
    rw [← byteOff_length]
    exact subEd_byteOff' hs ed _ _ (Nat.le_refl _)
  split
  · exact h00
  · simp only
    generalize rangeToIndexes _ _ _ = p
    split
    · exact htt
    · split
      · exact htt
      · split
        · rw [← byteOff_length]
          exact subEd_byteOff' hs ed _ _ (by rw [byteOff_length]; exact byteOff_le_byteLen _ _ _)
        · rename_i aStart _ aEnd hEnd
          exact subEd_byteOff' hs ed _ _ (byteOff_mono cx _ (skipSeps_ge _ _ _ _ _ hEnd))

theorem linesSel_total (hs : cx.Sane) (ed : Editor α) (st en : Int) :
    ∃ r, ed.linesSel cx st en = .ok r :=
  let ⟨r, h, _⟩ := linesSel_total' hs ed st en; ⟨r, h⟩

theorem linesSel_commit_total (hs : cx.Sane) (ed r : Editor α) (st en : Int)
    (h : ed.linesSel cx st en = .ok r) (t' : List α) :
    (∃ r', r.commit cx = .ok r') ∧ ∃ r', (r.withText t').commit cx = .ok r' := by
  obtain ⟨r0, h0, hc⟩ := linesSel_total' hs ed st en
  cases h.symm.trans h0
  exact hc.commit_total hs t'

theorem collapseSpaceOpts_total (hs : cx.Sane) (ed : Editor α) (o : Options α) :
    ∃ r, ed.collapseSpaceOpts cx o = .ok r := by
  unfold Editor.collapseSpaceOpts
  exact bind_total (collapseSpace_total hs _ _) (fun _ _ => ⟨_, rfl⟩)

/-- `InsertTableOpts` is total (`MakeTable` is a plain function) -/
theorem insertTableOpts_total (hs : cx.Sane) (ed : Editor α) (pos : Int)
    (data : List (List (List α))) (width : Int) (o : Options α) :
    ∃ r, ed.insertTableOpts cx pos data width o = .ok r := by
  unfold Editor.insertTableOpts
  exact insert_total hs _ _ _

end editor

section twocol
variable {α : Type} [DecidableEq α] {cx : Ctx α}

/-- the part of `InsertTwoColumnsOpts` after the column widths have been computed -/
def twoColBody (cx : Ctx α) (ed : Editor α) (pos : Int) (leftText rightText : List α)
    (msb leftW rightW : Int) (o : Options α) : R (Editor α) := do
  let o := o.withDefaults cx
  let lb ← wrapLines cx leftText leftW o.lineSep
  let rb ← wrapLines cx rightText rightW o.lineSep
  let maxLeft : Int := lb.foldl (fun m l => if (gLen cx l : Int) > m then gLen cx l else m) 0
  let spaceBetween := msb + (leftW - maxLeft)
  let combined ← combineColumns cx lb rb spaceBetween
  ed.insert cx pos (Block.mk combined o.lineSep (!o.noTrailing)).join

/-- the explicit panic (`rightW < 2`) is unreachable, whatever the sign of
`minSpaceBetween`: `avail = width' - minSpaceBetween ≥ 4`, so both column widths are at least 2
and the operation continues with its main body -/
theorem insertTwoColumnsOpts_eq (cx : Ctx α) (ed : Editor α)
    (pos : Int) (leftText rightText : List α) (msb width : Int) (pct : Pct) (o : Options α)
    (hne : ¬(leftText.isEmpty ∧ rightText.isEmpty)) :
    ∃ leftW rightW : Int, 2 ≤ leftW ∧ 2 ≤ rightW ∧
      ed.insertTwoColumnsOpts cx pos leftText rightText msb width pct o
        = twoColBody cx ed pos leftText rightText (if msb < 0 then 0 else msb) leftW rightW o := by
  unfold Editor.insertTwoColumnsOpts
  rw [if_neg hne]
  generalize (if pct.neg = true ∨ (pct.num == 0) = true then ((0 : Nat), (0 : Nat))
    else if pct.num > 2 ^ pct.exp then (1, 0) else (pct.num, pct.exp)) = ne
  obtain ⟨num, exp⟩ := ne
  simp only
  generalize (if msb < 0 then 0 else msb) = msb'
  have hW : msb' + 4 ≤ (if width < msb' + 2 + 2 then msb' + 2 + 2 else width) := by omega
  generalize (if width < msb' + 2 + 2 then msb' + 2 + 2 else width) = W at hW ⊢
  generalize ((mulRoundTrunc (W - msb').toNat num exp : Nat) : Int) = m
  have hL : 2 ≤ (if (if m < 2 then 2 else m) > W - msb' - 2 then W - msb' - 2
      else if m < 2 then 2 else m) ∧
      (if (if m < 2 then 2 else m) > W - msb' - 2 then W - msb' - 2
      else if m < 2 then 2 else m) ≤ W - msb' - 2 := by
    omega
  generalize (if (if m < 2 then 2 else m) > W - msb' - 2 then W - msb' - 2
      else if m < 2 then 2 else m) = L at hL ⊢
  refine ⟨L, W - msb' - L, hL.1, by omega, ?_⟩
  rw [if_neg (by omega)]
  rfl

theorem bind_ok_or {β γ : Type} {x : R β} {f : β → R γ} {e : Err}
    (hx : ∃ a, x = .ok a) (hf : ∀ a, x = .ok a → (∃ r, f a = .ok r) ∨ f a = .error e) :
    (∃ r, (x >>= f) = .ok r) ∨ (x >>= f) = .error e := by
  obtain ⟨a, ha⟩ := hx
  rw [ha, ok_bind]
  exact hf a ha

/-- in a sane context the only panic `InsertTwoColumnsOpts` can still reach is `strings.Repeat` with a negative
count inside CombineColumnBlocks -/
theorem twoColBody_ok_or (hs : cx.Sane) (ed : Editor α) (pos : Int) (leftText rightText : List α)
    (msb leftW rightW : Int) (o : Options α) :
    (∃ r, twoColBody cx ed pos leftText rightText msb leftW rightW o = .ok r) ∨
      twoColBody cx ed pos leftText rightText msb leftW rightW o = .error .repeatNeg := by
  unfold twoColBody
  simp only
  refine bind_ok_or (wrapLines_total hs _ _ _) (fun lb _ => ?_)
  refine bind_ok_or (wrapLines_total hs _ _ _) (fun rb _ => ?_)
  rcases combineColumns_ok_or cx lb rb
    (msb + (leftW - List.foldl (fun m l => if (gLen cx l : Int) > m then (gLen cx l : Int) else m) 0 lb))
    with ⟨c, hc⟩ | hc
  · rw [hc, ok_bind]
    exact .inl (insert_total hs _ _ _)
  · rw [hc]
    exact .inr rfl

theorem insertTwoColumnsOpts_ok_or (hs : cx.Sane) (ed : Editor α)
    (pos : Int) (leftText rightText : List α) (msb width : Int) (pct : Pct) (o : Options α) :
    (∃ r, ed.insertTwoColumnsOpts cx pos leftText rightText msb width pct o = .ok r) ∨
      ed.insertTwoColumnsOpts cx pos leftText rightText msb width pct o = .error .repeatNeg := by
  by_cases hne : leftText.isEmpty ∧ rightText.isEmpty
  · unfold Editor.insertTwoColumnsOpts
    rw [if_pos hne]
    exact .inl ⟨_, rfl⟩
  · obtain ⟨L, Rw, _, _, h⟩ := insertTwoColumnsOpts_eq cx ed pos leftText rightText msb width pct o hne
    rw [h]
    exact twoColBody_ok_or hs _ _ _ _ _ _ _ _

theorem insertTwoColumnsOpts_ne_explicit (hs : cx.Sane) (ed : Editor α)
    (pos : Int) (leftText rightText : List α) (msb width : Int) (pct : Pct) (o : Options α) :
    ed.insertTwoColumnsOpts cx pos leftText rightText msb width pct o ≠ .error .explicit := by
  rcases insertTwoColumnsOpts_ok_or hs ed pos leftText rightText msb width pct o with ⟨r, h⟩ | h
  · rw [h]; exact fun h => by cases h
  · rw [h]; exact fun h => by cases h

end twocol

section triv
variable {α : Type} [DecidableEq α] (cx : Ctx α)

theorem sane_of_triv (htriv : ∀ s, cx.ends s = List.range' 1 s.length)
    (hb : ∀ a, 0 < cx.blen a) : cx.Sane where
  part := fun s => by rw [htriv]; exact part_range' _
  blen := hb

end triv

/-- a sane context whose segmentation clusters a concatenation differently from its parts:
a string containing the space atom `0` is split per atom, any other string is one cluster -/
def cxBad : Ctx Nat where
  ends := fun s =>
    if s.contains 0 then List.range' 1 s.length else if s.isEmpty then [] else [s.length]
  isSpace := fun c => c == 0
  blen := fun _ => 1
  upper := id
  sp := 0
  hy := 99
  phA := 65
  nl := 10
  dIndent := [9]
  dLineSep := [10]
  dParaSep := [10, 10]
  dCharset := [43, 124, 45]

theorem cxBad_sane : cxBad.Sane where
  blen := fun _ => Nat.one_pos
  part := fun s => by
    show Part (if s.contains 0 then List.range' 1 s.length else if s.isEmpty then [] else [s.length]) _
    split
    · exact part_range' _
    · split
      · rename_i h
        have : s = [] := by simpa using h
        subst this
        exact ⟨List.Pairwise.nil, fun j hj => by simp at hj, fun h => absurd rfl h⟩
      · rename_i h
        have : s ≠ [] := by simpa using h
        have hl : 0 < s.length := List.length_pos_iff.2 this
        exact ⟨List.pairwise_singleton _ _, fun j hj => by simp at hj; omega, fun _ => rfl⟩

end RosedVerif
