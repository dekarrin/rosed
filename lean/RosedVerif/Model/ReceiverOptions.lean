/-
C17, receiver side: the Options stored on the RECEIVER of an `XOpts` operation play no role.
Every operation is text-only (`TextOnly`, OptionsLemmas), so `(ed.withOpts o').XOpts args o` is
`ed.XOpts args o` with the stored Options replaced by `o'` (`TextOnly.withOpts`); hence
`WithOptions(o).X(args)` (= `(ed.withOpts o).XOpts args o`) and `XOpts(args, o)` return the same
text and differ only in the Options stored on the result (`o` vs. the receiver's).
-/
import RosedVerif.Model.LinesLemmas
namespace RosedVerif

section
variable {α : Type} {F : Editor α → R (Editor α)}

/-- `WithOptions(o)` first or not: the same text, the same errors -/
theorem TextOnly.map_text (hF : TextOnly F) (ed : Editor α) (o : Options α) :
    (F (ed.withOpts o)).map Editor.text = (F ed).map Editor.text := by
  rw [hF.withOpts]
  cases F ed <;> simp only [Except.map, Editor.withOpts_text]

/-- putting the receiver's options back on the result of `WithOptions(o).X` gives the result of
`X`: the two differ in nothing but the stored options -/
theorem TextOnly.restore (hF : TextOnly F) (ed : Editor α) (o : Options α) :
    (F (ed.withOpts o)).map (fun r => r.withOpts ed.opts) = F ed := by
  rw [← hF.withOpts, Editor.withOpts_withOpts, Editor.withOpts_self]

end
section
variable {α : Type} [DecidableEq α] (cx : Ctx α)

/-! ## C17: `XOpts(args, o)` and `WithOptions(o).X(args)`

`X(args)` is `XOpts(args, ed.Options)`, so `WithOptions(o).X(args)` is
`(ed.withOpts o).XOpts cx args (ed.withOpts o).opts`, which is `(ed.withOpts o).XOpts cx args o`
(`Editor.withOpts_opts`).  For every operation:
* `X_withOptions`: `WithOptions(o).X(args)` is `XOpts(args, o)` with `o` stored on the result;
* `X_restore`: putting the receiver's Options back on the result of `WithOptions(o).X(args)` gives
  exactly `XOpts(args, o)`: the two results differ in nothing but the stored Options. -/

theorem applyOptsM_withOptions (ed : Editor α) (op : Nat → List α → R (List (List α))) (o : Options α) :
    (ed.withOpts o).applyOptsM cx op (ed.withOpts o).opts =
      (ed.applyOptsM cx op o).map (fun r => r.withOpts o) := by
  rw [Editor.withOpts_opts]
  exact (applyOptsM_textOnly cx op o).withOpts ed o

theorem applyOptsM_text (ed : Editor α) (op : Nat → List α → R (List (List α))) (o : Options α) :
    ((ed.withOpts o).applyOptsM cx op o).map Editor.text = (ed.applyOptsM cx op o).map Editor.text :=
  (applyOptsM_textOnly cx op o).map_text ed o

theorem applyOptsM_restore (ed : Editor α) (op : Nat → List α → R (List (List α))) (o : Options α) :
    ((ed.withOpts o).applyOptsM cx op o).map (fun r => r.withOpts ed.opts) = ed.applyOptsM cx op o :=
  (applyOptsM_textOnly cx op o).restore ed o

theorem applyOpts_withOptions (ed : Editor α) (op : Nat → List α → List (List α)) (o : Options α) :
    (ed.withOpts o).applyOpts cx op (ed.withOpts o).opts =
      (ed.applyOpts cx op o).map (fun r => r.withOpts o) := by
  rw [Editor.withOpts_opts]
  exact (applyOptsM_textOnly cx _ o).withOpts ed o

theorem applyOpts_restore (ed : Editor α) (op : Nat → List α → List (List α)) (o : Options α) :
    ((ed.withOpts o).applyOpts cx op o).map (fun r => r.withOpts ed.opts) = ed.applyOpts cx op o :=
  (applyOptsM_textOnly cx _ o).restore ed o

theorem applyParasM_withOptions (ed : Editor α) (op : Nat → List α → List α → List α → R (List (List α))) (o : Options α) :
    (ed.withOpts o).applyParasM cx op (ed.withOpts o).opts =
      (ed.applyParasM cx op o).map (fun r => r.withOpts o) := by
  rw [Editor.withOpts_opts]
  exact (applyParasM_textOnly cx op o).withOpts ed o

theorem applyParasM_restore (ed : Editor α) (op : Nat → List α → List α → List α → R (List (List α))) (o : Options α) :
    ((ed.withOpts o).applyParasM cx op o).map (fun r => r.withOpts ed.opts) = ed.applyParasM cx op o :=
  (applyParasM_textOnly cx op o).restore ed o

theorem alignOpts_withOptions (ed : Editor α) (align width : Int) (o : Options α) :
    (ed.withOpts o).alignOpts cx align width (ed.withOpts o).opts =
      (ed.alignOpts cx align width o).map (fun r => r.withOpts o) := by
  rw [Editor.withOpts_opts]
  exact (alignOpts_textOnly cx align width o).withOpts ed o

theorem alignOpts_restore (ed : Editor α) (align width : Int) (o : Options α) :
    ((ed.withOpts o).alignOpts cx align width o).map (fun r => r.withOpts ed.opts) = ed.alignOpts cx align width o :=
  (alignOpts_textOnly cx align width o).restore ed o

theorem collapseSpaceOpts_withOptions (ed : Editor α) (o : Options α) :
    (ed.withOpts o).collapseSpaceOpts cx (ed.withOpts o).opts =
      (ed.collapseSpaceOpts cx o).map (fun r => r.withOpts o) := by
  rw [Editor.withOpts_opts]
  exact (collapseSpaceOpts_textOnly cx o).withOpts ed o

theorem collapseSpaceOpts_restore (ed : Editor α) (o : Options α) :
    ((ed.withOpts o).collapseSpaceOpts cx o).map (fun r => r.withOpts ed.opts) = ed.collapseSpaceOpts cx o :=
  (collapseSpaceOpts_textOnly cx o).restore ed o

theorem indentOpts_withOptions (ed : Editor α) (level : Int) (o : Options α) :
    (ed.withOpts o).indentOpts cx level (ed.withOpts o).opts =
      (ed.indentOpts cx level o).map (fun r => r.withOpts o) := by
  rw [Editor.withOpts_opts]
  exact (indentOpts_textOnly cx level o).withOpts ed o

theorem indentOpts_restore (ed : Editor α) (level : Int) (o : Options α) :
    ((ed.withOpts o).indentOpts cx level o).map (fun r => r.withOpts ed.opts) = ed.indentOpts cx level o :=
  (indentOpts_textOnly cx level o).restore ed o

theorem wrapOpts_withOptions (ed : Editor α) (width : Int) (o : Options α) :
    (ed.withOpts o).wrapOpts cx width (ed.withOpts o).opts =
      (ed.wrapOpts cx width o).map (fun r => r.withOpts o) := by
  rw [Editor.withOpts_opts]
  exact (wrapOpts_textOnly cx width o).withOpts ed o

theorem wrapOpts_restore (ed : Editor α) (width : Int) (o : Options α) :
    ((ed.withOpts o).wrapOpts cx width o).map (fun r => r.withOpts ed.opts) = ed.wrapOpts cx width o :=
  (wrapOpts_textOnly cx width o).restore ed o

theorem justifyOpts_withOptions (ed : Editor α) (width : Int) (o : Options α) :
    (ed.withOpts o).justifyOpts cx width (ed.withOpts o).opts =
      (ed.justifyOpts cx width o).map (fun r => r.withOpts o) := by
  rw [Editor.withOpts_opts]
  exact (justifyOpts_textOnly cx width o).withOpts ed o

theorem justifyOpts_restore (ed : Editor α) (width : Int) (o : Options α) :
    ((ed.withOpts o).justifyOpts cx width o).map (fun r => r.withOpts ed.opts) = ed.justifyOpts cx width o :=
  (justifyOpts_textOnly cx width o).restore ed o

theorem insertDefTableOpts_withOptions (ed : Editor α) (pos : Int) (defs : List (List α × List α)) (width : Int) (o : Options α) :
    (ed.withOpts o).insertDefTableOpts cx pos defs width (ed.withOpts o).opts =
      (ed.insertDefTableOpts cx pos defs width o).map (fun r => r.withOpts o) := by
  rw [Editor.withOpts_opts]
  exact (insertDefTableOpts_textOnly cx pos defs width o).withOpts ed o

theorem insertDefTableOpts_restore (ed : Editor α) (pos : Int) (defs : List (List α × List α)) (width : Int) (o : Options α) :
    ((ed.withOpts o).insertDefTableOpts cx pos defs width o).map (fun r => r.withOpts ed.opts) = ed.insertDefTableOpts cx pos defs width o :=
  (insertDefTableOpts_textOnly cx pos defs width o).restore ed o

omit [DecidableEq α] in
theorem insertTableOpts_withOptions (ed : Editor α) (pos : Int) (data : List (List (List α))) (width : Int) (o : Options α) :
    (ed.withOpts o).insertTableOpts cx pos data width (ed.withOpts o).opts =
      (ed.insertTableOpts cx pos data width o).map (fun r => r.withOpts o) := by
  rw [Editor.withOpts_opts]
  exact (insertTableOpts_textOnly cx pos data width o).withOpts ed o

omit [DecidableEq α] in
theorem insertTableOpts_restore (ed : Editor α) (pos : Int) (data : List (List (List α))) (width : Int) (o : Options α) :
    ((ed.withOpts o).insertTableOpts cx pos data width o).map (fun r => r.withOpts ed.opts) = ed.insertTableOpts cx pos data width o :=
  (insertTableOpts_textOnly cx pos data width o).restore ed o

theorem insertTwoColumnsOpts_withOptions (ed : Editor α) (pos : Int) (leftText rightText : List α) (minSpaceBetween width : Int) (pct : Pct) (o : Options α) :
    (ed.withOpts o).insertTwoColumnsOpts cx pos leftText rightText minSpaceBetween width pct (ed.withOpts o).opts =
      (ed.insertTwoColumnsOpts cx pos leftText rightText minSpaceBetween width pct o).map (fun r => r.withOpts o) := by
  rw [Editor.withOpts_opts]
  exact (insertTwoColumnsOpts_textOnly cx pos leftText rightText minSpaceBetween width pct o).withOpts ed o

theorem insertTwoColumnsOpts_restore (ed : Editor α) (pos : Int) (leftText rightText : List α) (minSpaceBetween width : Int) (pct : Pct) (o : Options α) :
    ((ed.withOpts o).insertTwoColumnsOpts cx pos leftText rightText minSpaceBetween width pct o).map (fun r => r.withOpts ed.opts) = ed.insertTwoColumnsOpts cx pos leftText rightText minSpaceBetween width pct o :=
  (insertTwoColumnsOpts_textOnly cx pos leftText rightText minSpaceBetween width pct o).restore ed o

end

/-! ## Concrete instances (context `testCtx`: "\n" is `0`, " " is `32`)

The receiver stores `rcv` (line separator `0`, no trailing separators, justify the last line);
`WithOptions(oth)` stores other options; the argument is `arg` / `argP` (line separator `7`).
In each example the two results have the same text and store `oth` resp. `rcv`; a third line, where
there is one, shows that the receiver's own options as argument give a different text. -/
namespace ReceiverOptions

/-- options stored on the receiver -/
def rcv : Options Nat := { lineSep := [0], noTrailing := true, justifyLast := true }
/-- other options to store on the receiver (`WithOptions`) -/
def oth : Options Nat := { lineSep := [8], paraSep := [9], preservePara := true, indentStr := [5] }
/-- the options argument -/
def arg : Options Nat := { lineSep := [7], indentStr := [6] }
/-- the options argument, paragraph mode (paragraph separator `0`) -/
def argP : Options Nat := { lineSep := [7], paraSep := [0], preservePara := true, indentStr := [6] }
/-- text and stored options of a result -/
def view (r : R (Editor Nat)) : Option (List Nat × Options Nat) :=
  r.toOption.map fun e => (e.text, e.opts)

def sample : List Nat := [1, 32, 2, 32, 3, 7, 4, 32, 32, 5, 0, 6, 7]
def rootEd : Editor Nat := .root sample rcv
/-- a sub-editor (bytes 1–14 of its parent) -/
def subEd1 : Editor Nat := .sub sample rcv (.root (99 :: sample) oth) 1 14

example :
    view ((rootEd.withOpts oth).wrapOpts testCtx 3 arg) = some ([1, 32, 2, 7, 3, 32, 4, 7, 5, 0, 6, 7], oth) ∧
    view (rootEd.wrapOpts testCtx 3 arg) = some ([1, 32, 2, 7, 3, 32, 4, 7, 5, 0, 6, 7], rcv) ∧
    view (rootEd.wrapOpts testCtx 3 rcv) = some ([1, 32, 2, 0, 3, 7, 4, 0, 5, 0, 6, 7], rcv) := by decide +kernel
example :
    view ((subEd1.withOpts oth).wrapOpts testCtx 3 argP) = some ([1, 32, 2, 7, 3, 32, 4, 7, 5, 0, 6, 7], oth) ∧
    view (subEd1.wrapOpts testCtx 3 argP) = some ([1, 32, 2, 7, 3, 32, 4, 7, 5, 0, 6, 7], rcv) := by decide +kernel

-- `arg.justifyLast = false`: the path of Justify through `linesTo (-1)`, `commit` and `originalOpts`
example :
    view ((rootEd.withOpts oth).justifyOpts testCtx 7 arg) =
      some ([1, 32, 32, 2, 32, 32, 3, 7, 4, 32, 32, 5, 0, 6, 7], oth) ∧
    view (rootEd.justifyOpts testCtx 7 arg) =
      some ([1, 32, 32, 2, 32, 32, 3, 7, 4, 32, 32, 5, 0, 6, 7], rcv) ∧
    view (rootEd.justifyOpts testCtx 7 rcv) = some ([1, 32, 2, 32, 3, 7, 4, 32, 5, 0, 6, 7], rcv) := by decide +kernel
example :
    view ((subEd1.withOpts oth).justifyOpts testCtx 7 arg) =
      some ([1, 32, 32, 2, 32, 32, 3, 7, 4, 32, 32, 5, 0, 6, 7], oth) ∧
    view (subEd1.justifyOpts testCtx 7 arg) =
      some ([1, 32, 32, 2, 32, 32, 3, 7, 4, 32, 32, 5, 0, 6, 7], rcv) := by decide +kernel
example :
    view ((rootEd.withOpts oth).justifyOpts testCtx 7 argP) =
      some ([1, 32, 32, 2, 32, 32, 3, 7, 4, 32, 32, 5, 0, 6, 7], oth) ∧
    view (rootEd.justifyOpts testCtx 7 argP) =
      some ([1, 32, 32, 2, 32, 32, 3, 7, 4, 32, 32, 5, 0, 6, 7], rcv) := by decide +kernel

example :
    view ((rootEd.withOpts oth).alignOpts testCtx Gen.alignRight 7 arg) =
      some ([32, 32, 1, 32, 2, 32, 3, 7, 32, 4, 32, 32, 5, 0, 6, 7], oth) ∧
    view (rootEd.alignOpts testCtx Gen.alignRight 7 arg) =
      some ([32, 32, 1, 32, 2, 32, 3, 7, 32, 4, 32, 32, 5, 0, 6, 7], rcv) ∧
    view (rootEd.alignOpts testCtx Gen.alignRight 7 rcv) =
      some ([1, 32, 2, 32, 3, 7, 4, 32, 32, 5, 0, 32, 32, 32, 32, 32, 6, 7], rcv) := by decide +kernel
example :
    view ((rootEd.withOpts oth).alignOpts testCtx Gen.alignRight 7 argP) =
      some ([32, 32, 1, 32, 2, 32, 3, 7, 32, 32, 4, 32, 32, 5, 0, 32, 32, 32, 32, 32, 32, 6, 7], oth) ∧
    view (rootEd.alignOpts testCtx Gen.alignRight 7 argP) =
      some ([32, 32, 1, 32, 2, 32, 3, 7, 32, 32, 4, 32, 32, 5, 0, 32, 32, 32, 32, 32, 32, 6, 7], rcv) := by decide +kernel

example :
    view ((rootEd.withOpts oth).indentOpts testCtx 1 arg) =
      some ([6, 1, 32, 2, 32, 3, 7, 6, 4, 32, 32, 5, 0, 6, 7], oth) ∧
    view (rootEd.indentOpts testCtx 1 arg) = some ([6, 1, 32, 2, 32, 3, 7, 6, 4, 32, 32, 5, 0, 6, 7], rcv) ∧
    view (rootEd.indentOpts testCtx 1 rcv) = some ([9, 1, 32, 2, 32, 3, 7, 4, 32, 32, 5, 0, 9, 6, 7], rcv) := by decide +kernel
example :
    view ((rootEd.withOpts oth).indentOpts testCtx 1 argP) =
      some ([6, 1, 32, 2, 32, 3, 7, 6, 4, 32, 32, 5, 0, 6, 6, 7], oth) ∧
    view (rootEd.indentOpts testCtx 1 argP) =
      some ([6, 1, 32, 2, 32, 3, 7, 6, 4, 32, 32, 5, 0, 6, 6, 7], rcv) := by decide +kernel

example :
    view ((rootEd.withOpts oth).collapseSpaceOpts testCtx arg) =
      some ([1, 32, 2, 32, 3, 32, 4, 32, 5, 0, 6, 32], oth) ∧
    view (rootEd.collapseSpaceOpts testCtx arg) = some ([1, 32, 2, 32, 3, 32, 4, 32, 5, 0, 6, 32], rcv) ∧
    view (rootEd.collapseSpaceOpts testCtx rcv) = some ([1, 32, 2, 32, 3, 7, 4, 32, 5, 32, 6, 7], rcv) := by decide +kernel

example :
    view ((rootEd.withOpts oth).applyOpts testCtx (fun i l => [i :: l]) arg) =
      some ([0, 1, 32, 2, 32, 3, 7, 1, 4, 32, 32, 5, 0, 6, 7], oth) ∧
    view (rootEd.applyOpts testCtx (fun i l => [i :: l]) arg) =
      some ([0, 1, 32, 2, 32, 3, 7, 1, 4, 32, 32, 5, 0, 6, 7], rcv) ∧
    view (rootEd.applyOpts testCtx (fun i l => [i :: l]) rcv) =
      some ([0, 1, 32, 2, 32, 3, 7, 4, 32, 32, 5, 0, 1, 6, 7], rcv) := by decide +kernel
example :
    view ((rootEd.withOpts oth).applyParasM testCtx (fun i p _ _ => pure [i :: p]) argP) =
      some ([0, 1, 32, 2, 32, 3, 7, 4, 32, 32, 5, 0, 1, 6, 7], oth) ∧
    view (rootEd.applyParasM testCtx (fun i p _ _ => pure [i :: p]) argP) =
      some ([0, 1, 32, 2, 32, 3, 7, 4, 32, 32, 5, 0, 1, 6, 7], rcv) := by decide +kernel

-- the three table operations (all end in `Insert`, which builds sub-editors of the receiver)
example :
    view ((subEd1.withOpts oth).insertTableOpts testCtx 1 [[[5], [6]]] 6 arg) =
      some ([1, 5, 32, 32, 32, 32, 6, 7, 32, 2, 32, 3, 7, 4, 32, 32, 5, 0, 6, 7], oth) ∧
    view (subEd1.insertTableOpts testCtx 1 [[[5], [6]]] 6 arg) =
      some ([1, 5, 32, 32, 32, 32, 6, 7, 32, 2, 32, 3, 7, 4, 32, 32, 5, 0, 6, 7], rcv) ∧
    view (subEd1.insertTableOpts testCtx 1 [[[5], [6]]] 6 rcv) =
      some ([1, 5, 32, 32, 32, 32, 6, 32, 2, 32, 3, 7, 4, 32, 32, 5, 0, 6, 7], rcv) := by decide +kernel
example :
    view ((rootEd.withOpts oth).insertDefTableOpts testCtx 1 [([5], [6, 32, 7])] 12 arg) =
      some ([1, 32, 32, 5, 32, 32, 45, 32, 6, 7, 32, 2, 32, 3, 7, 4, 32, 32, 5, 0, 6, 7], oth) ∧
    view (rootEd.insertDefTableOpts testCtx 1 [([5], [6, 32, 7])] 12 arg) =
      some ([1, 32, 32, 5, 32, 32, 45, 32, 6, 7, 32, 2, 32, 3, 7, 4, 32, 32, 5, 0, 6, 7], rcv) := by decide +kernel
example :
    view ((rootEd.withOpts oth).insertTwoColumnsOpts testCtx 1 [5, 32, 6] [7] 1 8 ⟨false, 1, 1⟩ arg) =
      some ([1, 5, 32, 6, 32, 7, 32, 2, 32, 3, 7, 4, 32, 32, 5, 0, 6, 7], oth) ∧
    view (rootEd.insertTwoColumnsOpts testCtx 1 [5, 32, 6] [7] 1 8 ⟨false, 1, 1⟩ arg) =
      some ([1, 5, 32, 6, 32, 7, 32, 2, 32, 3, 7, 4, 32, 32, 5, 0, 6, 7], rcv) := by decide +kernel

end ReceiverOptions
end RosedVerif
