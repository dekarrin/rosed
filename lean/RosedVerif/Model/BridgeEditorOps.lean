/-
The A→B bridge at EDITOR level for AlignOpts, IndentOpts and JustifyOpts (non-paragraph mode).
On a stable vocabulary `V`, for an editor whose text is a list of tokens of `V` and a line
separator that is a `BridgeOps.GoodSep`, running the model of the public operation on CODE POINTS
(instance `cxA`, real UAX #29 segmentation) gives exactly the flattening of running it on CLUSTER
TOKENS (instance `cxB`).  Each operation is first bridged as it is (`…_bridge`), then given in
closed form through the specification on clusters (`…_closed`, `…_lines`).  Paragraph mode is in
BridgeEditorParas.lean.
-/
import RosedVerif.Model.BridgeComposite
import RosedVerif.Model.BridgeAlignCRLF
import RosedVerif.Model.OpsStructure
set_option linter.unusedSectionVars false
namespace RosedVerif
namespace BridgeEditorOps
open BridgeWrap BridgeOps BridgeAlign BridgeComposite OpsStructure

theorem getLastD_map_flatten {β : Type} (ls : List (List (List β))) :
    (ls.map List.flatten).getLastD [] = (ls.getLastD []).flatten := by
  rw [List.getLastD_eq_getLast?, List.getLastD_eq_getLast?, List.getLast?_map]
  cases ls.getLast? <;> rfl

theorem getLastD_over {β : Type} {P : β → Prop} (ls : List (List β))
    (h : ∀ l ∈ ls, ∀ t ∈ l, P t) : ∀ t ∈ ls.getLastD [], P t := by
  intro t ht
  by_cases hne : ls = []
  · subst hne; cases ht
  · exact h _ (OpsStructure.getLastD_mem ls [] hne) t ht

abbrev tkB : Spec.Toks (List Int) := ⟨cxB.isSpace, cxB.sp, cxB.hy⟩

/-- the justified line on cluster tokens satisfies the C12 postcondition relative to the collapsed
line -/
theorem justified_B_post (l : List (List Int)) (w : Int) :
    justifyLine cxB l w = .ok (justified cxB l w) ∧
      JustifyPost cxB (Spec.collapse tkB l) w (justified cxB l w) := by
  obtain ⟨r, h1, hpost⟩ := justifyLine_triv cxB cxB_triv cxB_sp_space (by decide) l w
  unfold justified
  rw [h1]
  exact ⟨rfl, hpost⟩

theorem cxA_dLineSep_ne : cxA.dLineSep ≠ [] := by
  rw [← dLineSep_flat, dLineSep_B]; decide

/-- `JustifyOpts` on cluster tokens, non-paragraph mode, `JustifyLastLine` not set, in closed form.
It goes through `LinesTo(-1)` and `Commit`, i.e. through byte offsets, which are right as long as
the atoms of the text have a positive byte length: in `cxB` all tokens but the ill-formed empty one. -/
theorem justifyOpts_B_notLast_closed (ed : Editor (List Int)) (hne : ∀ t ∈ ed.text, t ≠ [])
    (width : Int) (o : Options (List Int)) (hpp : o.preservePara = false)
    (hjl : o.justifyLast = false) :
    ed.justifyOpts cxB width o =
      .ok (ed.withText (joinWith (o.withDefaults cxB).lineSep
        (mapInit (fun l => justified cxB l width) (inLines cxB ed o) ++ trailing cxB ed o))) := by
  obtain ⟨hnil, hpost⟩ := justified_B_post [] width
  rw [hpost.1 (.inr List.not_mem_nil)] at hnil
  exact justifyOpts_notLast_closed cxB (by rw [dLineSep_B]; decide) ed
    (fun a ha => cxB_blen_pos (hne a ha)) width o _ ((withDefaults_preservePara cxB o).trans hpp)
    ((Options.justifyLast_withDefaults cxB o).trans hjl)
    (fun l _ => (justified_B_post l width).1) fun _ => hnil

section generic
variable {α : Type} [DecidableEq α] (cx : Ctx α)

/-- `applyOptsM` through `inLines` and `trailing`: the callback runs on every input line, the
outputs are concatenated (`applyOptsM_structure` for a callback that may fail) -/
theorem applyOptsM_eq_mapM (ed : Editor α) (op : Nat → List α → R (List (List α)))
    (o : Options α) :
    ed.applyOptsM cx op o =
      ((List.range (inLines cx ed o).length).mapM fun i =>
        op i ((inLines cx ed o).getD i [])).map fun outs =>
          ed.withText (joinWith (o.withDefaults cx).lineSep (outs.flatten ++ trailing cx ed o)) := by
  unfold Editor.applyOptsM trailing inLines
  dsimp only
  cases (List.range _).mapM fun i => op i
    (((ed.withOpts (o.withDefaults cx)).linesSep (o.withDefaults cx).lineSep).getD i []) with
  | error e => rfl
  | ok outs =>
    show Except.ok _ = Except.ok _
    split <;> simp only [List.append_nil]

theorem alignOpts_other (ed : Editor α) (align width : Int) (o : Options α)
    (hal : ¬(align = Gen.alignLeft ∨ align = Gen.alignRight ∨ align = Gen.alignCenter)) :
    ed.alignOpts cx align width o = .ok ed :=
  alignOpts_none cx ed align width o
    (.inr ⟨fun h => hal (.inl h), fun h => hal (.inr (.inl h)), fun h => hal (.inr (.inr h))⟩)

end generic

/-- `IndentOpts` outside paragraph mode, any context: every input line gets the indent -/
theorem indentOpts_structure {α : Type} [DecidableEq α] (cx : Ctx α) (ed : Editor α) (level : Int)
    (o : Options α) (hpp : o.preservePara = false) :
    ed.indentOpts cx level o =
      if level < 1 then .ok ed
      else (repeatStr (o.withDefaults cx).indentStr level).map fun ind =>
        ed.withText (joinWith (o.withDefaults cx).lineSep
          ((inLines cx ed o).map (fun line => ind ++ line) ++ trailing cx ed o)) := by
  unfold Editor.indentOpts
  split
  · rfl
  · dsimp only
    rw [withDefaults_preservePara, hpp]
    simp only [Bool.false_eq_true, if_false, applyOpts_map]
    cases repeatStr (o.withDefaults cx).indentStr level <;> rfl

section vocab
variable {V : List (List Int)} {S : List (List Int)}

theorem splitOn_over {toks : List (List Int)} (ht : ∀ t ∈ toks, t ∈ V) (sep : List (List Int)) :
    ∀ l ∈ splitOn toks sep, ∀ t ∈ l, t ∈ V :=
  fun l hl t h => ht t (splitOn_mem toks sep l hl t h)

theorem bareLines_over {toks : List (List Int)} (ht : ∀ t ∈ toks, t ∈ V) (sep : List (List Int))
    (nt : Bool) : ∀ l ∈ Spec.bareLines toks sep nt, ∀ t ∈ l, t ∈ V := by
  intro l hl
  unfold Spec.bareLines at hl
  dsimp only at hl
  split at hl
  · exact splitOn_over ht sep l (List.dropLast_subset _ hl)
  · exact splitOn_over ht sep l hl

theorem bareLines_bridge (hV : VocabStable V = true) (hS : GoodSep V S) (toks : List (List Int))
    (ht : ∀ t ∈ toks, t ∈ V) (nt : Bool) :
    Spec.bareLines toks.flatten S.flatten nt = (Spec.bareLines toks S nt).map List.flatten := by
  unfold Spec.bareLines
  dsimp only
  rw [hS.split toks ht, getLastD_map_flatten,
    flatten_isEmpty _ fun t h =>
      vocab_ne_nil hV (getLastD_over (P := (· ∈ V)) _ (splitOn_over ht S) t h)]
  split
  · rw [List.map_dropLast]
  · rfl

/-- `od` is the options value the editor carries while its lines are taken; only its trailing
policy matters -/
theorem linesSep_bridge (hV : VocabStable V = true) (hS : GoodSep V S) (ed : Editor (List Int))
    (ht : ∀ t ∈ ed.text, t ∈ V) (od : Options (List Int)) :
    (ed.flat.withOpts od.flat).linesSep S.flatten =
      ((ed.withOpts od).linesSep S).map List.flatten := by
  rw [linesSep_eq_bareLines, linesSep_eq_bareLines, Editor.withOpts_text, Editor.withOpts_text,
    Editor.withOpts_opts, Editor.withOpts_opts, flat_text]
  exact bareLines_bridge hV hS ed.text ht _

theorem linesSep_over (ed : Editor (List Int)) (ht : ∀ t ∈ ed.text, t ∈ V)
    (sep : List (List Int)) : ∀ l ∈ ed.linesSep sep, ∀ t ∈ l, t ∈ V := by
  rw [linesSep_eq_bareLines]
  exact bareLines_over ht sep _

theorem inLines_bridge (hV : VocabStable V = true) (ed : Editor (List Int))
    (ht : ∀ t ∈ ed.text, t ∈ V) (o : Options (List Int))
    (hS : GoodSep V (o.withDefaults cxB).lineSep) :
    inLines cxA ed.flat o.flat = (inLines cxB ed o).map List.flatten := by
  rw [inLines_eq, inLines_eq, flat_text, lineSep_flat_gen o hS.tok_ne, withDefaults_noTrailing,
    withDefaults_noTrailing]
  exact bareLines_bridge hV hS ed.text ht _

theorem inLines_over (ed : Editor (List Int)) (ht : ∀ t ∈ ed.text, t ∈ V)
    (o : Options (List Int)) : ∀ l ∈ inLines cxB ed o, ∀ t ∈ l, t ∈ V := by
  rw [inLines_eq]
  exact bareLines_over ht _ _

/-- the extra empty line of `applyOptsM` (`OpsStructure.trailing`): both levels drop the final
empty piece at the same time, since `strings.Split` gives corresponding pieces (`GoodSep.split`)
and the line lists correspond (`inLines_bridge`) -/
theorem trailing_bridge (hV : VocabStable V = true) (ed : Editor (List Int))
    (ht : ∀ t ∈ ed.text, t ∈ V)
    (o : Options (List Int)) (hS : GoodSep V (o.withDefaults cxB).lineSep) :
    trailing cxA ed.flat o.flat = (trailing cxB ed o).map List.flatten := by
  unfold trailing
  rw [inLines_bridge hV ed ht o hS, List.length_map, flat_text, lineSep_flat_gen o hS.tok_ne,
    withDefaults_noTrailing, withDefaults_noTrailing, hS.split ed.text ht, List.length_map,
    show o.flat.noTrailing = o.noTrailing from rfl, apply_ite (List.map List.flatten)]
  rfl

theorem flatten_map_map_flatten {β : Type} (outs : List (List (List (List β)))) :
    (outs.map (List.map List.flatten)).flatten = outs.flatten.map List.flatten := by
  induction outs with
  | nil => rfl
  | cons x t ih => simp only [List.map_cons, List.flatten_cons, ih, List.map_append]

theorem applyOptsM_bridge (hV : VocabStable V = true) (ed : Editor (List Int))
    (ht : ∀ t ∈ ed.text, t ∈ V) (o : Options (List Int))
    (hS : GoodSep V (o.withDefaults cxB).lineSep)
    (opA : Nat → List Int → R (List (List Int)))
    (opB : Nat → List (List Int) → R (List (List (List Int))))
    (hop : ∀ i, i < (inLines cxB ed o).length →
      opA i ((inLines cxB ed o).getD i []).flatten =
        (opB i ((inLines cxB ed o).getD i [])).map (List.map List.flatten)) :
    Editor.applyOptsM cxA ed.flat opA o.flat = (Editor.applyOptsM cxB ed opB o).map Editor.flat := by
  rw [applyOptsM_eq_mapM, applyOptsM_eq_mapM, inLines_bridge hV ed ht o hS,
    trailing_bridge hV ed ht o hS, lineSep_flat_gen o hS.tok_ne, List.length_map,
    mapM_map_bridge (fun i => opA i (((inLines cxB ed o).map List.flatten).getD i []))
      (fun i => opB i ((inLines cxB ed o).getD i [])) (List.map List.flatten) _
      (fun i hi => by rw [getD_map_flatten]; exact hop i (List.mem_range.1 hi))]
  cases (List.range (inLines cxB ed o).length).mapM
    (fun i => opB i ((inLines cxB ed o).getD i [])) with
  | error e => rfl
  | ok outs =>
    show Except.ok _ = Except.ok _
    dsimp only
    rw [flat_withText, flatten_map_map_flatten, ← List.map_append, joinWith_flatten]

theorem applyOptsM_bridge_over (hV : VocabStable V = true) (ed : Editor (List Int))
    (ht : ∀ t ∈ ed.text, t ∈ V) (o : Options (List Int))
    (hS : GoodSep V (o.withDefaults cxB).lineSep)
    (opA : Nat → List Int → R (List (List Int)))
    (opB : Nat → List (List Int) → R (List (List (List Int))))
    (hop : ∀ (i : Nat) (l : List (List Int)), (∀ t ∈ l, t ∈ V) →
      opA i l.flatten = (opB i l).map (List.map List.flatten)) :
    Editor.applyOptsM cxA ed.flat opA o.flat = (Editor.applyOptsM cxB ed opB o).map Editor.flat :=
  applyOptsM_bridge hV ed ht o hS opA opB (fun i _ => hop i _ (getD_over (inLines_over ed ht o) i))

/-- the shape of the line-wise closed forms (`lineForm_over`) corresponds on the two levels when
the transformation of the lines does -/
theorem lineForm_bridge (hV : VocabStable V = true) (ed : Editor (List Int))
    (ht : ∀ t ∈ ed.text, t ∈ V) (o : Options (List Int))
    (hS : GoodSep V (o.withDefaults cxB).lineSep)
    {FA : List (List Int) → List (List Int)}
    {FB : List (List (List Int)) → List (List (List Int))}
    (hF : FA ((inLines cxB ed o).map List.flatten) = (FB (inLines cxB ed o)).map List.flatten) :
    ed.flat.withText (joinWith (o.flat.withDefaults cxA).lineSep
        (FA (inLines cxA ed.flat o.flat) ++ trailing cxA ed.flat o.flat)) =
      (ed.withText (joinWith (o.withDefaults cxB).lineSep
        (FB (inLines cxB ed o) ++ trailing cxB ed o))).flat := by
  rw [flat_withText, inLines_bridge hV ed ht o hS, trailing_bridge hV ed ht o hS,
    lineSep_flat_gen o hS.tok_ne, hF, ← List.map_append, joinWith_flatten]

/-- the closed forms of `OpsStructure` (`ed.withText (joinWith sep (lines.map g ++ trailing))`)
correspond when the line functions do -/
theorem mapped_bridge (hV : VocabStable V = true) (ed : Editor (List Int))
    (ht : ∀ t ∈ ed.text, t ∈ V) (o : Options (List Int))
    (hS : GoodSep V (o.withDefaults cxB).lineSep)
    (gA : List Int → List Int) (gB : List (List Int) → List (List Int))
    (hg : ∀ l ∈ inLines cxB ed o, gA l.flatten = (gB l).flatten) :
    ed.flat.withText (joinWith (o.flat.withDefaults cxA).lineSep
        ((inLines cxA ed.flat o.flat).map gA ++ trailing cxA ed.flat o.flat)) =
      (ed.withText (joinWith (o.withDefaults cxB).lineSep
        ((inLines cxB ed o).map gB ++ trailing cxB ed o))).flat := by
  refine lineForm_bridge hV ed ht o hS (FA := List.map gA) (FB := List.map gB) ?_
  rw [List.map_map, List.map_map]
  exact List.map_congr_left hg

theorem alignFn_bridge (hV : VocabStable V = true) (align : Int) (l : List (List Int))
    (hl : ∀ t ∈ l, t ∈ V) (w : Int) :
    alignFn cxA align l.flatten w = (alignFn cxB align l w).flatten := by
  unfold alignFn
  split
  · exact alignLeft_bridge hV l hl w
  · split
    · exact alignRight_bridge hV l hl w
    · exact alignCenter_bridge hV l hl w

/-- `Editor.AlignOpts`, non-paragraph mode, every value of `align` (also `None` and values
outside `Left..Center`), any editor (root or sub-editor) whose text is over `V` -/
theorem alignOpts_bridge (hV : VocabStable V = true) (ed : Editor (List Int))
    (ht : ∀ t ∈ ed.text, t ∈ V) (align width : Int) (o : Options (List Int))
    (hpp : o.preservePara = false) (hS : GoodSep V (o.withDefaults cxB).lineSep) :
    Editor.alignOpts cxA ed.flat align width o.flat =
      (Editor.alignOpts cxB ed align width o).map Editor.flat := by
  by_cases hal : align = Gen.alignLeft ∨ align = Gen.alignRight ∨ align = Gen.alignCenter
  · rw [alignOpts_structure cxA ed.flat align width o.flat hal
        ((withDefaults_preservePara cxA _).trans hpp),
      alignOpts_structure cxB ed align width o hal ((withDefaults_preservePara cxB o).trans hpp)]
    exact congrArg Except.ok (mapped_bridge hV ed ht o hS _ (fun l => alignFn cxB align l width)
      (fun l hl => alignFn_bridge hV align l (inLines_over ed ht o l hl) width))
  · rw [alignOpts_other cxA _ _ _ _ hal, alignOpts_other cxB _ _ _ _ hal]
    rfl

/-- the defaulted indent string on the rune side is the flattening of the one on the token side
(the indent tokens must be non-empty; compare `lineSep_flat_gen`) -/
theorem indentStr_flat_gen (o' : Options (List Int))
    (hne : ∀ t ∈ (o'.withDefaults cxB).indentStr, t ≠ []) :
    (o'.flat.withDefaults cxA).indentStr = (o'.withDefaults cxB).indentStr.flatten := by
  rw [Options.indentStr_withDefaults cxB o'] at hne ⊢
  rw [Options.indentStr_withDefaults cxA o'.flat]
  exact ite_isEmpty_flatten dIndent_flat hne

theorem indentStr_ne_of_ne (o : Options (List Int)) (hi : ∀ t ∈ o.indentStr, t ≠ []) :
    ∀ t ∈ (o.withDefaults cxB).indentStr, t ≠ [] := by
  rw [Options.indentStr_withDefaults cxB o]
  split
  · rw [dIndent_B]; decide
  · exact hi

/-- `Editor.IndentOpts`, non-paragraph mode; the tokens of the indent string must be non-empty
(`indentOpts_needs_ne`) -/
theorem indentOpts_bridge (hV : VocabStable V = true) (ed : Editor (List Int))
    (ht : ∀ t ∈ ed.text, t ∈ V) (level : Int) (o : Options (List Int))
    (hpp : o.preservePara = false) (hS : GoodSep V (o.withDefaults cxB).lineSep)
    (hi : ∀ t ∈ o.indentStr, t ≠ []) :
    Editor.indentOpts cxA ed.flat level o.flat =
      (Editor.indentOpts cxB ed level o).map Editor.flat := by
  rw [indentOpts_structure cxA _ _ _ hpp, indentOpts_structure cxB _ _ _ hpp]
  split
  · rfl
  · rw [indentStr_flat_gen o (indentStr_ne_of_ne o hi), repeatStr_bridge]
    cases repeatStr (o.withDefaults cxB).indentStr level with
    | error e => rfl
    | ok ind =>
      exact congrArg Except.ok (mapped_bridge hV ed ht o hS _ (fun line => ind ++ line)
        (fun l _ => (List.flatten_append).symm))

/-- the non-emptiness of the indent tokens is needed: an (ill-formed) empty token makes the
token-level indent string non-empty while its flattening is empty and gets replaced by the
default `"\t"` -/
theorem indentOpts_needs_ne :
    (Editor.indentOpts cxA (Editor.root [[0x61]] {}).flat 1
        ({ indentStr := [[]] } : Options (List Int)).flat).map Editor.text = .ok [0x09, 0x61] ∧
      ((Editor.indentOpts cxB (Editor.root [[0x61]] {}) 1 { indentStr := [[]] }).map
        Editor.flat).map Editor.text = .ok [0x61] :=
  ⟨of_okEq (by decide +kernel), of_okEq (by decide +kernel)⟩

/-- JustifyLine on a line over `V`: it succeeds on tokens, and the (total) justified lines of the
two levels correspond -/
theorem justified_bridge (hV : VocabStable V = true) (hsp : [0x20] ∈ V)
    (hspTail : ∀ t ∈ V, (0x20 : Int) ∉ t.tail) (l : List (List Int)) (hl : ∀ t ∈ l, t ∈ V)
    (w : Int) :
    justifyLine cxB l w = .ok (justified cxB l w) ∧
      justified cxA l.flatten w = (justified cxB l w).flatten := by
  obtain ⟨r, h1, h2, _⟩ := justifyLine_bridge_general hV hsp hspTail l hl w
  unfold justified
  rw [h1, h2]
  exact ⟨rfl, rfl⟩

theorem justifyOpts_bridge_all (hV : VocabStable V = true) (hsp : [0x20] ∈ V)
    (hspTail : ∀ t ∈ V, (0x20 : Int) ∉ t.tail) (ed : Editor (List Int))
    (ht : ∀ t ∈ ed.text, t ∈ V) (width : Int) (o : Options (List Int))
    (hpp : o.preservePara = false) (hjl : o.justifyLast = true)
    (hS : GoodSep V (o.withDefaults cxB).lineSep) :
    Editor.justifyOpts cxA ed.flat width o.flat =
      (Editor.justifyOpts cxB ed width o).map Editor.flat := by
  rw [justifyOpts_all_sane cxA cxA_Sane ed.flat width o.flat
      ((withDefaults_preservePara cxA _).trans hpp) ((Options.justifyLast_withDefaults cxA _).trans hjl),
    justifyOpts_all cxB ed width o (fun l => justified cxB l width)
      ((withDefaults_preservePara cxB o).trans hpp) ((Options.justifyLast_withDefaults cxB o).trans hjl)
      (fun l hl => (justified_bridge hV hsp hspTail l (inLines_over ed ht o l hl) width).1)]
  exact congrArg Except.ok (mapped_bridge hV ed ht o hS _ (fun l => justified cxB l width)
    (fun l hl => (justified_bridge hV hsp hspTail l (inLines_over ed ht o l hl) width).2))

theorem mapInit_flatten (gA : List Int → List Int) (gB : List (List Int) → List (List Int))
    (ls : List (List (List Int))) (h : ∀ l ∈ ls.dropLast, gA l.flatten = (gB l).flatten) :
    mapInit gA (ls.map List.flatten) = (mapInit gB ls).map List.flatten := by
  unfold mapInit
  rw [← List.map_dropLast, List.length_map, ← List.map_drop, List.map_append, List.map_map,
    List.map_map]
  exact congrArg (· ++ _) (List.map_congr_left h)

/-- `JustifyLastLine` not set (the default); any editor, root or sub-editor: both levels justify
every line but the last and keep the last -/
theorem justifyOpts_bridge_notLast (hV : VocabStable V = true) (hsp : [0x20] ∈ V)
    (hspTail : ∀ t ∈ V, (0x20 : Int) ∉ t.tail) (ed : Editor (List Int))
    (ht : ∀ t ∈ ed.text, t ∈ V) (width : Int) (o : Options (List Int))
    (hpp : o.preservePara = false) (hjl : o.justifyLast = false)
    (hS : GoodSep V (o.withDefaults cxB).lineSep) :
    Editor.justifyOpts cxA ed.flat width o.flat =
      (Editor.justifyOpts cxB ed width o).map Editor.flat := by
  rw [justifyOpts_notLast_closed_sane cxA cxA_Sane cxA_dLineSep_ne ed.flat width o.flat
      ((withDefaults_preservePara cxA _).trans hpp) ((Options.justifyLast_withDefaults cxA _).trans hjl),
    justifyOpts_B_notLast_closed ed (over_ne_nil hV ht) width o hpp hjl]
  exact congrArg Except.ok (lineForm_bridge hV ed ht o hS (FA := mapInit _) (FB := mapInit _)
    (mapInit_flatten _ (fun l => justified cxB l width) _ fun l hl =>
      (justified_bridge hV hsp hspTail l
        (inLines_over ed ht o l (List.dropLast_subset _ hl)) width).2))

theorem justifyOpts_bridge (hV : VocabStable V = true) (hsp : [0x20] ∈ V)
    (hspTail : ∀ t ∈ V, (0x20 : Int) ∉ t.tail) (ed : Editor (List Int))
    (ht : ∀ t ∈ ed.text, t ∈ V) (width : Int) (o : Options (List Int))
    (hpp : o.preservePara = false) (hS : GoodSep V (o.withDefaults cxB).lineSep) :
    Editor.justifyOpts cxA ed.flat width o.flat =
      (Editor.justifyOpts cxB ed width o).map Editor.flat := by
  cases hjl : o.justifyLast with
  | true => exact justifyOpts_bridge_all hV hsp hspTail ed ht width o hpp hjl hS
  | false => exact justifyOpts_bridge_notLast hV hsp hspTail ed ht width o hpp hjl hS

end vocab

/-- the specification's line function selected by the raw alignment value (a value in 1..3) -/
def specAlign (align w : Int) (l : List (List Int)) : List (List Int) :=
  if align == Gen.alignLeft then Spec.alignLeft tkB w l
  else if align == Gen.alignRight then Spec.alignRight tkB w l
  else Spec.alignCenter tkB w l

theorem alignFn_B_spec (align w : Int) (l : List (List Int)) :
    alignFn cxB align l w = specAlign align w l := by
  unfold alignFn specAlign
  simp only [alignLeft_triv cxB cxB_triv, alignRight_triv cxB cxB_triv,
    alignCenter_triv cxB cxB_triv]

theorem specAlign_left (w : Int) : specAlign Gen.alignLeft w = Spec.alignLeft tkB w := rfl
theorem specAlign_right (w : Int) : specAlign Gen.alignRight w = Spec.alignRight tkB w := rfl
theorem specAlign_center (w : Int) : specAlign Gen.alignCenter w = Spec.alignCenter tkB w := rfl

theorem specAlign_mem (align w : Int) (l : List (List Int)) :
    ∀ c ∈ specAlign align w l, c ∈ l ∨ c = cxB.sp := by
  unfold specAlign
  split
  · exact alignLeft_mem_tokens tkB w l
  · split
    · exact alignRight_mem_tokens tkB w l
    · exact alignCenter_mem_tokens tkB w l

theorem collapse_mem {α : Type} (tk : Spec.Toks α) : ∀ (l : List α),
    ∀ c ∈ Spec.collapse tk l, c ∈ l ∨ c = tk.sp := by
  intro l
  have hd : ∀ (a : α) (t : List α),
      (if tk.ws a then tk.sp else a) ∈ a :: t ∨ (if tk.ws a then tk.sp else a) = tk.sp := by
    intro a t
    split
    · exact Or.inr rfl
    · exact Or.inl List.mem_cons_self
  fun_induction Spec.collapse tk l with
  | case1 => nofun
  | case2 a => exact List.forall_mem_singleton.2 (hd a [])
  | case3 a d t _ ih => exact fun c h => (ih c h).imp_left (List.mem_cons_of_mem _)
  | case4 a d t _ ih =>
    exact List.forall_mem_cons.2 ⟨hd a _, fun c h => (ih c h).imp_left (List.mem_cons_of_mem _)⟩

theorem justified_B_mem (l : List (List Int)) (w : Int) :
    ∀ c ∈ justified cxB l w, c ∈ l ∨ c = cxB.sp := by
  obtain ⟨-, h1, h2⟩ := justified_B_post l w
  intro c hc
  by_cases hcase : ((Spec.collapse tkB l).length : Int) ≥ w ∨ cxB.sp ∉ Spec.collapse tkB l
  · rw [h1 hcase] at hc
    exact collapse_mem tkB l c hc
  · obtain ⟨-, -, extra, he, -⟩ := h2 hcase
    rw [he] at hc
    rcases interleave_mem cxB _ _ c hc with h | ⟨v, hv, h⟩
    · exact Or.inr h
    · exact collapse_mem tkB l c (splitOn_mem _ _ v hv c h)

theorem indexOf_single_none_iff {α : Type} [DecidableEq α] (s : α) : ∀ (l : List α),
    indexOf [s] l = none ↔ s ∉ l
  | [] => by simp [indexOf]
  | c :: t => by
    rw [indexOf_cons]
    have ih := indexOf_single_none_iff s t
    by_cases h : s = c
    · subst h
      simp
    · have : ([s] : List α).isPrefixOf (c :: t) = false := by
        simp [List.isPrefixOf, h]
      rw [this]
      simp only [Bool.false_eq_true, if_false, Option.map_eq_none_iff, ih, List.mem_cons, h,
        false_or]

theorem forall_mem_mapInit {α : Type} {P : List α → Prop} {g : List α → List α}
    {ls : List (List α)} (h1 : ∀ l ∈ ls.dropLast, P (g l)) (h2 : ∀ l ∈ ls, P l) :
    ∀ l ∈ mapInit g ls, P l := by
  intro l hl
  rcases List.mem_append.1 hl with hl | hl
  · obtain ⟨l0, hl0, rfl⟩ := List.mem_map.1 hl
    exact h1 l0 hl0
  · exact h2 l (List.mem_of_mem_drop hl)

theorem unbordered_single {α : Type} (s : α) : Unbordered [s] := by
  intro k h1 h2
  simp only [List.length_singleton] at h2
  omega

section vocab
variable {V : List (List Int)}

theorem specAlign_over (hsp : [0x20] ∈ V) (align w : Int) {l : List (List Int)}
    (hl : ∀ t ∈ l, t ∈ V) : ∀ t ∈ specAlign align w l, t ∈ V :=
  over_of_mem_or_sp hsp hl (specAlign_mem align w l)

theorem justified_B_over (hsp : [0x20] ∈ V) (w : Int) {l : List (List Int)}
    (hl : ∀ t ∈ l, t ∈ V) : ∀ t ∈ justified cxB l w, t ∈ V :=
  over_of_mem_or_sp hsp hl (justified_B_mem l w)

/-- `AlignOpts` on code points in closed form: it succeeds, and the result is the
flattening of the receiver with every input line replaced by the SPECIFICATION's aligned line on
clusters (plus the trailing empty line when the last line of the text is terminated) -/
theorem alignOpts_bridge_closed (hV : VocabStable V = true) (ed : Editor (List Int))
    (ht : ∀ t ∈ ed.text, t ∈ V) (align width : Int) (o : Options (List Int))
    (hal : align = Gen.alignLeft ∨ align = Gen.alignRight ∨ align = Gen.alignCenter)
    (hpp : o.preservePara = false) (hS : GoodSep V (o.withDefaults cxB).lineSep) :
    Editor.alignOpts cxA ed.flat align width o.flat =
      .ok (ed.withText (joinWith (o.withDefaults cxB).lineSep
        ((inLines cxB ed o).map (specAlign align width) ++ trailing cxB ed o))).flat := by
  rw [alignOpts_bridge hV ed ht align width o hpp hS,
    alignOpts_structure cxB ed align width o hal ((withDefaults_preservePara cxB o).trans hpp)]
  show Except.ok _ = Except.ok _
  simp only [alignFn_B_spec]

theorem alignOpts_bridge_none (ed : Editor (List Int)) (align width : Int)
    (o : Options (List Int))
    (hal : align = Gen.alignNone ∨
      (align ≠ Gen.alignLeft ∧ align ≠ Gen.alignRight ∧ align ≠ Gen.alignCenter)) :
    Editor.alignOpts cxA ed.flat align width o.flat = .ok ed.flat :=
  alignOpts_none cxA ed.flat align width o.flat hal

/-- the shape shared by the line-wise closed forms: transformed lines, then the trailing empty
line if there is one, joined by the line separator -/
theorem lineForm_over (ed : Editor (List Int)) (o : Options (List Int))
    (hSV : ∀ s ∈ (o.withDefaults cxB).lineSep, s ∈ V) {ls : List (List (List Int))}
    (hls : ∀ l ∈ ls, ∀ t ∈ l, t ∈ V) :
    ∀ t ∈ joinWith (o.withDefaults cxB).lineSep (ls ++ trailing cxB ed o), t ∈ V := by
  refine LayoutSim.joinWith_forall hSV fun l hl => ?_
  rcases List.mem_append.1 hl with hl | hl
  · exact hls l hl
  · rw [trailing_mem cxB ed o l hl]
    exact over_nil

/-- re-segmenting the result: if the input lines are replaced, one for one, by
lines over `V` that do not contain the (unbordered, over `V`) separator, then splitting the
flattened new text at the flattened separator and segmenting every piece (real UAX #29
segmentation) gives back exactly the replacement lines, plus the trailing empty line -/
theorem lines_of_replaced (hV : VocabStable V = true) (ed : Editor (List Int))
    (o : Options (List Int)) (hS : GoodSep V (o.withDefaults cxB).lineSep)
    (hSV : ∀ t ∈ (o.withDefaults cxB).lineSep, t ∈ V)
    (hu : Unbordered (o.withDefaults cxB).lineSep) (ls' : List (List (List Int)))
    (hlen : ls'.length = (inLines cxB ed o).length)
    (hover : ∀ l ∈ ls', ∀ t ∈ l, t ∈ V)
    (hfree : ∀ l ∈ ls', indexOf (o.withDefaults cxB).lineSep l = none) :
    (splitOn (joinWith (o.withDefaults cxB).lineSep (ls' ++ trailing cxB ed o)).flatten
        (o.withDefaults cxB).lineSep.flatten).map (clusters cxA) = ls' ++ trailing cxB ed o := by
  have hJ := lineForm_over ed o hSV hover
  rw [hS.split _ hJ, map_clusters_flatten_over hV (splitOn_over hJ _)]
  exact splitOn_replaced cxB ed o ls' hS.ne hu hlen hfree

theorem lines_of_closed (hV : VocabStable V = true) (ed : Editor (List Int))
    (o : Options (List Int)) (hS : GoodSep V (o.withDefaults cxB).lineSep)
    (hSV : ∀ t ∈ (o.withDefaults cxB).lineSep, t ∈ V)
    (hu : Unbordered (o.withDefaults cxB).lineSep) {r : R (Editor Int)}
    (ls' : List (List (List Int)))
    (hr : r = .ok (ed.withText (joinWith (o.withDefaults cxB).lineSep
      (ls' ++ trailing cxB ed o))).flat)
    (hlen : ls'.length = (inLines cxB ed o).length)
    (hover : ∀ l ∈ ls', ∀ t ∈ l, t ∈ V)
    (hfree : ∀ l ∈ ls', indexOf (o.withDefaults cxB).lineSep l = none) :
    ∃ e, r = .ok e ∧ e.opts = ed.flat.opts ∧
      (splitOn e.text (o.withDefaults cxB).lineSep.flatten).map (clusters cxA) =
        ls' ++ trailing cxB ed o :=
  ⟨_, hr, by rw [flat_withText, Editor.withText_opts], by
    rw [flat_withText, Editor.withText_text]
    exact lines_of_replaced hV ed o hS hSV hu ls' hlen hover hfree⟩

/-- the lines of the result of `AlignOpts` on code points: split at the separator and
re-segmented, they are the specification's aligned lines on clusters -/
theorem alignOpts_bridge_lines (hV : VocabStable V = true) (hsp : [0x20] ∈ V)
    (ed : Editor (List Int)) (ht : ∀ t ∈ ed.text, t ∈ V) (align width : Int)
    (o : Options (List Int))
    (hal : align = Gen.alignLeft ∨ align = Gen.alignRight ∨ align = Gen.alignCenter)
    (hpp : o.preservePara = false) (hS : GoodSep V (o.withDefaults cxB).lineSep)
    (hSV : ∀ t ∈ (o.withDefaults cxB).lineSep, t ∈ V)
    (hu : Unbordered (o.withDefaults cxB).lineSep)
    (hfree : ∀ l ∈ inLines cxB ed o,
      indexOf (o.withDefaults cxB).lineSep (specAlign align width l) = none) :
    ∃ e, Editor.alignOpts cxA ed.flat align width o.flat = .ok e ∧ e.opts = ed.flat.opts ∧
      (splitOn e.text (o.withDefaults cxB).lineSep.flatten).map (clusters cxA) =
        (inLines cxB ed o).map (specAlign align width) ++ trailing cxB ed o :=
  lines_of_closed hV ed o hS hSV hu _ (alignOpts_bridge_closed hV ed ht align width o hal hpp hS)
    (List.length_map _)
    (List.forall_mem_map.2 fun l hl => specAlign_over hsp align width (inLines_over ed ht o l hl))
    (List.forall_mem_map.2 hfree)

/-- a line without the single-token separator `[s]` is aligned / justified to a line without it
(`s` is not the space) -/
theorem free_of_mem_or_sp (ed : Editor (List Int)) (o : Options (List Int)) (s : List Int)
    (hs : (o.withDefaults cxB).lineSep = [s]) (hsne : s ≠ [0x20])
    (g : List (List Int) → List (List Int)) (hg : ∀ l, ∀ c ∈ g l, c ∈ l ∨ c = cxB.sp) :
    ∀ l ∈ inLines cxB ed o, indexOf (o.withDefaults cxB).lineSep (g l) = none := by
  intro l hl
  have h0 := inLines_free cxB ed o (by rw [hs]; simp) l hl
  rw [hs, indexOf_single_none_iff] at h0 ⊢
  intro hm
  rcases hg l s hm with h | h
  · exact h0 h
  · exact hsne h

/-- for a single-token separator other than the space (e.g. `"\n"`, or CR LF): no side
condition on the aligned lines is left -/
theorem alignOpts_bridge_lines_tok (hV : VocabStable V = true) (hsp : [0x20] ∈ V)
    (ed : Editor (List Int)) (ht : ∀ t ∈ ed.text, t ∈ V) (align width : Int)
    (o : Options (List Int))
    (hal : align = Gen.alignLeft ∨ align = Gen.alignRight ∨ align = Gen.alignCenter)
    (hpp : o.preservePara = false) (s : List Int) (hs : (o.withDefaults cxB).lineSep = [s])
    (hsV : s ∈ V) (hsne : s ≠ [0x20]) (hS : GoodSep V [s]) :
    ∃ e, Editor.alignOpts cxA ed.flat align width o.flat = .ok e ∧ e.opts = ed.flat.opts ∧
      (splitOn e.text s).map (clusters cxA) =
        (inLines cxB ed o).map (specAlign align width) ++ trailing cxB ed o := by
  have h := alignOpts_bridge_lines hV hsp ed ht align width o hal hpp (hs ▸ hS)
    (by rw [hs]; intro t h; rw [List.mem_singleton] at h; rw [h]; exact hsV)
    (by rw [hs]; exact unbordered_single s)
    (free_of_mem_or_sp ed o s hs hsne _ (specAlign_mem align width))
  rw [hs, flatten_single] at h
  exact h

/-- `JustifyOpts` with `JustifyLastLine` on code points in closed form, with the C12
postcondition of every justified line (relative to the collapsed cluster line) -/
theorem justifyOpts_bridge_all_closed (hV : VocabStable V = true) (hsp : [0x20] ∈ V)
    (hspTail : ∀ t ∈ V, (0x20 : Int) ∉ t.tail) (ed : Editor (List Int))
    (ht : ∀ t ∈ ed.text, t ∈ V) (width : Int) (o : Options (List Int))
    (hpp : o.preservePara = false) (hjl : o.justifyLast = true)
    (hS : GoodSep V (o.withDefaults cxB).lineSep) :
    Editor.justifyOpts cxA ed.flat width o.flat =
        .ok (ed.withText (joinWith (o.withDefaults cxB).lineSep
          ((inLines cxB ed o).map (fun l => justified cxB l width) ++ trailing cxB ed o))).flat ∧
      ∀ l, JustifyPost cxB (Spec.collapse tkB l) width (justified cxB l width) := by
  refine ⟨?_, fun l => (justified_B_post l width).2⟩
  rw [justifyOpts_bridge_all hV hsp hspTail ed ht width o hpp hjl hS,
    justifyOpts_all cxB ed width o (fun l => justified cxB l width)
      ((withDefaults_preservePara cxB o).trans hpp) ((Options.justifyLast_withDefaults cxB o).trans hjl)
      (fun l _ => (justified_B_post l width).1)]
  rfl

/-- `JustifyOpts` (default: the last line is left alone) on code points in closed form
(any good separator): all lines but the last are justified, the last one is kept -/
theorem justifyOpts_bridge_notLast_closed (hV : VocabStable V = true) (hsp : [0x20] ∈ V)
    (hspTail : ∀ t ∈ V, (0x20 : Int) ∉ t.tail) (ed : Editor (List Int))
    (ht : ∀ t ∈ ed.text, t ∈ V) (width : Int) (o : Options (List Int))
    (hpp : o.preservePara = false) (hjl : o.justifyLast = false)
    (hS : GoodSep V (o.withDefaults cxB).lineSep) :
    Editor.justifyOpts cxA ed.flat width o.flat =
      .ok (ed.withText (joinWith (o.withDefaults cxB).lineSep
        (mapInit (fun l => justified cxB l width) (inLines cxB ed o) ++
          trailing cxB ed o))).flat := by
  rw [justifyOpts_bridge_notLast hV hsp hspTail ed ht width o hpp hjl hS,
    justifyOpts_B_notLast_closed ed (over_ne_nil hV ht) width o hpp hjl]
  rfl

theorem justifyOpts_bridge_all_lines (hV : VocabStable V = true) (hsp : [0x20] ∈ V)
    (hspTail : ∀ t ∈ V, (0x20 : Int) ∉ t.tail) (ed : Editor (List Int))
    (ht : ∀ t ∈ ed.text, t ∈ V) (width : Int) (o : Options (List Int))
    (hpp : o.preservePara = false) (hjl : o.justifyLast = true)
    (hS : GoodSep V (o.withDefaults cxB).lineSep)
    (hSV : ∀ t ∈ (o.withDefaults cxB).lineSep, t ∈ V)
    (hu : Unbordered (o.withDefaults cxB).lineSep)
    (hfree : ∀ l ∈ inLines cxB ed o,
      indexOf (o.withDefaults cxB).lineSep (justified cxB l width) = none) :
    ∃ e, Editor.justifyOpts cxA ed.flat width o.flat = .ok e ∧ e.opts = ed.flat.opts ∧
      (splitOn e.text (o.withDefaults cxB).lineSep.flatten).map (clusters cxA) =
        (inLines cxB ed o).map (fun l => justified cxB l width) ++ trailing cxB ed o := by
  exact lines_of_closed hV ed o hS hSV hu _
    (justifyOpts_bridge_all_closed hV hsp hspTail ed ht width o hpp hjl hS).1 (List.length_map _)
    (List.forall_mem_map.2 fun l hl => justified_B_over hsp width (inLines_over ed ht o l hl))
    (List.forall_mem_map.2 hfree)

theorem justifyOpts_bridge_notLast_lines (hV : VocabStable V = true) (hsp : [0x20] ∈ V)
    (hspTail : ∀ t ∈ V, (0x20 : Int) ∉ t.tail) (ed : Editor (List Int))
    (ht : ∀ t ∈ ed.text, t ∈ V) (width : Int) (o : Options (List Int))
    (hpp : o.preservePara = false) (hjl : o.justifyLast = false)
    (hS : GoodSep V (o.withDefaults cxB).lineSep)
    (hSV : ∀ t ∈ (o.withDefaults cxB).lineSep, t ∈ V)
    (hu : Unbordered (o.withDefaults cxB).lineSep)
    (hfree : ∀ l ∈ (inLines cxB ed o).dropLast,
      indexOf (o.withDefaults cxB).lineSep (justified cxB l width) = none) :
    ∃ e, Editor.justifyOpts cxA ed.flat width o.flat = .ok e ∧ e.opts = ed.flat.opts ∧
      (splitOn e.text (o.withDefaults cxB).lineSep.flatten).map (clusters cxA) =
        mapInit (fun l => justified cxB l width) (inLines cxB ed o) ++ trailing cxB ed o := by
  exact lines_of_closed hV ed o hS hSV hu _
    (justifyOpts_bridge_notLast_closed hV hsp hspTail ed ht width o hpp hjl hS)
    (mapInit_length _ _)
    (forall_mem_mapInit
      (fun l hl => justified_B_over hsp width (inLines_over ed ht o l (List.dropLast_subset _ hl)))
      (inLines_over ed ht o))
    (forall_mem_mapInit hfree (inLines_free cxB ed o hS.ne))

theorem indentOpts_bridge_closed (hV : VocabStable V = true) (ed : Editor (List Int))
    (ht : ∀ t ∈ ed.text, t ∈ V) (level : Int) (hlev : 1 ≤ level) (o : Options (List Int))
    (hpp : o.preservePara = false) (hS : GoodSep V (o.withDefaults cxB).lineSep)
    (hi : ∀ t ∈ o.indentStr, t ≠ []) :
    Editor.indentOpts cxA ed.flat level o.flat =
      .ok (ed.withText (joinWith (o.withDefaults cxB).lineSep
        ((inLines cxB ed o).map
            (fun l => (List.replicate level.toNat (o.withDefaults cxB).indentStr).flatten ++ l) ++
          trailing cxB ed o))).flat := by
  rw [indentOpts_bridge hV ed ht level o hpp hS hi, indentOpts_structure cxB _ _ _ hpp,
    if_neg (by omega)]
  unfold repeatStr
  rw [if_neg (by omega)]
  rfl

end vocab

theorem demo3_good_nl : GoodSep BridgeOps.demoVocab3 [[0x0A]] :=
  goodSep_rune BridgeOps.demoVocab3_stable BridgeOps.demoVocab3_nlOnly

theorem lineSep_nl_of (o : Options (List Int)) (hls : o.lineSep = [] ∨ o.lineSep = [[0x0A]]) :
    (o.withDefaults cxB).lineSep = [[0x0A]] :=
  defaulted_lineSep_nl o hls

/-- all hypotheses hold for the vocabulary `BridgeOps.demoVocab3` and the separator U+000A: for
every text over the vocabulary (root editor with arbitrary options `o0`), every alignment value, width and
indent level, and all call options `o` that leave the line separator unset (or set it to `"\n"`),
do not ask for paragraph mode and have no empty indent token: `AlignOpts`, `IndentOpts` and
`JustifyOpts` (both values of `JustifyLastLine`) on code points are the flattening of the same
operations on cluster tokens -/
example (toks : List (List Int)) (ht : ∀ t ∈ toks, t ∈ BridgeOps.demoVocab3) (align width level : Int)
    (o0 o : Options (List Int)) (hpp : o.preservePara = false)
    (hls : o.lineSep = [] ∨ o.lineSep = [[0x0A]]) (hi : ∀ t ∈ o.indentStr, t ≠ []) :
    Editor.alignOpts cxA (.root toks.flatten o0.flat) align width o.flat =
        (Editor.alignOpts cxB (.root toks o0) align width o).map Editor.flat ∧
    Editor.indentOpts cxA (.root toks.flatten o0.flat) level o.flat =
        (Editor.indentOpts cxB (.root toks o0) level o).map Editor.flat ∧
    Editor.justifyOpts cxA (.root toks.flatten o0.flat) width o.flat =
        (Editor.justifyOpts cxB (.root toks o0) width o).map Editor.flat := by
  have hS : GoodSep BridgeOps.demoVocab3 (o.withDefaults cxB).lineSep := by
    rw [lineSep_nl_of o hls]; exact demo3_good_nl
  exact ⟨alignOpts_bridge BridgeOps.demoVocab3_stable (.root toks o0) ht align width o hpp hS,
    indentOpts_bridge BridgeOps.demoVocab3_stable (.root toks o0) ht level o hpp hS hi,
    justifyOpts_bridge BridgeOps.demoVocab3_stable BridgeOps.demoVocab3_sp
      BridgeOps.demoVocab3_spTail (.root toks o0) ht width o hpp hS⟩

/-- the same for a SUB-editor (any parent `p`, any recorded byte range): the operations act on the
sub-editor's own text; `JustifyOpts` commits its inner `LinesTo(-1)` selection into that text -/
example (toks : List (List Int)) (ht : ∀ t ∈ toks, t ∈ BridgeOps.demoVocab3) (width : Int)
    (o0 : Options (List Int)) (p : Editor (List Int)) (a b : Int) :
    Editor.justifyOpts cxA (Editor.sub toks o0 p a b).flat width ({} : Options (List Int)).flat =
      (Editor.justifyOpts cxB (Editor.sub toks o0 p a b) width {}).map Editor.flat :=
  justifyOpts_bridge BridgeOps.demoVocab3_stable BridgeOps.demoVocab3_sp BridgeOps.demoVocab3_spTail
    (.sub toks o0 p a b) ht width {} rfl (by rw [default_lineSep_B]; exact demo3_good_nl)

/-- for every text over `BridgeOps.demoVocab3`, the default options and
`Left`: `AlignOpts` on code points succeeds, and the pieces of the new text between line feeds,
re-segmented by the real UAX #29 segmentation, are the specification's left-aligned cluster lines
(plus the trailing empty piece) -/
example (toks : List (List Int)) (ht : ∀ t ∈ toks, t ∈ BridgeOps.demoVocab3) (width : Int)
    (o0 : Options (List Int)) :
    ∃ e, Editor.alignOpts cxA (.root toks.flatten o0.flat) Gen.alignLeft width {} = .ok e ∧
      e.opts = o0.flat ∧
      (splitOn e.text [0x0A]).map (clusters cxA) =
        (inLines cxB (.root toks o0) {}).map (Spec.alignLeft tkB width) ++
          trailing cxB (.root toks o0) {} := by
  obtain ⟨e, h1, h2, h3⟩ := alignOpts_bridge_lines_tok BridgeOps.demoVocab3_stable
    BridgeOps.demoVocab3_sp (.root toks o0) ht Gen.alignLeft width {} (.inl rfl) rfl [0x0A]
    default_lineSep_B BridgeOps.demoVocab3_nl (by decide) demo3_good_nl
  refine ⟨e, h1, h2, ?_⟩
  rw [h3, specAlign_left]

/-- "a é<TAB>\n🇩🇪🇩🇪b ab\n" centred, default options, any width -/
example (w : Int) :
    ∃ e, Editor.alignOpts cxA (.root ([[0x61], [0x20], [0x65, 0x301], [0x9], [0x0A],
        [0x1F1E9, 0x1F1EA], [0x1F1E9, 0x1F1EA], [0x62], [0x20], [0x61], [0x62], [0x0A]] :
          List (List Int)).flatten {}) Gen.alignCenter w {} = .ok e ∧
      (splitOn e.text [0x0A]).map (clusters cxA) =
        [Spec.alignCenter tkB w [[0x61], [0x20], [0x65, 0x301], [0x9]],
         Spec.alignCenter tkB w [[0x1F1E9, 0x1F1EA], [0x1F1E9, 0x1F1EA], [0x62], [0x20], [0x61],
           [0x62]],
         []] := by
  obtain ⟨e, h1, -, h2⟩ := alignOpts_bridge_lines_tok BridgeOps.demoVocab3_stable
    BridgeOps.demoVocab3_sp
    (.root [[0x61], [0x20], [0x65, 0x301], [0x9], [0x0A], [0x1F1E9, 0x1F1EA], [0x1F1E9, 0x1F1EA],
      [0x62], [0x20], [0x61], [0x62], [0x0A]] {}) (by decide) Gen.alignCenter w {}
    (.inr (.inr rfl)) rfl [0x0A] default_lineSep_B BridgeOps.demoVocab3_nl (by decide)
    demo3_good_nl
  refine ⟨e, h1, ?_⟩
  rw [h2]
  have e1 : inLines cxB (.root ([[0x61], [0x20], [0x65, 0x301], [0x9], [0x0A], [0x1F1E9, 0x1F1EA],
      [0x1F1E9, 0x1F1EA], [0x62], [0x20], [0x61], [0x62], [0x0A]] : List (List Int)) {}) {} =
      [[[0x61], [0x20], [0x65, 0x301], [0x9]],
       [[0x1F1E9, 0x1F1EA], [0x1F1E9, 0x1F1EA], [0x62], [0x20], [0x61], [0x62]]] := by
    decide +kernel
  have e2 : trailing cxB (.root ([[0x61], [0x20], [0x65, 0x301], [0x9], [0x0A], [0x1F1E9, 0x1F1EA],
      [0x1F1E9, 0x1F1EA], [0x62], [0x20], [0x61], [0x62], [0x0A]] : List (List Int)) {}) {} =
      [[]] := by
    decide +kernel
  rw [e1, e2]
  rfl

/-- the Windows separator `"\r\n"` (one cluster of two code points), on `demoVocabCRLF` -/
example (toks : List (List Int)) (ht : ∀ t ∈ toks, t ∈ demoVocabCRLF) (align width level : Int)
    (o0 o : Options (List Int)) (hpp : o.preservePara = false)
    (hls : o.lineSep = [[0x0D, 0x0A]]) (hi : ∀ t ∈ o.indentStr, t ≠ []) :
    Editor.alignOpts cxA (.root toks.flatten o0.flat) align width o.flat =
        (Editor.alignOpts cxB (.root toks o0) align width o).map Editor.flat ∧
    Editor.indentOpts cxA (.root toks.flatten o0.flat) level o.flat =
        (Editor.indentOpts cxB (.root toks o0) level o).map Editor.flat ∧
    Editor.justifyOpts cxA (.root toks.flatten o0.flat) width o.flat =
        (Editor.justifyOpts cxB (.root toks o0) width o).map Editor.flat ∧
    o.flat.lineSep = [0x0D, 0x0A] := by
  have hS : GoodSep demoVocabCRLF (o.withDefaults cxB).lineSep := by
    rw [Options.lineSep_withDefaults cxB o, hls, if_neg (by decide)]
    exact demoVocabCRLF_good
  refine ⟨alignOpts_bridge demoVocabCRLF_stable (.root toks o0) ht align width o hpp hS,
    indentOpts_bridge demoVocabCRLF_stable (.root toks o0) ht level o hpp hS hi,
    justifyOpts_bridge demoVocabCRLF_stable (by decide) (spTail_of_spOnly (by decide))
      (.root toks o0) ht width o hpp hS, ?_⟩
  show o.lineSep.flatten = _
  rw [hls]; rfl

/-- fully evaluated on code points: " a  é\nb c\nd e" justified to 6 clusters with the default
options — the first two lines are justified, the last one is left alone -/
example : (Editor.justifyOpts cxA (.root [0x20, 0x61, 0x20, 0x20, 0x65, 0x301, 0x0A, 0x62, 0x20,
      0x63, 0x0A, 0x64, 0x20, 0x65] {}) 6 {}).map Editor.text =
    .ok [0x20, 0x20, 0x61, 0x20, 0x20, 0x65, 0x301, 0x0A, 0x62, 0x20, 0x20, 0x20, 0x20, 0x63, 0x0A,
      0x64, 0x20, 0x65] := of_okEq (by decide +kernel)

/-- `CollapseSpaceOpts` on cluster tokens in closed form -/
theorem collapseSpaceOpts_B_closed (ed : Editor (List Int)) (o : Options (List Int)) :
    Editor.collapseSpaceOpts cxB ed o =
      .ok (ed.withText (Spec.collapse tkB (replaceAll' cxB ed.text (o.withDefaults cxB).lineSep))) := by
  unfold Editor.collapseSpaceOpts
  dsimp only
  rw [collapseSpace_triv_all cxB cxB_triv cxB_sp_space]
  rfl

end BridgeEditorOps
end RosedVerif
