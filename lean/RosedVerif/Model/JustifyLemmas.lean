/-
Lemmas about the space-distribution loop of JustifyLine (`distribute`) and about
`interleave`.
-/
import RosedVerif.Model.Manip
namespace RosedVerif

theorem sum_modify_succ : ∀ (l : List Nat) (i : Nat), i < l.length →
    (l.modify i (· + 1)).sum = l.sum + 1
  | [], i, h => by simp at h
  | a :: l, 0, _ => by simp only [List.modify_cons, List.sum_cons, if_true]; omega
  | a :: l, i + 1, h => by
    have := sum_modify_succ l i (by simpa using h)
    simp only [List.modify_succ_cons, List.sum_cons, this]; omega

/-- whenever `distribute` succeeds it preserves the length and adds exactly `n` -/
theorem distribute_length_sum (G odd : Int) :
    ∀ (n : Nat) (s : Int) (f : Bool) (extra r : List Nat), G = extra.length →
      distribute G odd n s f extra = .ok r → r.length = extra.length ∧ r.sum = extra.sum + n := by
  intro n
  induction n with
  | zero =>
    intro s f extra r _ h
    simp only [distribute, pure, Except.pure, Except.ok.injEq] at h
    subst h; exact ⟨rfl, rfl⟩
  | succ n ih =>
    intro s f extra r hG h
    rw [distribute] at h
    simp only at h
    generalize (if f = true then G - odd - s else s) = gi at h
    split at h
    · exact absurd h (by simp [throw, throwThe, MonadExceptOf.throw])
    · rename_i hc
      have := ih _ _ _ r (by simpa using hG) h
      rw [List.length_modify] at this
      rw [sum_modify_succ _ _ (by omega)] at this
      omega

/-- The loop visits the `g` gaps in blocks: one block is one pass over all of them, `g` steps, alternating
between the two ends.  `jphi g b p` is the gap visited at step `p` of a block whose first step has parity `b`. -/
def jphi (g b p : Nat) : Nat := if (b + p) % 2 = 0 then p else (g - g % 2) - p

/-- counters after `k` complete blocks and `j` further steps -/
def jtbl (g k b j : Nat) : List Nat :=
  (List.range g).map (fun p => k + if jphi g b p < j then 1 else 0)

theorem jphi_lt {g b p : Nat} (hp : p < g) (hb : g % 2 = 0 → b = 0) : jphi g b p < g := by
  unfold jphi; split <;> omega

theorem jphi_invol {g b p q : Nat} (hp : p < g) (h : jphi g b p = q) : jphi g b q = p := by
  subst h
  unfold jphi
  -- all that matters of `g - g % 2`: it is even and not below `p`
  have hG : (g - g % 2) % 2 = 0 := by omega
  have hp' : p ≤ g - g % 2 := by omega
  generalize g - g % 2 = G at *
  by_cases h : (b + p) % 2 = 0
  · rw [if_pos h, if_pos h]
  · rw [if_neg h, if_neg (by omega)]
    omega

theorem jphi_iff {g b p q : Nat} (hp : p < g) (hq : q < g) :
    jphi g b p = q ↔ jphi g b q = p :=
  ⟨jphi_invol hp, jphi_invol hq⟩

theorem jtbl_length (g k b j : Nat) : (jtbl g k b j).length = g := by
  simp only [jtbl, List.length_map, List.length_range]

theorem jtbl_step {g k b j : Nat} (hj : j < g) :
    (jtbl g k b j).modify (jphi g b j) (· + 1) = jtbl g k b (j + 1) := by
  apply List.ext_getElem
  · simp only [List.length_modify, jtbl_length]
  · intro p h1 h2
    have hp : p < g := by simpa only [jtbl_length] using h2
    have := jphi_iff (b := b) hj hp
    simp only [List.getElem_modify, jtbl, List.getElem_map, List.getElem_range]
    by_cases e : jphi g b j = p
    · have e' := this.1 e
      rw [if_pos e, if_neg (by omega), if_pos (by omega)]
    · have e' : ¬ jphi g b p = j := fun x => e (this.2 x)
      rw [if_neg e]
      by_cases l : jphi g b p < j
      · rw [if_pos l, if_pos (by omega)]
      · rw [if_neg l, if_neg (by omega)]

theorem jtbl_wrap {g k b b' : Nat} (hb : g % 2 = 0 → b = 0) :
    jtbl g k b g = jtbl g (k + 1) b' 0 := by
  apply List.ext_getElem
  · simp only [jtbl_length]
  · intro p h1 h2
    have hp : p < g := by simpa only [jtbl_length] using h2
    simp only [jtbl, List.getElem_map, List.getElem_range]
    rw [if_pos (jphi_lt hp hb), if_neg (by omega)]

theorem jtbl_zero (g b : Nat) : jtbl g 0 b 0 = List.replicate g 0 := by
  apply List.ext_getElem
  · simp only [jtbl_length, List.length_replicate]
  · intro p h1 h2
    simp only [jtbl, List.getElem_map, List.getElem_range, List.getElem_replicate]
    rw [if_neg (by omega)]

theorem jtbl_mem {g k b j x : Nat} (h : x ∈ jtbl g k b j) : k ≤ x ∧ x ≤ k + 1 := by
  simp only [jtbl, List.mem_map] at h
  obtain ⟨p, _, rfl⟩ := h
  split <;> omega

/-- the loop invariant: in state "`k` complete blocks, parity bit `b`, offset `j`" the
loop never fails and ends in a state of the same shape -/
theorem distribute_inv (g : Nat) (hg : 0 < g) (odd : Int) (hodd : odd = ((g % 2 : Nat) : Int)) :
    ∀ (n k b j : Nat) (f : Bool), j < g → (g % 2 = 0 → b = 0) →
      (f = true ↔ (b + j) % 2 = 1) →
      ∃ k' b' j', distribute (g : Int) odd n (j : Int) f (jtbl g k b j) = .ok (jtbl g k' b' j') := by
  intro n
  induction n with
  | zero =>
    intro k b j f _ _ _
    exact ⟨k, b, j, rfl⟩
  | succ n ih =>
    intro k b j f hj hb hf
    rw [distribute]
    simp only
    have hidx : (if f = true then ((g : Int) - odd) - (j : Int) else (j : Int))
        = ((jphi g b j : Nat) : Int) := by
      unfold jphi
      cases f with
      | true =>
        have := hf.1 rfl
        rw [if_pos rfl, if_neg (by omega)]; omega
      | false =>
        have : ¬ (b + j) % 2 = 1 := fun x => by simpa using hf.2 x
        rw [if_neg (by simp), if_pos (by omega)]
    rw [hidx]
    have hlt := jphi_lt hj hb
    rw [if_neg (by omega)]
    simp only [Int.toNat_natCast]
    rw [jtbl_step hj]
    have hf' : (!f) = true ↔ (b + (j + 1)) % 2 = 1 := by
      rw [Bool.not_eq_true', ← Bool.not_eq_true, hf]
      omega
    by_cases hw : j + 1 = g
    · rw [if_pos (by omega)]
      rw [hw, jtbl_wrap (b' := (b + g) % 2) hb]
      exact ih (k + 1) ((b + g) % 2) 0 (!f) hg
        (fun h => by rw [hb h, Nat.zero_add]; exact h)
        (by rw [Nat.add_zero, Nat.mod_mod, ← hw]; exact hf')
    · rw [if_neg (by omega)]
      have : (j : Int) + 1 = ((j + 1 : Nat) : Int) := by omega
      rw [this]
      exact ih k b (j + 1) (!f) (by omega) hb hf'

theorem odd_cast (g : Nat) : (if g % 2 == 0 then (0 : Int) else 1) = ((g % 2 : Nat) : Int) := by
  split <;> rename_i h <;> simp at h <;> omega

/-- every run from the initial state ends in a table of the invariant's shape -/
theorem distribute_eq_jtbl (g : Nat) (hg : 0 < g) (n : Nat) :
    ∃ k b j, distribute (g : Int) (if g % 2 == 0 then 0 else 1) n 0 false (List.replicate g 0)
      = .ok (jtbl g k b j) := by
  have := distribute_inv g hg _ (odd_cast g) n 0 0 0 false hg (fun _ => rfl) (by simp)
  rw [jtbl_zero] at this
  exact this

theorem distribute_total (g : Nat) (hg : 0 < g) (n : Nat) :
    ∃ r, distribute (g : Int) (if g % 2 == 0 then 0 else 1) n 0 false (List.replicate g 0) = .ok r
      ∧ r.length = g ∧ r.sum = n := by
  obtain ⟨k, b, j, h⟩ := distribute_eq_jtbl g hg n
  refine ⟨_, h, ?_⟩
  simpa using distribute_length_sum _ _ n _ _ _ _ (by simp) h

theorem distribute_even (g : Nat) (hg : 0 < g) (n : Nat) (r : List Nat)
    (h : distribute (g : Int) (if g % 2 == 0 then 0 else 1) n 0 false (List.replicate g 0) = .ok r) :
    ∀ x ∈ r, ∀ y ∈ r, x ≤ y + 1 := by
  obtain ⟨k, b, j, h'⟩ := distribute_eq_jtbl g hg n
  cases h.symm.trans h'
  intro x hx y hy
  have := jtbl_mem hx
  have := jtbl_mem hy
  omega

/-- the call as `JustifyLine` makes it, with the number of gaps an `Int` -/
theorem distribute_int (G : Int) (hG : 1 ≤ G) (n : Nat) :
    ∃ r, distribute G (if G % 2 == 0 then 0 else 1) n 0 false (List.replicate G.toNat 0) = .ok r ∧
      r.length = G.toNat ∧ r.sum = n ∧ ∀ x ∈ r, ∀ y ∈ r, x ≤ y + 1 := by
  obtain ⟨g, rfl⟩ : ∃ g : Nat, G = g := ⟨G.toNat, by omega⟩
  have hodd : ((g : Int) % 2 == 0) = (g % 2 == 0) := by
    rw [Bool.eq_iff_iff, beq_iff_eq, beq_iff_eq]; omega
  rw [hodd, Int.toNat_natCast]
  obtain ⟨r, h, hl, hsum⟩ := distribute_total g (by omega) n
  exact ⟨r, h, hl, hsum, distribute_even g (by omega) n r h⟩

example : distribute 3 1 5 0 false [0, 0, 0] = .ok [1, 2, 2] := rfl
example : distribute 4 0 6 0 false [0, 0, 0, 0] = .ok [2, 1, 1, 2] := rfl

section
variable {α : Type} [DecidableEq α] (cx : Ctx α)

omit [DecidableEq α] in
theorem interleave_length : ∀ (words : List (List α)) (extra : List Nat), words ≠ [] →
    extra.length = words.length - 1 →
    (interleave cx words extra).length
      = (words.map List.length).sum + (words.length - 1) + extra.sum
  | [], _, h, _ => absurd rfl h
  | [w], extra, _, he => by
    have : extra = [] := List.eq_nil_of_length_eq_zero (by simpa using he)
    subst this
    simp [interleave]
  | w :: w' :: ws, [], _, he => by simp at he
  | w :: w' :: ws, e :: es, _, he => by
    have ih := interleave_length (w' :: ws) es (by simp) (by simpa using he)
    rw [interleave]
    · simp only [List.length_append, List.length_replicate, ih, List.map_cons, List.sum_cons,
        List.length_cons]
      omega
    · simp

omit [DecidableEq α] in
/-- a missing entry of `extra` counts as 0 -/
theorem interleave_cons_cons (w w' : List α) (ws : List (List α)) (ex : List Nat) :
    interleave cx (w :: w' :: ws) ex =
      w ++ List.replicate (1 + ex.headD 0) cx.sp ++ interleave cx (w' :: ws) ex.tail := by
  cases ex <;> rfl

theorem filter_bne_of_not_mem {a : α} {w : List α} (h : a ∉ w) : w.filter (· != a) = w := by
  rw [List.filter_eq_self]
  intro b hb
  rw [bne_iff_ne]
  rintro rfl
  exact h hb

theorem interleave_words : ∀ (words : List (List α)) (extra : List Nat),
    (∀ w ∈ words, cx.sp ∉ w) →
    (interleave cx words extra).filter (fun a => a != cx.sp) = words.flatten
  | [], _, _ => rfl
  | [w], _, h => by
    simpa [interleave] using filter_bne_of_not_mem (h w List.mem_cons_self)
  | w :: w' :: ws, ex, h => by
    rw [interleave_cons_cons, List.filter_append, List.filter_append,
      interleave_words (w' :: ws) ex.tail (fun x hx => h x (List.mem_cons_of_mem _ hx)),
      filter_bne_of_not_mem (h w List.mem_cons_self)]
    simp

end

end RosedVerif
