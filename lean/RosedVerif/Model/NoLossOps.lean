/-
The public whitespace operations on code points (instance `cxA`, real UAX #29 segmentation) lose no
text, for texts over a stable vocabulary `V`: the bridge theorems give every result as the
flattening of a closed form on cluster tokens (`cxB`), and the closed form is compared with the
input there.  `Props/C07` and `Props/C06` state the results.
-/
import RosedVerif.Model.BridgeEditorParas
import RosedVerif.Model.ParaStructure
import RosedVerif.Spec.NoLoss
set_option linter.unusedSectionVars false
namespace RosedVerif
namespace NoLossOps
open BridgeWrap BridgeOps BridgeAlign BridgeComposite OpsStructure BridgeEditorOps Spec

section generic
variable {α : Type}

theorem map_filter_append_congr (p : α → Bool) (a a' b : List (List α))
    (h : a'.map (List.filter p) = a.map (List.filter p)) :
    (a' ++ b).map (List.filter p) = (a ++ b).map (List.filter p) := by
  rw [List.map_append, List.map_append, h]

theorem mem_of_eq_singleton {V S : List α} {s : α} (hs : S = [s]) (hsV : s ∈ V) :
    ∀ t ∈ S, t ∈ V := by
  intro t h
  rw [hs, List.mem_singleton] at h
  rw [h]
  exact hsV

theorem replaceAll_single_of_not_mem [DecidableEq α] (a b : α) (s : List α) (h : a ∉ s) :
    replaceAll s [a] [b] = s := by
  rw [replaceAll_single]
  refine (List.map_congr_left fun x hx => ?_).trans (List.map_id s)
  rw [if_neg (fun e : x = a => h (e ▸ hx))]
  rfl

theorem replaceAll_single_self [DecidableEq α] (a : α) (s : List α) : replaceAll s [a] [a] = s := by
  rw [replaceAll_single]
  refine (List.map_congr_left fun x _ => ?_).trans (List.map_id s)
  split
  · rename_i h
    rw [h]
    rfl
  · rfl

end generic

theorem flat_withText_opts (ed : Editor (List Int)) (t : List (List Int)) :
    (ed.withText t).flat.opts = ed.flat.opts := by
  rw [flat_withText, Editor.withText_opts]

theorem flat_withText_text (ed : Editor (List Int)) (t : List (List Int)) :
    (ed.withText t).flat.text = t.flatten := by
  rw [flat_withText, Editor.withText_text]

/-- an operation whose result on texts over `V` is the flattening of `T ed` (`hclosed`) changes
nothing when run a second time, as soon as `T ed` is over `V` again and `T` is idempotent -/
theorem idem_of_closed {V : List (List Int)} (op : Editor Int → R (Editor Int))
    (T : Editor (List Int) → List (List Int))
    (hclosed : ∀ ed : Editor (List Int), (∀ t ∈ ed.text, t ∈ V) →
      op ed.flat = .ok (ed.withText (T ed)).flat)
    (ed : Editor (List Int)) (ht : ∀ t ∈ ed.text, t ∈ V) (hover : ∀ t ∈ T ed, t ∈ V)
    (hidem : T (ed.withText (T ed)) = T ed) : (op ed.flat >>= op) = op ed.flat := by
  rw [hclosed ed ht, ok_bind, hclosed _ (by rw [Editor.withText_text]; exact hover),
    Editor.withText_withText, hidem]

/-- the non-whitespace cluster tokens of a token list, in order -/
def nonws (l : List (List Int)) : List (List Int) := l.filter (fun c => !cxB.isSpace c)

theorem nonws_def (l : List (List Int)) : nonws l = l.filter (fun c => !tkB.ws c) := rfl

theorem nonws_append (a b : List (List Int)) : nonws (a ++ b) = nonws a ++ nonws b :=
  List.filter_append ..

section vocab
variable {V : List (List Int)}

/-- the input side: splitting the code-point text at the code-point separator and segmenting
every piece gives the cluster-level lines plus the trailing empty piece -/
theorem input_lines (hV : VocabStable V = true) (ed : Editor (List Int))
    (ht : ∀ t ∈ ed.text, t ∈ V) (o : Options (List Int))
    (hS : GoodSep V (o.withDefaults cxB).lineSep) :
    (splitOn ed.flat.text (o.withDefaults cxB).lineSep.flatten).map (clusters cxA) =
      inLines cxB ed o ++ trailing cxB ed o := by
  rw [flat_text, hS.split _ ht, map_clusters_flatten_over hV (splitOn_over ht _)]
  exact (inLines_append_trailing cxB ed o).symm

/-- `res` is `ed` with its lines replaced one for one by the lines `ls'`, which are over `V` and
have the non-whitespace clusters of the lines they replace; the lines are joined by the same
separators, the trailing one included (closed form of Align / Justify in non-paragraph mode) -/
structure Replaced (V : List (List Int)) (ed : Editor (List Int)) (o : Options (List Int))
    (ls' : List (List (List Int))) (res : R (Editor Int)) : Prop where
  eq : res = .ok (ed.withText (joinWith (o.withDefaults cxB).lineSep (ls' ++ trailing cxB ed o))).flat
  over : ∀ l ∈ ls', ∀ t ∈ l, t ∈ V
  keeps : ls'.map nonws = (inLines cxB ed o).map nonws

variable {ed : Editor (List Int)} {o : Options (List Int)} {ls' : List (List (List Int))}
  {res : R (Editor Int)}

theorem Replaced.joined_over (h : Replaced V ed o ls' res)
    (hSV : ∀ t ∈ (o.withDefaults cxB).lineSep, t ∈ V) :
    ∀ t ∈ joinWith (o.withDefaults cxB).lineSep (ls' ++ trailing cxB ed o), t ∈ V :=
  lineForm_over ed o hSV h.over

theorem Replaced.joined_nonws (h : Replaced V ed o ls' res)
    (hne : (o.withDefaults cxB).lineSep ≠ []) :
    nonws (joinWith (o.withDefaults cxB).lineSep (ls' ++ trailing cxB ed o)) = nonws ed.text := by
  conv => rhs; rw [text_eq_joinWith cxB ed o hne]
  exact filter_joinWith_congr _ _ _ _ (map_filter_append_congr _ _ _ _ h.keeps)

/-- whole text: the non-whitespace clusters of the result are those of the input, in order -/
theorem Replaced.nonws_text (h : Replaced V ed o ls' res) (hV : VocabStable V = true)
    (ht : ∀ t ∈ ed.text, t ∈ V) (hS : GoodSep V (o.withDefaults cxB).lineSep)
    (hSV : ∀ t ∈ (o.withDefaults cxB).lineSep, t ∈ V) :
    ∃ e, res = .ok e ∧ e.opts = ed.flat.opts ∧
      nonws (clusters cxA e.text) = nonws (clusters cxA ed.flat.text) := by
  refine ⟨_, h.eq, flat_withText_opts _ _, ?_⟩
  rw [flat_withText_text, clusters_flat_over hV (h.joined_over hSV), flat_text,
    clusters_flat_over hV ht]
  exact h.joined_nonws hS.ne

/-- line by line: splitting result and input at the separator and segmenting every piece, the
non-whitespace clusters agree line for line, and there are as many pieces.  `hu`, `hfree`: an
unbordered separator that no new line contains (both needed, `OpsStructure` has the
counterexamples) -/
theorem Replaced.nonws_lines (h : Replaced V ed o ls' res) (hV : VocabStable V = true)
    (ht : ∀ t ∈ ed.text, t ∈ V) (hS : GoodSep V (o.withDefaults cxB).lineSep)
    (hSV : ∀ t ∈ (o.withDefaults cxB).lineSep, t ∈ V)
    (hu : Unbordered (o.withDefaults cxB).lineSep)
    (hlen : ls'.length = (inLines cxB ed o).length)
    (hfree : ∀ l ∈ ls', indexOf (o.withDefaults cxB).lineSep l = none) :
    ∃ e, res = .ok e ∧ e.opts = ed.flat.opts ∧
      (splitOn e.text (o.flat.withDefaults cxA).lineSep).map (fun l => nonws (clusters cxA l)) =
        (splitOn ed.flat.text (o.flat.withDefaults cxA).lineSep).map
          (fun l => nonws (clusters cxA l)) ∧
      (splitOn e.text (o.flat.withDefaults cxA).lineSep).length =
        (splitOn ed.flat.text (o.flat.withDefaults cxA).lineSep).length := by
  refine ⟨_, h.eq, flat_withText_opts _ _, ?_⟩
  have h1 := lines_of_replaced hV ed o hS hSV hu ls' hlen h.over hfree
  have h2 := input_lines hV ed ht o hS
  have e1 : ∀ x : List (List Int),
      x.map (fun l => nonws (clusters cxA l)) = (x.map (clusters cxA)).map nonws := by
    intro x
    rw [List.map_map]
    rfl
  rw [lineSep_flat_gen o hS.tok_ne, flat_withText_text]
  refine ⟨?_, ?_⟩
  · rw [e1, e1, h1, h2]
    exact map_filter_append_congr _ _ _ _ h.keeps
  · have := congrArg List.length h1
    have := congrArg List.length h2
    simp only [List.length_map, List.length_append] at *
    omega

/-- a line separator that is a single token of the vocabulary -/
theorem goodSep_of_eq_singleton {s : List Int} (hs : (o.withDefaults cxB).lineSep = [s])
    (hS : GoodSep V [s]) : GoodSep V (o.withDefaults cxB).lineSep :=
  hs ▸ hS

end vocab

theorem specAlign_nonws (align w : Int) (l : List (List Int)) :
    nonws (specAlign align w l) = nonws l := by
  unfold specAlign
  split
  · exact alignLeft_nonws tkB cxB_sp_space w l
  · split
    · exact alignRight_nonws tkB cxB_sp_space w l
    · exact alignCenter_nonws tkB cxB_sp_space w l

/-- `AlignOpts` (Left / Right / Center) on code points, non-paragraph mode, any editor, any good
separator, replaces every line by the specification's aligned line -/
theorem alignOpts_no_loss {V : List (List Int)} (hV : VocabStable V = true) (hsp : [0x20] ∈ V)
    (ed : Editor (List Int)) (ht : ∀ t ∈ ed.text, t ∈ V) (align width : Int)
    (o : Options (List Int))
    (hal : align = Gen.alignLeft ∨ align = Gen.alignRight ∨ align = Gen.alignCenter)
    (hpp : o.preservePara = false) (hS : GoodSep V (o.withDefaults cxB).lineSep) :
    Replaced V ed o ((inLines cxB ed o).map (specAlign align width))
      (Editor.alignOpts cxA ed.flat align width o.flat) where
  eq := alignOpts_bridge_closed hV ed ht align width o hal hpp hS
  over := List.forall_mem_map.2 fun l hl => specAlign_over hsp align width (inLines_over ed ht o l hl)
  keeps := by
    rw [List.map_map]
    exact List.map_congr_left (fun l _ => specAlign_nonws align width l)

theorem nonws_replicate_sp (n : Nat) : nonws (List.replicate n cxB.sp) = [] := by
  unfold nonws
  rw [List.filter_eq_nil_iff]
  intro a ha
  rw [List.eq_of_mem_replicate ha]
  decide

/-- between two words `interleave` puts a run of spaces, whatever is left of `extra` -/
theorem interleave_cons_cons {α : Type} [DecidableEq α] (cx : Ctx α) (w w' : List α)
    (ws : List (List α)) (extra : List Nat) :
    ∃ n es, interleave cx (w :: w' :: ws) extra =
      w ++ List.replicate n cx.sp ++ interleave cx (w' :: ws) es := by
  cases extra with
  | nil => exact ⟨1, [], rfl⟩
  | cons e es => exact ⟨1 + e, es, rfl⟩

theorem nonws_interleave : ∀ (ws : List (List (List Int))) (extra : List Nat),
    nonws (interleave cxB ws extra) = nonws ws.flatten
  | [], _ => rfl
  | [w], _ => by simp only [interleave, List.flatten_cons, List.flatten_nil, List.append_nil]
  | w :: w' :: ws, extra => by
    obtain ⟨n, es, h⟩ := interleave_cons_cons cxB w w' ws extra
    rw [h, nonws_append, nonws_append, nonws_replicate_sp, List.append_nil,
      nonws_interleave (w' :: ws) es]
    exact (nonws_append w (w' :: ws).flatten).symm

theorem nonws_flatten_splitOn_sp (c : List (List Int)) :
    nonws (splitOn c [cxB.sp]).flatten = nonws c := by
  have h := filter_joinWith (fun c => !cxB.isSpace c) [cxB.sp] (splitOn c [cxB.sp])
  rw [joinWith_splitOn c [cxB.sp] (by simp)] at h
  have hs : ([cxB.sp] : List (List Int)).filter (fun c => !cxB.isSpace c) = [] := by decide
  rw [hs] at h
  unfold nonws
  rw [h, List.filter_flatten]
  exact (joinWith_nil_sep _).symm

theorem justified_nonws (l : List (List Int)) (w : Int) : nonws (justified cxB l w) = nonws l := by
  obtain ⟨-, h1, h2⟩ := justified_B_post l w
  have hc : nonws (Spec.collapse tkB l) = nonws l := collapse_nonws tkB cxB_sp_space l
  by_cases hcase : ((Spec.collapse tkB l).length : Int) ≥ w ∨ cxB.sp ∉ Spec.collapse tkB l
  · rw [h1 hcase, hc]
  · obtain ⟨-, -, extra, he, -⟩ := h2 hcase
    rw [he, nonws_interleave, nonws_flatten_splitOn_sp, hc]

/-- the replacement lines of `JustifyOpts`: every line justified (JustifyLastLine), or every line
but the last (default) -/
def justLines (ed : Editor (List Int)) (o : Options (List Int)) (width : Int) :
    List (List (List Int)) :=
  if o.justifyLast then (inLines cxB ed o).map (fun l => justified cxB l width)
  else mapInit (fun l => justified cxB l width) (inLines cxB ed o)

theorem justLines_length (ed : Editor (List Int)) (o : Options (List Int)) (width : Int) :
    (justLines ed o width).length = (inLines cxB ed o).length :=
  ParaStructure.justifyLines_length (fun l => justified cxB l width) o.justifyLast _

/-- every replacement line consists of tokens of an input line and spaces -/
theorem justLines_mem (ed : Editor (List Int)) (o : Options (List Int)) (width : Int) :
    ∀ l' ∈ justLines ed o width, ∃ l ∈ inLines cxB ed o, ∀ c ∈ l', c ∈ l ∨ c = cxB.sp := by
  intro l' hl'
  unfold justLines at hl'
  split at hl'
  · obtain ⟨l, hl, rfl⟩ := List.mem_map.1 hl'
    exact ⟨l, hl, justified_B_mem l width⟩
  · unfold mapInit at hl'
    rcases List.mem_append.1 hl' with h | h
    · obtain ⟨l, hl, rfl⟩ := List.mem_map.1 h
      exact ⟨l, List.dropLast_subset _ hl, justified_B_mem l width⟩
    · exact ⟨l', List.mem_of_mem_drop h, fun c hc => Or.inl hc⟩

theorem justLines_nonws (ed : Editor (List Int)) (o : Options (List Int)) (width : Int) :
    (justLines ed o width).map nonws = (inLines cxB ed o).map nonws := by
  unfold justLines
  split
  · rw [List.map_map]
    exact List.map_congr_left (fun l _ => justified_nonws l width)
  · unfold mapInit
    rw [List.map_append, List.map_map,
      List.map_congr_left (f := nonws ∘ fun l => justified cxB l width) (g := nonws)
        (fun l _ => justified_nonws l width), ← List.map_append,
      dropLast_append_drop]

/-- a one-token separator other than the space occurs in no replacement line -/
theorem justLines_free (ed : Editor (List Int)) (o : Options (List Int)) (width : Int)
    (s : List Int) (hs : (o.withDefaults cxB).lineSep = [s]) (hsne : s ≠ [0x20]) :
    ∀ l ∈ justLines ed o width, indexOf (o.withDefaults cxB).lineSep l = none := by
  intro l' hl'
  obtain ⟨l, hl, hm⟩ := justLines_mem ed o width l' hl'
  have h0 := inLines_free cxB ed o (by rw [hs]; simp) l hl
  rw [hs, indexOf_single_none_iff] at h0 ⊢
  intro hmem
  rcases hm s hmem with h | h
  · exact h0 h
  · exact hsne h

/-- `JustifyOpts` on code points, non-paragraph mode, JustifyLastLine on or off, any editor, any
good separator, replaces the lines by `justLines` -/
theorem justifyOpts_no_loss {V : List (List Int)} (hV : VocabStable V = true) (hsp : [0x20] ∈ V)
    (hspTail : ∀ t ∈ V, (0x20 : Int) ∉ t.tail) (ed : Editor (List Int))
    (ht : ∀ t ∈ ed.text, t ∈ V) (width : Int) (o : Options (List Int))
    (hpp : o.preservePara = false) (hS : GoodSep V (o.withDefaults cxB).lineSep) :
    Replaced V ed o (justLines ed o width) (Editor.justifyOpts cxA ed.flat width o.flat) where
  eq := by
    unfold justLines
    cases hjl : o.justifyLast with
    | true =>
      rw [if_pos rfl]
      exact (justifyOpts_bridge_all_closed hV hsp hspTail ed ht width o hpp hjl hS).1
    | false =>
      rw [if_neg (by simp)]
      exact justifyOpts_bridge_notLast_closed hV hsp hspTail ed ht width o hpp hjl hS
  over := by
    intro l' hl'
    obtain ⟨l, hl, hm⟩ := justLines_mem ed o width l' hl'
    exact over_of_mem_or_sp hsp (inLines_over ed ht o l hl) hm
  keeps := justLines_nonws ed o width

/-! ## Wrap on the specification, for a one-token separator -/

section spec
variable {α : Type} [DecidableEq α] (tk : Toks α)

theorem words_joinWith_ws (x : α) (hx : tk.ws x = true) : ∀ ls : List (List α),
    words tk (joinWith [x] ls) = ls.flatMap (words tk)
  | [] => rfl
  | [l] => by simp only [joinWith_singleton, List.flatMap_cons, List.flatMap_nil, List.append_nil]
  | l :: l' :: ls => by
    have ih := words_joinWith_ws x hx (l' :: ls)
    rw [joinWith_cons_cons, List.append_assoc, List.singleton_append, words_append_ws tk x hx, ih,
      List.flatMap_cons, List.flatMap_cons, List.flatMap_cons]

/-- turning a whitespace separator token into spaces does not change the words -/
theorem words_replaceAll_ws (hsp : tk.ws tk.sp = true) (x : α) (hx : tk.ws x = true)
    (text : List α) : words tk (replaceAll text [x] [tk.sp]) = words tk text := by
  unfold replaceAll
  rw [words_joinWith_ws tk tk.sp hsp]
  conv => rhs; rw [← joinWith_splitOn text [x] (by simp), words_joinWith_ws tk x hx]

/-- the last atom of a joined text whose last part is not empty is the last atom of that part -/
theorem getLast?_joinWith (sep : List α) (L : List (List α)) (hL : L ≠ [])
    (hl : L.getLast hL ≠ []) : (joinWith sep L).getLast? = (L.getLast hL).getLast? := by
  have h1 : L = L.dropLast ++ [L.getLast hL] := (List.dropLast_concat_getLast hL).symm
  have h2 : joinWith sep L = ((L.dropLast).map (· ++ sep)).flatten ++ L.getLast hL := by
    conv => lhs; rw [h1]
    rw [joinWith_append sep _ _ (by simp), joinWith_singleton]
  rw [h2, List.getLast?_append]
  cases hg : (L.getLast hL).getLast? with
  | none => exact absurd (List.getLast?_eq_none_iff.1 hg) hl
  | some c => rfl

/-- the text produced by `WrapOpts` (non-paragraph mode) for the one-token separator `[x]` -/
def wrapT (w : Nat) (x : α) (text : List α) : List α :=
  joinWith [x] (Spec.wrapLines tk w (replaceAll text [x] [tk.sp])) ++
    (if [x].isSuffixOf text then [x] else [])

/-- the words of the whole wrapped text, for a whitespace separator token: those of its lines -/
theorem words_wrapT (w : Nat) (x : α) (hx : tk.ws x = true) (text : List α) :
    words tk (wrapT tk w x text) =
      (Spec.wrapLines tk w (replaceAll text [x] [tk.sp])).flatMap (words tk) := by
  unfold wrapT
  split
  · rw [words_concat_ws tk x hx, words_joinWith_ws tk x hx]
  · rw [List.append_nil, words_joinWith_ws tk x hx]

/-- no wrapped line contains a separator that is neither the space nor the hyphen -/
theorem wrapLines_sep_free (w : Nat) (x : α) (hxsp : x ≠ tk.sp) (hxhy : x ≠ tk.hy)
    (text : List α) : ∀ l ∈ Spec.wrapLines tk w (replaceAll text [x] [tk.sp]), x ∉ l := by
  intro l hl hm
  rcases wrapLines_mem_tokens tk w _ l hl x hm with h | h | h
  · exact replaceAll_single_not_mem text x [tk.sp] (by simpa using hxsp) h
  · exact hxsp h
  · exact hxhy h

/-- the pieces obtained by splitting the wrapped text at the separator have the words of the
wrapped lines, and are the wrapped lines when there is one -/
theorem wrapT_split {w : Nat} (x : α) (hxsp : x ≠ tk.sp) (hxhy : x ≠ tk.hy) (text : List α) :
    (splitOn (wrapT tk w x text) [x]).flatMap (words tk) =
      (Spec.wrapLines tk w (replaceAll text [x] [tk.sp])).flatMap (words tk) ∧
    (Spec.wrapLines tk w (replaceAll text [x] [tk.sp]) ≠ [] →
      splitOn (wrapT tk w x text) [x] = Spec.wrapLines tk w (replaceAll text [x] [tk.sp]) ++
        (if [x].isSuffixOf text then [[]] else [])) := by
  have hfree := wrapLines_sep_free tk w x hxsp hxhy text
  unfold wrapT
  generalize Spec.wrapLines tk w (replaceAll text [x] [tk.sp]) = L at hfree ⊢
  have key : L ≠ [] → splitOn (joinWith [x] L ++ (if [x].isSuffixOf text then [x] else [])) [x] =
      L ++ (if [x].isSuffixOf text then [[]] else []) := by
    intro hL
    have hT : joinWith [x] L ++ (if [x].isSuffixOf text then [x] else []) =
        joinWith [x] (L ++ (if [x].isSuffixOf text then [[]] else [])) := by
      split
      · rw [joinWith_append_nil _ L hL]
      · simp
    rw [hT, splitOn_joinWith_single x _ (by simp [hL])]
    intro l hl
    rcases List.mem_append.1 hl with hl | hl
    · exact hfree l hl
    · split at hl
      · rw [List.mem_singleton] at hl; subst hl; exact List.not_mem_nil
      · cases hl
  refine ⟨?_, key⟩
  by_cases hL : L = []
  · subst hL
    split
    · have : splitOn ([x] : List α) [x] = [[], []] := by
        have := splitOn_joinWith_single x [[], []] (by simp) (by simp)
        simpa [joinWith_cons_cons] using this
      simp only [joinWith_nil, List.nil_append, this]
      rfl
    · simp only [joinWith_nil, List.append_nil, splitOn_nil [x] (by simp)]
      rfl
  · rw [key hL, List.flatMap_append]
    split
    · simp only [List.flatMap_cons, List.flatMap_nil, List.append_nil, words_nil]
    · simp

/-- without a word the result is the trailing separator alone -/
theorem wrapT_of_no_word (w : Nat) (x : α) (text : List α)
    (hwd : words tk (replaceAll text [x] [tk.sp]) = []) :
    wrapT tk w x text = if [x].isSuffixOf text then [x] else [] := by
  unfold wrapT
  by_cases h0 : replaceAll text [x] [tk.sp] = []
  · rw [h0]
    simp [Spec.wrapLines]
  · rw [(wrapLines_eq_nil_iff tk w _).2 ⟨h0, hwd⟩]
    simp

theorem wrapT_nil (w : Nat) (x : α) : wrapT tk w x [] = [] := by
  rw [wrapT_of_no_word tk w x [] rfl]
  simp [List.isSuffixOf]

theorem wrapT_single (w : Nat) (hsp : tk.ws tk.sp = true) (x : α) : wrapT tk w x [x] = [x] := by
  have h1 : replaceAll ([x] : List α) [x] [tk.sp] = [tk.sp] := by
    rw [replaceAll_single]
    simp
  rw [wrapT_of_no_word tk w x [x] (by rw [h1]; simp [words, wordsAux, hsp]),
    if_pos ((isSuffixOf_dec_iff _ _).2 (List.suffix_refl _))]

/-- the separator pre-pass of a second run turns the separators between the wrapped lines, and
the trailing one, into spaces -/
theorem replaceAll_wrapT {w : Nat} (x : α) (hxhy : x ≠ tk.hy) (text : List α)
    (hL : Spec.wrapLines tk w (replaceAll text [x] [tk.sp]) ≠ []) :
    replaceAll (wrapT tk w x text) [x] [tk.sp] =
      joinWith [tk.sp] (Spec.wrapLines tk w (replaceAll text [x] [tk.sp])) ++
        (if [x].isSuffixOf text then [tk.sp] else []) := by
  by_cases hxsp : x = tk.sp
  · subst hxsp
    rw [replaceAll_single_self]
    rfl
  · rw [show replaceAll (wrapT tk w x text) [x] [tk.sp] =
      joinWith [tk.sp] (splitOn (wrapT tk w x text) [x]) from rfl,
      (wrapT_split tk x hxsp hxhy text).2 hL]
    split
    · rw [joinWith_append_nil _ _ hL]
    · simp

/-- a wrapped line does not end with the separator: it does not end with whitespace, and a
separator other than the space is in no line -/
theorem wrapLines_last_ne_sep {w : Nat} (hw : 2 ≤ w) (hsp : tk.ws tk.sp = true)
    (hhy : tk.ws tk.hy = false) (x : α) (hxhy : x ≠ tk.hy) (text : List α) :
    ∀ l ∈ Spec.wrapLines tk w (replaceAll text [x] [tk.sp]), l.getLast? ≠ some x := by
  intro l hl h
  by_cases hxsp : x = tk.sp
  · have := wrapLines_last_not_ws tk hw hhy _ l hl x h
    rw [hxsp, hsp] at this
    cases this
  · exact wrapLines_sep_free tk w x hxsp hxhy text l hl (List.mem_of_getLast? h)

/-- the wrapped text ends with the separator exactly when the input did -/
theorem wrapT_suffix {w : Nat} (hw : 2 ≤ w) (hsp : tk.ws tk.sp = true)
    (hhy : tk.ws tk.hy = false) (x : α) (hxhy : x ≠ tk.hy) (text : List α)
    (hwd : words tk (replaceAll text [x] [tk.sp]) ≠ []) :
    [x].isSuffixOf (wrapT tk w x text) = [x].isSuffixOf text := by
  have hL := mt (wrapLines_eq_nil_iff tk w _).1 fun h => hwd h.2
  have hLne := wrapLines_nonempty tk hw _ hwd
  unfold wrapT
  cases hb : [x].isSuffixOf text with
  | true =>
    rw [if_pos rfl, isSuffixOf_dec_iff]
    exact ⟨_, rfl⟩
  | false =>
    simp only [Bool.false_eq_true, if_false, List.append_nil]
    rw [← Bool.not_eq_true, isSuffixOf_dec_iff, List.singleton_suffix_iff_getLast?_eq_some,
      getLast?_joinWith [x] _ hL (hLne _ (List.getLast_mem hL))]
    exact wrapLines_last_ne_sep tk hw hsp hhy x hxhy text _ (List.getLast_mem hL)

/-- Wrap, then Wrap again with the same width and separator: nothing changes (one-token separator
other than the hyphen; the space is allowed) -/
theorem wrapT_idem {w : Nat} (hw : 2 ≤ w) (hsp : tk.ws tk.sp = true) (hhy : tk.ws tk.hy = false)
    (x : α) (hxhy : x ≠ tk.hy) (text : List α) :
    wrapT tk w x (wrapT tk w x text) = wrapT tk w x text := by
  by_cases hwd : words tk (replaceAll text [x] [tk.sp]) = []
  · rw [wrapT_of_no_word tk w x text hwd]
    split
    · exact wrapT_single tk w hsp x
    · exact wrapT_nil tk w x
  · have hL := mt (wrapLines_eq_nil_iff tk w _).1 fun h => hwd h.2
    have hidem := wrapLines_idem tk hw hsp hhy _ hwd
    -- the second run sees the words of the wrapped lines, so it wraps to the same lines
    have hwl : Spec.wrapLines tk w (replaceAll (wrapT tk w x text) [x] [tk.sp]) =
        Spec.wrapLines tk w (replaceAll text [x] [tk.sp]) := by
      rw [replaceAll_wrapT tk x hxhy text hL]
      split
      · rw [wrapLines_congr_words tk w _ (joinWith [tk.sp] _) (by simp)
          (joinSp_ne_nil tk hL (wrapLines_nonempty tk hw _ hwd)) (words_concat_ws tk _ hsp _)]
        exact hidem
      · rw [List.append_nil]
        exact hidem
    have hstep : ∀ t, wrapT tk w x t =
        joinWith [x] (Spec.wrapLines tk w (replaceAll t [x] [tk.sp])) ++
          (if [x].isSuffixOf t then [x] else []) := fun _ => rfl
    rw [hstep (wrapT tk w x text), hwl, wrapT_suffix tk hw hsp hhy x hxhy text hwd]
    rfl

end spec

/-- the clamped width as a natural number -/
abbrev wid (w : Int) : Nat := (max w 2).toNat

theorem two_le_wid (w : Int) : 2 ≤ wid w := by unfold wid; omega

/-- the input of the wrap loop on clusters: line separators replaced by spaces -/
def wrapIn (ed : Editor (List Int)) (o : Options (List Int)) : List (List Int) :=
  replaceAll' cxB ed.text (o.withDefaults cxB).lineSep

/-- the wrapped lines on clusters -/
def wrapLinesB (ed : Editor (List Int)) (w : Int) (o : Options (List Int)) :
    List (List (List Int)) :=
  Spec.wrapLines tkB (wid w) (wrapIn ed o)

/-- the new text on clusters: the wrapped lines joined by the separator, plus one more separator
exactly when the input ended with one -/
def wrapTextB (ed : Editor (List Int)) (w : Int) (o : Options (List Int)) : List (List Int) :=
  joinWith (o.withDefaults cxB).lineSep (wrapLinesB ed w o) ++
    -- the model's `BEq` instance, see `BridgeEditorParas.GoodPara`
    (if @List.isSuffixOf (List Int) instBEqOfDecidableEq (o.withDefaults cxB).lineSep ed.text
      then (o.withDefaults cxB).lineSep else [])

theorem hy_not_ws : tkB.ws tkB.hy = false := by decide

/-- the cluster-level text of `WrapOpts` for a one-token separator is `wrapT` -/
theorem wrapTextB_tok (ed : Editor (List Int)) (w : Int) (o : Options (List Int)) (s : List Int)
    (hs : (o.withDefaults cxB).lineSep = [s]) :
    wrapTextB ed w o = wrapT tkB (wid w) s ed.text := by
  unfold wrapTextB wrapLinesB wrapIn wrapT replaceAll'
  rw [hs]
  rfl

/-- on clusters: wrapping the wrapped text again gives the same text (one-token separator other
than the hyphen) -/
theorem wrapTextB_idem (ed : Editor (List Int)) (w : Int) (o : Options (List Int)) (s : List Int)
    (hs : (o.withDefaults cxB).lineSep = [s]) (hshy : s ≠ [0x2D]) :
    wrapTextB (ed.withText (wrapTextB ed w o)) w o = wrapTextB ed w o := by
  rw [wrapTextB_tok _ w o s hs, Editor.withText_text, wrapTextB_tok ed w o s hs]
  exact wrapT_idem tkB (two_le_wid w) cxB_sp_space hy_not_ws s hshy ed.text

/-- on clusters: the whole wrapped text, split at whitespace and de-hyphenated, gives the words
of the input (one-token whitespace separator) -/
theorem wrapTextB_dehyphen (ed : Editor (List Int)) (w : Int) (o : Options (List Int))
    (s : List Int) (hs : (o.withDefaults cxB).lineSep = [s]) (hsws : cxB.isSpace s = true)
    (hok : HyOK tkB (wid w) ed.text) :
    dehyphen tkB (wid w) [wrapTextB ed w o] = words tkB ed.text := by
  have hw0 : words tkB (replaceAll ed.text [s] [tkB.sp]) = words tkB ed.text :=
    words_replaceAll_ws tkB cxB_sp_space s hsws ed.text
  have hok' : HyOK tkB (wid w) (replaceAll ed.text [s] [tkB.sp]) := by
    unfold HyOK at hok ⊢
    rw [hw0]
    exact hok
  rw [wrapTextB_tok ed w o s hs]
  unfold dehyphen
  rw [List.flatMap_cons, List.flatMap_nil, List.append_nil, words_wrapT tkB _ s hsws]
  have h := dehyphen_wrapLines tkB (two_le_wid w) cxB_sp_space hy_not_ws _ hok'
  unfold dehyphen at h
  rw [h, hw0]

section vocab
variable {V : List (List Int)}

/-- closed form of `WrapOpts` on code points (any good separator, any editor) -/
theorem wrapOpts_closed (hV : VocabStable V = true) (hsp : [0x20] ∈ V)
    (hspTail : ∀ t ∈ V, (0x20 : Int) ∉ t.tail)
    (ed : Editor (List Int)) (ht : ∀ t ∈ ed.text, t ∈ V) (w : Int) (o : Options (List Int))
    (hpp : o.preservePara = false) (hS : GoodSep V (o.withDefaults cxB).lineSep) :
    Editor.wrapOpts cxA ed.flat w o.flat = .ok (ed.withText (wrapTextB ed w o)).flat := by
  rw [wrapOpts_bridge_good hV hsp hspTail ed ht w o hpp hS, wrapOpts_B_closed ed w o hpp]
  rfl

/-- … spelled out: it succeeds, keeps the receiver's options, and the new text is the flattening
of `wrapTextB` -/
theorem wrapOpts_closed_text (hV : VocabStable V = true) (hsp : [0x20] ∈ V)
    (hspTail : ∀ t ∈ V, (0x20 : Int) ∉ t.tail)
    (ed : Editor (List Int)) (ht : ∀ t ∈ ed.text, t ∈ V) (w : Int) (o : Options (List Int))
    (hpp : o.preservePara = false) (hS : GoodSep V (o.withDefaults cxB).lineSep) :
    ∃ e, Editor.wrapOpts cxA ed.flat w o.flat = .ok e ∧ e.opts = ed.flat.opts ∧
      e.text = (wrapTextB ed w o).flatten :=
  ⟨_, wrapOpts_closed hV hsp hspTail ed ht w o hpp hS, flat_withText_opts _ _,
    flat_withText_text _ _⟩

/-- the input of the wrap loop, seen from the code points: segmenting the code-point text after
the separator pre-pass gives the cluster-level input -/
theorem wrapIn_code_points (hV : VocabStable V = true) (hsp : [0x20] ∈ V)
    (ed : Editor (List Int)) (ht : ∀ t ∈ ed.text, t ∈ V) (o : Options (List Int))
    (hS : GoodSep V (o.withDefaults cxB).lineSep) :
    clusters cxA (replaceAll' cxA ed.flat.text (o.flat.withDefaults cxA).lineSep) = wrapIn ed o := by
  rw [lineSep_flat_gen o hS.tok_ne, flat_text, hS.replaceAll' ed.text ht]
  exact clusters_flat_over hV (replaceAll'_over hsp ed.text ht _)

theorem wrapLinesB_over (hsp : [0x20] ∈ V) (hhy : [0x2D] ∈ V) (ed : Editor (List Int))
    (ht : ∀ t ∈ ed.text, t ∈ V) (w : Int) (o : Options (List Int)) :
    ∀ line ∈ wrapLinesB ed w o, ∀ c ∈ line, c ∈ V :=
  wrapLines_spec_over hsp hhy _ _ (replaceAll'_over hsp ed.text ht _)

theorem wrapTextB_over (hsp : [0x20] ∈ V) (hhy : [0x2D] ∈ V) (ed : Editor (List Int))
    (ht : ∀ t ∈ ed.text, t ∈ V) (w : Int) (o : Options (List Int))
    (hSV : ∀ t ∈ (o.withDefaults cxB).lineSep, t ∈ V) : ∀ t ∈ wrapTextB ed w o, t ∈ V := by
  intro t h
  unfold wrapTextB at h
  rcases List.mem_append.1 h with h | h
  · exact LayoutSim.joinWith_forall hSV (wrapLinesB_over hsp hhy ed ht w o) t h
  · split at h
    · exact hSV t h
    · cases h

/-- the output side: splitting the code-point result at the separator and segmenting every piece
gives the split of the cluster-level text -/
theorem wrapOpts_out_lines (hV : VocabStable V = true) (hsp : [0x20] ∈ V) (hhy : [0x2D] ∈ V)
    (ed : Editor (List Int)) (ht : ∀ t ∈ ed.text, t ∈ V) (w : Int) (o : Options (List Int))
    (hS : GoodSep V (o.withDefaults cxB).lineSep)
    (hSV : ∀ t ∈ (o.withDefaults cxB).lineSep, t ∈ V) :
    (splitOn (wrapTextB ed w o).flatten (o.flat.withDefaults cxA).lineSep).map (clusters cxA) =
      splitOn (wrapTextB ed w o) (o.withDefaults cxB).lineSep := by
  have hT := wrapTextB_over hsp hhy ed ht w o hSV
  rw [lineSep_flat_gen o hS.tok_ne, hS.split _ hT,
    map_clusters_flatten_over hV (splitOn_over hT _)]

/-- from the output alone, for a separator that is one cluster other than the space and the hyphen:
split the code-point result at the separator, segment every piece, split at whitespace and undo
the continuation hyphens (`dehyphen`); this gives the words of the input with its line separators
read as whitespace, provided no word can be mistaken for a continuation piece (`HyOK`, necessary:
`Spec.dehyphen_impossible`) -/
theorem wrapTextB_dehyphen_lines (hV : VocabStable V = true) (hsp : [0x20] ∈ V)
    (hhy : [0x2D] ∈ V) (ed : Editor (List Int)) (ht : ∀ t ∈ ed.text, t ∈ V) (w : Int)
    (o : Options (List Int)) (s : List Int) (hs : (o.withDefaults cxB).lineSep = [s])
    (hsV : s ∈ V) (hsne : s ≠ [0x20]) (hshy : s ≠ [0x2D]) (hS : GoodSep V [s])
    (hok : HyOK tkB (wid w) (wrapIn ed o)) :
    dehyphen tkB (wid w)
        ((splitOn (wrapTextB ed w o).flatten (o.flat.withDefaults cxA).lineSep).map (clusters cxA)) =
      words tkB (wrapIn ed o) := by
  rw [wrapOpts_out_lines hV hsp hhy ed ht w o (goodSep_of_eq_singleton hs hS)
    (mem_of_eq_singleton hs hsV), hs, wrapTextB_tok ed w o s hs]
  unfold dehyphen
  rw [(wrapT_split tkB s hsne hshy ed.text).1]
  have h := dehyphen_wrapLines tkB (two_le_wid w) cxB_sp_space hy_not_ws (wrapIn ed o) hok
  unfold dehyphen wrapIn replaceAll' at h
  rw [hs] at h
  unfold wrapIn replaceAll'
  rw [hs]
  exact h

/-- Wrapping already wrapped text to the same width with the same options changes nothing: on code
points over a stable vocabulary containing the space and the hyphen, non-paragraph mode, any
editor (sub-editors too), any trailing-separator policy, for a line separator that is ONE cluster
of the vocabulary other than the hyphen (`"\n"`, CR LF, even `" "`).

* `hs` (the separator is one cluster) is a convenience: the closed form `wrapT` and the argument
  that no wrapped line contains the separator are for one token; a multi-cluster separator such as
  `"a-"` can be spelled by a hyphenated break, like the hyphen itself;
* `hshy` (the separator is not the hyphen) is necessary: `wrapOpts_idem_needs_not_hyphen`;
* `hhy`, `hsV` (the hyphen and the separator are vocabulary clusters) let the bridge be applied to
  the OUTPUT, whose clusters are those of the input, spaces, hyphens and separators.  `hhy` does
  not restrict the texts covered: `vocabStable_cons_hyphen`. -/
theorem wrapOpts_idempotent_code_points (hV : VocabStable V = true) (hsp : [0x20] ∈ V)
    (hhy : [0x2D] ∈ V) (hspTail : ∀ t ∈ V, (0x20 : Int) ∉ t.tail)
    (ed : Editor (List Int)) (ht : ∀ t ∈ ed.text, t ∈ V) (w : Int) (o : Options (List Int))
    (hpp : o.preservePara = false) (s : List Int) (hs : (o.withDefaults cxB).lineSep = [s])
    (hsV : s ∈ V) (hshy : s ≠ [0x2D]) (hS : GoodSep V [s]) :
    (Editor.wrapOpts cxA ed.flat w o.flat >>= fun e => Editor.wrapOpts cxA e w o.flat) =
      Editor.wrapOpts cxA ed.flat w o.flat :=
  idem_of_closed (fun e => Editor.wrapOpts cxA e w o.flat) (fun ed => wrapTextB ed w o)
    (fun ed ht => wrapOpts_closed hV hsp hspTail ed ht w o hpp (goodSep_of_eq_singleton hs hS)) ed ht
    (wrapTextB_over hsp hhy ed ht w o (mem_of_eq_singleton hs hsV)) (wrapTextB_idem ed w o s hs hshy)

end vocab

/-- the separator must not be the hyphen: wrapping `"abcd"` to width 3 with the line separator
`"-"` gives `"ab-" ++ "-" ++ "cd"`, and wrapping that again reads both hyphens as separators -/
theorem wrapOpts_idem_needs_not_hyphen :
    VocabStable [[0x61], [0x62], [0x63], [0x64], [0x20], [0x2D]] = true ∧
    (Editor.wrapOpts cxA (.root [0x61, 0x62, 0x63, 0x64] {}) 3 { lineSep := [0x2D] }).map
        Editor.text = .ok [0x61, 0x62, 0x2D, 0x2D, 0x63, 0x64] ∧
    (Editor.wrapOpts cxA (.root [0x61, 0x62, 0x63, 0x64] {}) 3 { lineSep := [0x2D] } >>=
      fun e => Editor.wrapOpts cxA e 3 { lineSep := [0x2D] }).map Editor.text =
        .ok [0x61, 0x62, 0x2D, 0x63, 0x64] :=
  ⟨by decide +kernel, of_okEq (by decide +kernel), of_okEq (by decide +kernel)⟩

/-- U+002D and U+0020 have the same grapheme-cluster-break class, and `VocabStable` only looks at
classes: the hyphen can be added to any stable vocabulary that has the space -/
theorem vocabStable_cons_hyphen {V : List (List Int)} (hV : VocabStable V = true)
    (hsp : [0x20] ∈ V) : VocabStable ([0x2D] :: V) = true := by
  have key : ([0x2D] : List Int).map classOf = ([0x20] : List Int).map classOf := by
    decide +kernel
  have hcls : ∀ v ∈ [0x2D] :: V, ∃ u ∈ V, v.map classOf = u.map classOf := by
    intro v hv
    rcases List.mem_cons.1 hv with rfl | hv
    · exact ⟨_, hsp, key⟩
    · exact ⟨v, hv, rfl⟩
  unfold VocabStable at hV ⊢
  rw [Bool.and_eq_true, List.all_eq_true, List.all_eq_true] at hV ⊢
  obtain ⟨hs, hj⟩ := hV
  constructor
  · intro v hv
    obtain ⟨u, hu, e⟩ := hcls v hv
    rw [e]; exact hs u hu
  · intro v₁ h1
    rw [List.all_eq_true]
    intro v₂ h2
    obtain ⟨u₁, hu1, e1⟩ := hcls v₁ h1
    obtain ⟨u₂, hu2, e2⟩ := hcls v₂ h2
    rw [e1, e2]
    have := hj u₁ hu1
    rw [List.all_eq_true] at this
    exact this u₂ hu2

/-- the collapsed text on clusters -/
def collapseB (ed : Editor (List Int)) (o : Options (List Int)) : List (List Int) :=
  Spec.collapse tkB (replaceAll' cxB ed.text (o.withDefaults cxB).lineSep)

/-- line separators for which CollapseSpace is idempotent: one cluster (`"\n"`, CR LF, `" "`,
`"x"` …), or several clusters one of which is whitespace other than the space (`"\n\n"` …).  A
separator such as `"a b"` is not: `C07_collapseSpaceOpts_idempotent_needs_sep`. -/
def SepCollapseOK (S : List (List Int)) : Prop :=
  (∃ s, S = [s]) ∨ ∃ x ∈ S, cxB.isSpace x = true ∧ x ≠ [0x20]

theorem indexOf_none_of_not_mem {α : Type} [DecidableEq α] (S t : List α) (x : α) (hx : x ∈ S)
    (hn : x ∉ t) : indexOf S t = none := by
  cases h : indexOf S t with
  | none => rfl
  | some i =>
    exfalso
    obtain ⟨h1, -⟩ := indexOf_some_spec S t i h
    apply hn
    rw [h1]
    simp [hx]

/-- the separator pre-pass leaves an already collapsed text alone: a one-token separator is the
space or does not occur in it, a whitespace token other than the space does not occur in it -/
theorem replaceAll'_collapse_fixed (S : List (List Int)) (hok : SepCollapseOK S)
    (text : List (List Int)) :
    replaceAll' cxB (Spec.collapse tkB (replaceAll' cxB text S)) S =
      Spec.collapse tkB (replaceAll' cxB text S) := by
  rcases hok with ⟨s, rfl⟩ | ⟨x, hxS, hxws, hxne⟩
  · have e : ∀ t : List (List Int), replaceAll' cxB t [s] = replaceAll t [s] [cxB.sp] := fun _ => rfl
    rw [e, e]
    by_cases hs : s = cxB.sp
    · subst hs
      exact replaceAll_single_self _ _
    · apply replaceAll_single_of_not_mem
      intro h
      rcases collapse_mem tkB _ s h with h | h
      · exact replaceAll_single_not_mem text s [cxB.sp] (by simpa using hs) h
      · exact hs h
  · have hSne : S ≠ [] := by intro h; rw [h] at hxS; cases hxS
    have hxn : x ∉ Spec.collapse tkB (replaceAll' cxB text S) := by
      intro h
      exact hxne (collapse_only_sp' tkB _ x h hxws)
    have e : ∀ t : List (List Int), replaceAll' cxB t S = replaceAll t S [cxB.sp] := by
      intro t
      unfold replaceAll'
      rw [if_neg]
      simpa [List.isEmpty_iff] using hSne
    rw [e (Spec.collapse tkB _)]
    unfold replaceAll
    rw [splitOn_of_indexOf_none S hSne _ (indexOf_none_of_not_mem S _ x hxS hxn), joinWith_singleton]

/-- on clusters: collapsing the collapsed text again gives the same text -/
theorem collapseB_idem (ed : Editor (List Int)) (o : Options (List Int))
    (hok : SepCollapseOK (o.withDefaults cxB).lineSep) :
    collapseB (ed.withText (collapseB ed o)) o = collapseB ed o := by
  unfold collapseB
  rw [Editor.withText_text, replaceAll'_collapse_fixed _ hok, collapse_idem']

section vocab
variable {V : List (List Int)}

theorem collapseB_over (hsp : [0x20] ∈ V) (ed : Editor (List Int)) (ht : ∀ t ∈ ed.text, t ∈ V)
    (o : Options (List Int)) : ∀ t ∈ collapseB ed o, t ∈ V := by
  intro t h
  rcases collapse_mem tkB _ t h with h | h
  · exact replaceAll'_over hsp ed.text ht _ t h
  · rw [h]; exact hsp

/-- closed form of `CollapseSpaceOpts` on code points -/
theorem collapseSpaceOpts_closed (hV : VocabStable V = true) (hsp : [0x20] ∈ V)
    (hspTail : ∀ t ∈ V, (0x20 : Int) ∉ t.tail)
    (ed : Editor (List Int)) (ht : ∀ t ∈ ed.text, t ∈ V) (o : Options (List Int))
    (hS : GoodSep V (o.withDefaults cxB).lineSep) :
    Editor.collapseSpaceOpts cxA ed.flat o.flat = .ok (ed.withText (collapseB ed o)).flat := by
  rw [collapseSpaceOpts_bridge_good hV hsp hspTail ed ht o hS, collapseSpaceOpts_B_closed]
  rfl

end vocab

/-! ## paragraph mode (affix-free paragraph separators) -/

section para
open ParaStructure BridgeEditorParas
variable {V : List (List Int)}

/-- the paragraphs on the two levels correspond, and the cluster-level ones are over `V` -/
theorem paragraphsOf_bridge (hV : VocabStable V = true) (ed : Editor (List Int))
    (ht : ∀ t ∈ ed.text, t ∈ V) (o : Options (List Int))
    (hG : GoodPara V (o.withDefaults cxB).lineSep (o.withDefaults cxB).paraSep) :
    paragraphsOf ed.flat.text (o.flat.withDefaults cxA) =
        (paragraphsOf ed.text (o.withDefaults cxB)).map List.flatten ∧
      ∀ p ∈ paragraphsOf ed.text (o.withDefaults cxB), ∀ t ∈ p, t ∈ V := by
  constructor
  · rw [← paraCallsOf_paragraphs, ← paraCallsOf_paragraphs, flat_text,
      paraCallsOf_bridge hV ed.text ht o hG, List.map_map, List.map_map]
    rfl
  · intro p hp
    rw [← paraCallsOf_paragraphs] at hp
    obtain ⟨c, hc, rfl⟩ := List.mem_map.1 hp
    exact (paraCallsOf_over ed.text ht o hG.lineV hG.paraV c hc).1

/-- a paragraph as an editor of its own (`single`), on the two levels -/
theorem single_root_flat (p : List (List Int)) (o : Options (List Int)) :
    (Editor.root p (single o)).flat = Editor.root p.flatten (single o.flat) := rfl

theorem single_flat (o : Options (List Int)) : (single o).flat = single o.flat := rfl

theorem single_lineSep_B (o : Options (List Int)) :
    ((single o).withDefaults cxB).lineSep = (o.withDefaults cxB).lineSep :=
  (single_fields cxB o).1

theorem single_pp (o : Options (List Int)) : (single o).preservePara = false := rfl

theorem goodSep_single {o : Options (List Int)}
    (hG : GoodPara V (o.withDefaults cxB).lineSep (o.withDefaults cxB).paraSep) :
    GoodSep V ((single o).withDefaults cxB).lineSep := by
  rw [single_lineSep_B]
  exact hG.line

/-- a paragraph-wise result on code points (the paragraph-separator join of `F` of the paragraphs),
read on clusters: the input is the paragraphs (token lists over `V`) joined by the paragraph
separator, the result is the per-paragraph results joined by the SAME paragraph separators, as many,
in the same places.  `G` gives the per-paragraph result on clusters -/
theorem para_code_points (hV : VocabStable V = true) (ed : Editor (List Int))
    (ht : ∀ t ∈ ed.text, t ∈ V) (o : Options (List Int))
    (hG : GoodPara V (o.withDefaults cxB).lineSep (o.withDefaults cxB).paraSep)
    (F : List Int → List Int) (res : R (Editor Int))
    (h : res = .ok (ed.flat.withText (joinWith (o.flat.withDefaults cxA).paraSep
      ((paragraphsOf ed.flat.text (o.flat.withDefaults cxA)).map F))))
    (G : List (List Int) → List (List Int))
    (hFG : ∀ p : List (List Int), (∀ t ∈ p, t ∈ V) → F p.flatten = (G p).flatten) :
    ∃ e, res = .ok e ∧ e.opts = ed.flat.opts ∧
      ed.flat.text = joinWith (o.flat.withDefaults cxA).paraSep
        ((paragraphsOf ed.text (o.withDefaults cxB)).map List.flatten) ∧
      e.text = joinWith (o.flat.withDefaults cxA).paraSep
        ((paragraphsOf ed.text (o.withDefaults cxB)).map (fun p => (G p).flatten)) ∧
      (∀ p ∈ paragraphsOf ed.text (o.withDefaults cxB), ∀ t ∈ p, t ∈ V) := by
  obtain ⟨hb, hover⟩ := paragraphsOf_bridge hV ed ht o hG
  refine ⟨_, h, Editor.withText_opts _ _, ?_, ?_, hover⟩
  · rw [← hb]
    exact (joinWith_paragraphsOf _ _).symm
  · rw [Editor.withText_text, hb, List.map_map]
    exact congrArg _ (List.map_congr_left fun p hp => hFG p (hover p hp))

/-- whole-text corollary of a paragraph-wise result whose pieces keep the non-whitespace clusters -/
theorem para_nonws_text (hV : VocabStable V = true) (ed : Editor (List Int))
    (ht : ∀ t ∈ ed.text, t ∈ V) (o : Options (List Int))
    (hG : GoodPara V (o.withDefaults cxB).lineSep (o.withDefaults cxB).paraSep)
    (G : List (List Int) → List (List Int)) (e : Editor Int)
    (he : e.text = joinWith (o.flat.withDefaults cxA).paraSep
        ((paragraphsOf ed.text (o.withDefaults cxB)).map (fun p => (G p).flatten)))
    (hover : ∀ p ∈ paragraphsOf ed.text (o.withDefaults cxB), ∀ t ∈ G p, t ∈ V)
    (hnw : ∀ p ∈ paragraphsOf ed.text (o.withDefaults cxB), nonws (G p) = nonws p) :
    nonws (clusters cxA e.text) = nonws (clusters cxA ed.flat.text) := by
  have hj : ∀ t ∈ joinWith (o.withDefaults cxB).paraSep
      ((paragraphsOf ed.text (o.withDefaults cxB)).map G), t ∈ V :=
    LayoutSim.joinWith_forall hG.paraV (List.forall_mem_map.2 hover)
  have e1 : (paragraphsOf ed.text (o.withDefaults cxB)).map (fun p => (G p).flatten) =
      ((paragraphsOf ed.text (o.withDefaults cxB)).map G).map List.flatten := by
    rw [List.map_map]; rfl
  rw [he, paraSep_flat_gen o hG.para.tok_ne, e1, joinWith_flatten, clusters_flat_over hV hj,
    flat_text, clusters_flat_over hV ht]
  conv => rhs; rw [← joinWith_paragraphsOf ed.text (o.withDefaults cxB)]
  apply filter_joinWith_congr
  rw [List.map_map]
  exact List.map_congr_left (fun p hp => hnw p hp)

/-- Align / Justify in paragraph mode: a paragraph-wise operation (`hPW`) whose per-paragraph
function is the non-paragraph operation `opS` on the paragraph as an editor of its own (`hsingle`), the latter
replacing the lines of the paragraph (`hnl`).  Every paragraph separator is kept in place; the
piece for the paragraph `p` is the text `G p` of `opS` on `p`, it is over `V` and has the
non-whitespace clusters of `p`; hence those of the whole text are unchanged -/
theorem para_of_replaced (hV : VocabStable V = true) (ed : Editor (List Int))
    (ht : ∀ t ∈ ed.text, t ∈ V) (o : Options (List Int))
    (hG : GoodPara V (o.withDefaults cxB).lineSep (o.withDefaults cxB).paraSep)
    (F : List Int → List Int) (res : R (Editor Int))
    (hPW : res = .ok (ed.flat.withText (joinWith (o.flat.withDefaults cxA).paraSep
      ((paragraphsOf ed.flat.text (o.flat.withDefaults cxA)).map F))))
    (opS : Editor Int → R (Editor Int))
    (hsingle : ∀ q : List Int,
      opS (Editor.root q (single o.flat)) = .ok (Editor.root (F q) (single o.flat)))
    (L' : List (List Int) → List (List (List Int)))
    (hnl : ∀ p : List (List Int), (∀ t ∈ p, t ∈ V) →
      Replaced V (Editor.root p (single o)) (single o) (L' p) (opS (Editor.root p (single o)).flat)) :
    ∃ (e : Editor Int) (G : List (List Int) → List (List Int)),
      res = .ok e ∧ e.opts = ed.flat.opts ∧
      ed.flat.text = joinWith (o.flat.withDefaults cxA).paraSep
        ((paragraphsOf ed.text (o.withDefaults cxB)).map List.flatten) ∧
      e.text = joinWith (o.flat.withDefaults cxA).paraSep
        ((paragraphsOf ed.text (o.withDefaults cxB)).map (fun p => (G p).flatten)) ∧
      (∀ p ∈ paragraphsOf ed.text (o.withDefaults cxB),
        (∀ t ∈ p, t ∈ V) ∧ (∀ t ∈ G p, t ∈ V) ∧ nonws (G p) = nonws p ∧
        opS (Editor.root p (single o)).flat = .ok (Editor.root (G p) (single o)).flat) ∧
      nonws (clusters cxA e.text) = nonws (clusters cxA ed.flat.text) := by
  let G : List (List Int) → List (List Int) := fun p =>
    joinWith ((single o).withDefaults cxB).lineSep
      (L' p ++ trailing cxB (Editor.root p (single o)) (single o))
  have hSV : ∀ t ∈ ((single o).withDefaults cxB).lineSep, t ∈ V := by
    rw [single_lineSep_B]
    exact hG.lineV
  have hFG : ∀ p : List (List Int), (∀ t ∈ p, t ∈ V) → F p.flatten = (G p).flatten := by
    intro p hp
    have g := (hnl p hp).eq
    rw [single_root_flat, hsingle] at g
    exact congrArg Editor.text (Except.ok.inj g)
  obtain ⟨e, h1, h2, h4, h5, h6⟩ := para_code_points hV ed ht o hG F res hPW G hFG
  exact ⟨e, G, h1, h2, h4, h5,
    fun p hp => ⟨h6 p hp, (hnl p (h6 p hp)).joined_over hSV,
      (hnl p (h6 p hp)).joined_nonws (goodSep_single hG).ne, (hnl p (h6 p hp)).eq⟩,
    para_nonws_text hV ed ht o hG G e h5 (fun p hp => (hnl p (h6 p hp)).joined_over hSV)
      (fun p hp => (hnl p (h6 p hp)).joined_nonws (goodSep_single hG).ne)⟩

/-- the per-paragraph function of paragraph-mode `WrapOpts`, on clusters -/
theorem wrapPara_code_points (hV : VocabStable V = true) (hsp : [0x20] ∈ V)
    (hspTail : ∀ t ∈ V, (0x20 : Int) ∉ t.tail) (w : Int) (o : Options (List Int))
    (hG : GoodPara V (o.withDefaults cxB).lineSep (o.withDefaults cxB).paraSep)
    (p : List (List Int)) (hp : ∀ t ∈ p, t ∈ V) :
    wrapPara cxA w (o.flat.withDefaults cxA).lineSep p.flatten =
      (wrapTextB (Editor.root p (single o)) w (single o)).flatten := by
  have g := wrapOpts_closed hV hsp hspTail (Editor.root p (single o)) hp w (single o)
    (single_pp o) (goodSep_single hG)
  rw [single_root_flat, single_flat, wrapOpts_single cxA cxA_Sane w o.flat p.flatten] at g
  exact (Editor.root.inj (Except.ok.inj g)).1

/-- the default separators are affix-free on code points -/
theorem affixFree_default_A (o : Options (List Int)) (hl : o.lineSep = []) (hp : o.paraSep = []) :
    AffixFree (o.flat.withDefaults cxA) := by
  have h1 : (o.flat.withDefaults cxA).lineSep = [0x0A] := by
    rw [lineSep_flat_gen o (by rw [(default_seps o hl hp).1]; decide), (default_seps o hl hp).1]
    rfl
  have h2 : (o.flat.withDefaults cxA).paraSep = [0x0A, 0x0A] := by
    rw [paraSep_flat_gen o (by rw [(default_seps o hl hp).2]; decide), (default_seps o hl hp).2]
    rfl
  apply affixFree_of_double _ (by rw [h1]; simp)
  rw [h1, h2]
  rfl

end para

section examples
open BridgeOps BridgeEditorParas ParaStructure

/-- idempotence of `WrapOpts` for a SUB-editor (any parent, any recorded byte range) over
`BridgeOps.demoVocab3`, default options -/
example (toks : List (List Int)) (ht : ∀ t ∈ toks, t ∈ BridgeOps.demoVocab3) (width : Int)
    (o0 : Options (List Int)) (p : Editor (List Int)) (a b : Int) :
    (Editor.wrapOpts cxA (Editor.sub toks o0 p a b).flat width ({} : Options (List Int)).flat >>=
        fun e => Editor.wrapOpts cxA e width ({} : Options (List Int)).flat) =
      Editor.wrapOpts cxA (Editor.sub toks o0 p a b).flat width ({} : Options (List Int)).flat :=
  wrapOpts_idempotent_code_points BridgeOps.demoVocab3_stable BridgeOps.demoVocab3_sp BridgeOps.demoVocab3_hy
    BridgeOps.demoVocab3_spTail (.sub toks o0 p a b) ht width {} rfl [0x0A] default_lineSep_B
    BridgeOps.demoVocab3_nl (by decide) demo3_good_nl

/-- fully evaluated on code points: "ab  abbab\té a\n" (é decomposed) wrapped to width 4 — an
over-long word is split with continuation hyphens, the trailing line feed is kept — and wrapping
the result again returns it unchanged -/
example :
    (Editor.wrapOpts cxA (.root [0x61, 0x62, 0x20, 0x20, 0x61, 0x62, 0x62, 0x61, 0x62, 0x09,
        0x65, 0x301, 0x20, 0x61, 0x0A] {}) 4 {}).map Editor.text =
      .ok [0x61, 0x62, 0x0A, 0x61, 0x62, 0x62, 0x2D, 0x0A, 0x61, 0x62, 0x20, 0x65, 0x301, 0x0A,
        0x61, 0x0A] ∧
    (Editor.wrapOpts cxA (.root [0x61, 0x62, 0x0A, 0x61, 0x62, 0x62, 0x2D, 0x0A, 0x61, 0x62, 0x20,
        0x65, 0x301, 0x0A, 0x61, 0x0A] {}) 4 {}).map Editor.text =
      .ok [0x61, 0x62, 0x0A, 0x61, 0x62, 0x62, 0x2D, 0x0A, 0x61, 0x62, 0x20, 0x65, 0x301, 0x0A,
        0x61, 0x0A] :=
  ⟨of_okEq (by decide +kernel), of_okEq (by decide +kernel)⟩

/-- `dehyphen` on that output gives the words of the input -/
example : dehyphen tkB 4 [[[0x61], [0x62], [0x0A], [0x61], [0x62], [0x62], [0x2D], [0x0A], [0x61],
      [0x62], [0x20], [0x65, 0x301], [0x0A], [0x61], [0x0A]]] =
    words tkB [[0x61], [0x62], [0x20], [0x20], [0x61], [0x62], [0x62], [0x61], [0x62], [0x09],
      [0x65, 0x301], [0x20], [0x61], [0x0A]] := by decide +kernel

end examples

end NoLossOps
end RosedVerif
