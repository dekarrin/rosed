/-
Layer A/B executable model — basics.  Generic in the atom type `α` and in the
segmentation `Ctx.ends`:
  * instance A: α = Int (code points), ends = the Go rule chain (`splitRunes`);
  * instance B: α = any token type, ends = "every atom is its own cluster".
Go panics are `Except.error` values, never defaulted away.
-/
namespace RosedVerif

inductive Err
  | index        -- index out of range
  | slice        -- slice bounds out of range
  | repeatNeg    -- strings.Repeat: negative count
  | explicit     -- an explicit panic(...) in the source
  | invalidUtf8  -- a byte offset that is not on a rune boundary (result would not be valid UTF-8)
  | fuel         -- a model loop ran out of fuel (never reachable if the termination lemmas hold)
  deriving DecidableEq, Repr, Inhabited

abbrev R := Except Err

theorem bind_ok {β γ : Type} {x : R β} {f : β → R γ} {r : γ} :
    (x >>= f) = .ok r ↔ ∃ a, x = .ok a ∧ f a = .ok r := by
  cases x <;> simp [bind, Except.bind]

theorem pure_ok {β : Type} {a r : β} : (pure a : R β) = .ok r ↔ a = r := by
  simp [pure, Except.pure]

theorem mapM_ok_length {β γ : Type} (f : β → R γ) (l : List β) (rs : List γ)
    (h : l.mapM f = .ok rs) : rs.length = l.length := by
  induction l generalizing rs with
  | nil =>
    rw [List.mapM_nil] at h
    cases pure_ok.1 h
    rfl
  | cons a t ih =>
    rw [List.mapM_cons] at h
    obtain ⟨b, -, h⟩ := bind_ok.1 h
    obtain ⟨bs, hbs, h⟩ := bind_ok.1 h
    rw [← pure_ok.1 h, List.length_cons, List.length_cons, ih bs hbs]

structure Ctx (α : Type) where
  /-- exclusive cluster ends (gem.Split) -/
  ends : List α → List Nat
  /-- unicode.IsSpace -/
  isSpace : α → Bool
  /-- UTF-8 length in bytes -/
  blen : α → Nat
  /-- unicode.ToUpper -/
  upper : α → α
  sp : α
  hy : α
  phA : α
  /-- `r + 1` on runes: the candidate after `r` for the placeholder of Editor.WrapOpts / JustifyOpts (the
  first candidate is `phA`); only looked at when the line separator contains `phA` -/
  phNext : α → α := id
  nl : α
  dIndent : List α
  dLineSep : List α
  dParaSep : List α
  dCharset : List α

section strings
variable {α : Type} [DecidableEq α]

/-- strings.Index: leftmost occurrence of `p` in `s` -/
def indexOf (p : List α) : List α → Option Nat
  | [] => if p.isEmpty then some 0 else none
  | c :: t => if p.isPrefixOf (c :: t) then some 0 else (indexOf p t).map (· + 1)

def splitOnAux (sep : List α) : List α → Nat → List α → List (List α)
  | [], _, cur => [cur.reverse]
  | _ :: t, skip + 1, cur => splitOnAux sep t skip cur
  | c :: t, 0, cur =>
    if sep.isPrefixOf (c :: t) then cur.reverse :: splitOnAux sep t (sep.length - 1) []
    else splitOnAux sep t 0 (c :: cur)

/-- strings.Split (leftmost, non-overlapping). Empty separator: explode into atoms, as Go does. -/
def splitOn (s sep : List α) : List (List α) :=
  if sep.isEmpty then s.map fun c => [c] else splitOnAux sep s 0 []

/-- strings.Join -/
def joinWith (sep : List α) (parts : List (List α)) : List α := List.intercalate sep parts

/-- strings.ReplaceAll for a non-empty `old` -/
def replaceAll (s old new : List α) : List α := joinWith new (splitOn s old)

/-- strings.Repeat -/
def repeatStr (s : List α) (n : Int) : R (List α) :=
  if n < 0 then throw .repeatNeg else pure (List.replicate n.toNat s).flatten

/-- gem.Repeat / gem.RepeatStr: a non-positive count gives the empty string -/
def gRepeat (s : List α) (n : Int) : List α := (List.replicate n.toNat s).flatten

end strings

/-- util.RangeToIndexes -/
def rangeToIndexes (size start end_ : Int) : Int × Int :=
  let start := if start < 0 then (if start + size < 0 then 0 else start + size) else start
  let end_ := if end_ < 0 then (if end_ + size < 0 then 0 else end_ + size) else end_
  let end_ := if end_ > size then size else end_
  let start := if start > size then size else start
  let end_ := if end_ < start then start else end_
  (start, end_)

/-- the first step of `rangeToIndexes`: a negative position counts from the end, but not past the start -/
theorem fromEnd_nonneg (n p : Int) : 0 ≤ (if p < 0 then (if p + n < 0 then 0 else p + n) else p) := by
  split
  · split <;> omega
  · omega

theorem rangeToIndexes_bounds (n s e : Int) (hn : 0 ≤ n) :
    0 ≤ (rangeToIndexes n s e).1 ∧ (rangeToIndexes n s e).1 ≤ (rangeToIndexes n s e).2 ∧
      (rangeToIndexes n s e).2 ≤ n := by
  -- the remaining steps (clamp both to `n`, then the end to the start) on two non-negative numbers;
  -- splitting all five `if`s of the definition at once is a hundred times dearer
  have clamp : ∀ a b : Int, 0 ≤ a → 0 ≤ b →
      let a' := if a > n then n else a
      let b' := if b > n then n else b
      0 ≤ a' ∧ a' ≤ (if b' < a' then a' else b') ∧ (if b' < a' then a' else b') ≤ n := by
    intro a b ha hb; simp only; omega
  exact clamp _ _ (fromEnd_nonneg n s) (fromEnd_nonneg n e)

/-- a fold whose step never decreases the accumulator ends at or above its start -/
theorem le_foldl_of_le_step {β : Type} (g : Int → β → Int) :
    ∀ (l : List β) (m : Int), (∀ m, ∀ b ∈ l, m ≤ g m b) → m ≤ l.foldl g m
  | [], m, _ => Int.le_refl m
  | b :: l, m, h =>
    Int.le_trans (h m b (List.mem_cons_self ..))
      (le_foldl_of_le_step g l _ fun m b hb => h m b (List.mem_cons_of_mem _ hb))

/-- Go `int` arithmetic wraps at 64 bits -/
def wrap64 (x : Int) : Int := (x + 2^63) % 2^64 - 2^63

section gem
variable {α : Type} [DecidableEq α] (cx : Ctx α)

/-- gem.String.Len -/
def gLen (s : List α) : Nat := (cx.ends s).length

/-- rune range `[start, end)` of cluster `i` given the ends list -/
def clusterSpan (e : List Nat) (i : Nat) : Nat × Nat :=
  ((if i > 0 then e.getD (i - 1) 0 else 0), e.getD i 0)

def sliceRunes (s : List α) (a b : Nat) : List α := (s.drop a).take (b - a)

/-- the clusters of `s` -/
def clustersFrom (s : List α) (prev : Nat) : List Nat → List (List α)
  | [] => []
  | e :: es => sliceRunes s prev e :: clustersFrom s e es

def clusters (s : List α) : List (List α) := clustersFrom s 0 (cx.ends s)

/-- gem.String.CharAt (panics on an index outside [0, Len)) -/
def gCharAt (s : List α) (idx : Int) : R (List α) :=
  let e := cx.ends s
  if idx < 0 ∨ idx ≥ e.length then throw .index
  else
    let (a, b) := clusterSpan e idx.toNat
    pure (sliceRunes s a b)

/-- gem.String.Sub -/
def gSub (s : List α) (start end_ : Int) : List α :=
  let e := cx.ends s
  let (st, en) := rangeToIndexes e.length start end_
  if st == en then []
  else
    let a := if st > 0 then e.getD (st.toNat - 1) 0 else 0
    let b := e.getD (en.toNat - 1) 0
    sliceRunes s a b

/-- gem.String.SetCharAt -/
def gSetCharAt (s : List α) (idx : Int) (r : List α) : R (List α) :=
  if r.isEmpty then throw .explicit
  else
    let e := cx.ends s
    if idx < 0 ∨ idx ≥ e.length then throw .index
    else
      let (a, b) := clusterSpan e idx.toNat
      pure (s.take a ++ r ++ s.drop b)

/-- gem.String.Reverse (rune content) -/
def gReverse (s : List α) : List α := (clusters cx s).reverse.flatten

/-- first index whose element satisfies `f`, or -1 -/
def findIdxInt {β : Type} (f : β → Bool) (l : List β) : Int :=
  match l.findIdx? f with
  | some i => i
  | none => -1

/-- gem.String.IndexFunc -/
def gIndexFunc (f : List α → Bool) (s : List α) : Int := findIdxInt f (clusters cx s)

/-- gem.String.LastIndexFunc: the reversed String carries the original clusters in reverse
order in its cache, so this scans the original clusters from the right. -/
def gLastIndexFunc (f : List α → Bool) (s : List α) : Int :=
  let cl := clusters cx s
  let ri := findIdxInt f cl.reverse
  if ri == -1 then -1 else ((cl.length : Int) - 1) - ri

/-- `!unicode.IsSpace(gc[0])`; clusters are never empty (Theory), `[]` is mapped to false -/
def notSpaceHead (gc : List α) : Bool :=
  match gc with
  | [] => false
  | c :: _ => !cx.isSpace c

/-- the loop `for strings.ContainsRune(sep, c) { c++ }` of affixPlaceholder with at most `n` tests;
after `n` tests the next candidate is taken untested -/
def phSearch (sep : List α) : Nat → α → α
  | 0, c => c
  | n + 1, c => if c ∈ sep then phSearch sep n (cx.phNext c) else c

/-- affixPlaceholder: the stand-in Editor.WrapOpts and JustifyOpts pad a paragraph with in place of
the paragraph separator's affixes: the first of `phA, phNext phA, …` that does not occur in the line separator `sep` (which
Wrap turns into spaces and Justify splits on).  `|sep|` tests suffice: of `|sep| + 1` pairwise different candidates one
is not among the `|sep|` atoms of `sep` (`Ctx.PhFresh`; a theorem for instance A) -/
def Ctx.placeholder (sep : List α) : α := phSearch cx sep sep.length cx.phA

/-- the placeholder search finds, within its fuel, a candidate that is not in the separator -/
def Ctx.PhFresh : Prop := ∀ sep : List α, cx.placeholder sep ∉ sep

/-- a separator without `phA` is padded with `phA` (the search stops at the first test) -/
theorem phSearch_of_not_mem {sep : List α} {c : α} (h : c ∉ sep) (n : Nat) :
    phSearch cx sep n c = c := by
  cases n with
  | zero => rfl
  | succ n => simp only [phSearch, h, if_false]

theorem Ctx.placeholder_eq_phA {sep : List α} (h : cx.phA ∉ sep) : cx.placeholder sep = cx.phA :=
  phSearch_of_not_mem cx h _

/-- manip.CountLeadingWhitespace -/
def countLeadingWs (s : List α) : Int :=
  let i := gIndexFunc cx (notSpaceHead cx) s
  if i == -1 then gLen cx s else i

/-- manip.CountTrailingWhitespace -/
def countTrailingWs (s : List α) : Int :=
  (gLen cx s : Int) - gLastIndexFunc cx (notSpaceHead cx) s - 1

end gem
end RosedVerif
