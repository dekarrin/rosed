/-
Cluster-level (trivial segmentation: every atom is its own cluster) theorems about the composite
layouts: CombineColumnBlocks / two columns (C14), definitions table (C15).  The table (C16) is in
`TableLemmas.lean`.
-/
import RosedVerif.Model.Totality
import RosedVerif.Model.WrapRefine
import RosedVerif.Model.TableLemmas
namespace RosedVerif
set_option linter.unusedSectionVars false

/-! ## CombineColumnBlocks -/
section
variable {α : Type} [DecidableEq α] (cx : Ctx α)

/-- line `i` of the combined block: the left line, padded with spaces up to column
`maxLineLen left + gap`, followed by the right line -/
def combinedLine (left right : List (List α)) (gap : Nat) (i : Nat) : List α :=
  left.getD i [] ++ List.replicate (maxLineLen left + gap - (left.getD i []).length) cx.sp
    ++ right.getD i []

/-- for a non-negative gap `CombineColumnBlocks` returns normally and line `i` is `combinedLine` -/
theorem combineColumns_triv (htriv : ∀ s, cx.ends s = List.range' 1 s.length)
    (left right : List (List α)) (gap : Int) (hg : 0 ≤ gap) :
    combineColumns cx left right gap =
      .ok ((List.range (max left.length right.length)).map
        (combinedLine cx left right gap.toNat)) := by
  unfold combineColumns
  split
  · rename_i h
    have hl : left = [] := by simpa using h.1
    have hr : right = [] := by simpa using h.2
    subst hl hr
    rfl
  · simp only [gLen_triv cx htriv, foldl_maxLen]
    apply mapM_ok_map
    intro i _
    have hle := getD_length_le_maxLineLen left i
    have hlc : (if i < left.length then ((left.getD i []).length : Int) else 0)
        = ((left.getD i []).length : Int) := by
      split
      · rfl
      · rw [List.getD_eq_getElem?_getD, List.getElem?_eq_none (by omega), Option.getD_none]
        rfl
    rw [hlc, repeatStr_single _ _ (by omega)]
    simp only [ok_bind, combinedLine]
    have e : ((maxLineLen left : Int) + gap - ((left.getD i []).length : Int)).toNat
        = maxLineLen left + gap.toNat - (left.getD i []).length := by omega
    rw [e]
    rfl

/-- `CombineColumnBlocks` at cluster level: the number of lines, and every line -/
theorem combineColumns_triv_spec (htriv : ∀ s, cx.ends s = List.range' 1 s.length)
    (left right : List (List α)) (gap : Int) (hg : 0 ≤ gap) :
    ∃ ls, combineColumns cx left right gap = .ok ls ∧
      ls.length = max left.length right.length ∧
      ∀ (i : Nat) (hi : i < ls.length),
        ls[i] = left.getD i [] ++
          List.replicate (maxLineLen left + gap.toNat - (left.getD i []).length) cx.sp ++
          right.getD i [] := by
  refine ⟨_, combineColumns_triv cx htriv left right gap hg, by simp, ?_⟩
  intro i hi
  simp only [List.getElem_map, List.getElem_range, combinedLine]

omit [DecidableEq α] in
/-- the right column starts at the same offset `maxLineLen left + gap` on every line -/
theorem combinedLine_take (left right : List (List α)) (gap i : Nat) :
    (combinedLine cx left right gap i).take (maxLineLen left + gap) =
      left.getD i [] ++ List.replicate (maxLineLen left + gap - (left.getD i []).length) cx.sp :=
  take_padRight_append _ _ _ (Nat.le_add_right_of_le (getD_length_le_maxLineLen left i))

omit [DecidableEq α] in
theorem combinedLine_drop (left right : List (List α)) (gap i : Nat) :
    (combinedLine cx left right gap i).drop (maxLineLen left + gap) = right.getD i [] :=
  drop_padRight_append _ _ _ (Nat.le_add_right_of_le (getD_length_le_maxLineLen left i))

omit [DecidableEq α] in
theorem combinedLine_length (left right : List (List α)) (gap i : Nat) :
    (combinedLine cx left right gap i).length = maxLineLen left + gap + (right.getD i []).length := by
  unfold combinedLine
  rw [List.length_append,
    length_padRight _ _ (Nat.le_add_right_of_le (getD_length_le_maxLineLen left i))]

/-! ## two columns (C14) -/

/-- the wrapped lines of a column at cluster level -/
def colLines (text : List α) (w : Int) (sep : List α) : List (List α) :=
  Spec.wrapLines ⟨cx.isSpace, cx.sp, cx.hy⟩ w.toNat (replaceAll' cx text sep)

theorem wrapLines_colLines (htriv : ∀ s, cx.ends s = List.range' 1 s.length)
    (hsp : cx.isSpace cx.sp = true) (text : List α) (w : Int) (hw : 2 ≤ w) (sep : List α) :
    wrapLines cx text w sep = .ok (colLines cx text w sep) := by
  rw [wrapLines_triv cx htriv hsp, Int.max_eq_left hw]
  rfl

theorem colLines_width (text : List α) (w : Int) (hw : 2 ≤ w) (sep : List α) :
    ∀ l ∈ colLines cx text w sep, (l.length : Int) ≤ w := by
  intro l hl
  have := Spec.wrapLines_width ⟨cx.isSpace, cx.sp, cx.hy⟩ (w := w.toNat) (by omega) _ l hl
  omega

theorem maxLineLen_colLines (text : List α) (w : Int) (hw : 2 ≤ w) (sep : List α) :
    (maxLineLen (colLines cx text w sep) : Int) ≤ w := by
  have := maxLineLen_le w.toNat (colLines cx text w sep) (fun l hl => by
    have := colLines_width cx text w hw sep l hl
    omega)
  omega

theorem colLines_getD_length (text : List α) (w : Int) (hw : 2 ≤ w) (sep : List α) (i : Nat) :
    (((colLines cx text w sep).getD i []).length : Int) ≤ w := by
  have h1 := getD_length_le_maxLineLen (colLines cx text w sep) i
  have h2 := maxLineLen_colLines cx text w hw sep
  omega

/-- line `i` of the two-column block: the `i`-th wrapped left line padded to `leftW + msb`
clusters, then the `i`-th wrapped right line -/
def twoColLine (leftText rightText : List α) (msb leftW rightW : Int) (sep : List α) (i : Nat) :
    List α :=
  (colLines cx leftText leftW sep).getD i [] ++
    List.replicate ((leftW + msb).toNat - ((colLines cx leftText leftW sep).getD i []).length) cx.sp ++
    (colLines cx rightText rightW sep).getD i []

/-- the lines of the block that `InsertTwoColumnsOpts` hands to `Insert` -/
def twoColLines (leftText rightText : List α) (msb leftW rightW : Int) (sep : List α) :
    List (List α) :=
  (List.range (max (colLines cx leftText leftW sep).length (colLines cx rightText rightW sep).length)).map
    (twoColLine cx leftText rightText msb leftW rightW sep)

/-- at cluster level the body of `InsertTwoColumnsOpts` inserts exactly `twoColLines` -/
theorem twoColBody_triv (htriv : ∀ s, cx.ends s = List.range' 1 s.length)
    (hsp : cx.isSpace cx.sp = true) (ed : Editor α) (pos : Int) (leftText rightText : List α)
    (msb leftW rightW : Int) (o : Options α) (hmsb : 0 ≤ msb) (hL : 2 ≤ leftW) (hR : 2 ≤ rightW) :
    twoColBody cx ed pos leftText rightText msb leftW rightW o =
      ed.insert cx pos (Block.mk
        (twoColLines cx leftText rightText msb leftW rightW (o.withDefaults cx).lineSep)
        (o.withDefaults cx).lineSep (!(o.withDefaults cx).noTrailing)).join := by
  unfold twoColBody
  simp only
  rw [wrapLines_colLines cx htriv hsp _ _ hL, ok_bind, wrapLines_colLines cx htriv hsp _ _ hR, ok_bind]
  simp only [gLen_triv cx htriv, foldl_maxLen]
  generalize (o.withDefaults cx).lineSep = sep
  have hmax := maxLineLen_colLines cx leftText leftW hL sep
  rw [combineColumns_triv cx htriv _ _ _ (by omega), ok_bind]
  congr 3
  unfold twoColLines
  apply List.map_congr_left
  intro i _
  unfold combinedLine twoColLine
  congr 3
  -- `spaceBetween = msb + (leftW - maxLeft)`: the pad ends at `leftW + msb` whatever `maxLeft` is
  omega

/-- `InsertTwoColumnsOpts` at cluster level: the column widths are at least 2, they and the
gap add up to the clamped total width `max width (msb + 4)`, and the inserted block consists of
the lines `twoColLines` -/
theorem insertTwoColumnsOpts_triv (htriv : ∀ s, cx.ends s = List.range' 1 s.length)
    (hsp : cx.isSpace cx.sp = true) (ed : Editor α)
    (pos : Int) (leftText rightText : List α) (msb width : Int) (pct : Pct) (o : Options α)
    (hne : ¬(leftText.isEmpty ∧ rightText.isEmpty)) (hmsb : 0 ≤ msb) :
    ∃ leftW rightW : Int, 2 ≤ leftW ∧ 2 ≤ rightW ∧ leftW + msb + rightW = max width (msb + 4) ∧
      ed.insertTwoColumnsOpts cx pos leftText rightText msb width pct o =
        ed.insert cx pos (Block.mk
          (twoColLines cx leftText rightText msb leftW rightW (o.withDefaults cx).lineSep)
          (o.withDefaults cx).lineSep (!(o.withDefaults cx).noTrailing)).join := by
  unfold Editor.insertTwoColumnsOpts
  rw [if_neg hne]
  generalize (if pct.neg = true ∨ (pct.num == 0) = true then ((0 : Nat), (0 : Nat))
    else if pct.num > 2 ^ pct.exp then (1, 0) else (pct.num, pct.exp)) = ne
  obtain ⟨num, exp⟩ := ne
  simp only
  have hm0 : (if msb < 0 then 0 else msb) = msb := if_neg (by omega)
  simp only [hm0]
  have hW : (if width < msb + 2 + 2 then msb + 2 + 2 else width) = max width (msb + 4) := by
    split <;> omega
  rw [hW]
  generalize max width (msb + 4) = W at *
  have hW4 : msb + 4 ≤ W := by omega
  -- the rounded share `m` of the left column is clamped to `[2, W - msb - 2]`, in two steps
  generalize ((mulRoundTrunc (W - msb).toNat num exp : Nat) : Int) = m
  have hm : 2 ≤ (if m < 2 then 2 else m) := by split <;> omega
  generalize (if m < 2 then 2 else m) = m' at hm ⊢
  have hLb : 2 ≤ (if m' > W - msb - 2 then W - msb - 2 else m') ∧
      (if m' > W - msb - 2 then W - msb - 2 else m') ≤ W - msb - 2 := by
    split <;> omega
  generalize (if m' > W - msb - 2 then W - msb - 2 else m') = L at hLb ⊢
  refine ⟨L, W - msb - L, hLb.1, by omega, by omega, ?_⟩
  rw [if_neg (by omega)]
  exact twoColBody_triv cx htriv hsp ed pos leftText rightText msb L (W - msb - L) o hmsb hLb.1
    (by omega)

/-- `insertTwoColumnsOpts_triv` with the block spelled out line by line (`twoColLine`): how many
lines, none longer than the clamped width `max width (msb + 4)`, and the right column starts at
offset `leftW + msb` on every line -/
theorem insertTwoColumnsOpts_triv_width (htriv : ∀ s, cx.ends s = List.range' 1 s.length)
    (hsp : cx.isSpace cx.sp = true) (ed : Editor α)
    (pos : Int) (leftText rightText : List α) (msb width : Int) (pct : Pct) (o : Options α)
    (hne : ¬(leftText.isEmpty ∧ rightText.isEmpty)) (hmsb : 0 ≤ msb) :
    ∃ (leftW rightW : Int) (ls : List (List α)), 2 ≤ leftW ∧ 2 ≤ rightW ∧
      leftW + msb + rightW = max width (msb + 4) ∧
      ed.insertTwoColumnsOpts cx pos leftText rightText msb width pct o =
        ed.insert cx pos (Block.mk ls (o.withDefaults cx).lineSep
          (!(o.withDefaults cx).noTrailing)).join ∧
      ls.length = max (colLines cx leftText leftW (o.withDefaults cx).lineSep).length
        (colLines cx rightText rightW (o.withDefaults cx).lineSep).length ∧
      (∀ line ∈ ls, (line.length : Int) ≤ max width (msb + 4)) ∧
      ∀ (i : Nat) (hi : i < ls.length),
        ls[i] = (colLines cx leftText leftW (o.withDefaults cx).lineSep).getD i [] ++
          List.replicate ((leftW + msb).toNat -
            ((colLines cx leftText leftW (o.withDefaults cx).lineSep).getD i []).length) cx.sp ++
          (colLines cx rightText rightW (o.withDefaults cx).lineSep).getD i [] ∧
        (ls[i].take (leftW + msb).toNat).length = (leftW + msb).toNat ∧
        ls[i].drop (leftW + msb).toNat =
          (colLines cx rightText rightW (o.withDefaults cx).lineSep).getD i [] := by
  obtain ⟨L, Rw, hL, hR, hsum, heq⟩ :=
    insertTwoColumnsOpts_triv cx htriv hsp ed pos leftText rightText msb width pct o hne hmsb
  generalize (o.withDefaults cx).lineSep = sep at heq ⊢
  -- the left line fits into the left part of the line, so the padding lemmas apply
  have hle : ∀ i, ((colLines cx leftText L sep).getD i []).length ≤ (L + msb).toNat := by
    intro i
    have := colLines_getD_length cx leftText L hL sep i
    omega
  refine ⟨L, Rw, _, hL, hR, hsum, heq, by simp [twoColLines], ?_, ?_⟩
  · intro line hl
    obtain ⟨i, -, rfl⟩ := List.mem_map.1 hl
    have := colLines_getD_length cx rightText Rw hR sep i
    rw [twoColLine, List.length_append, length_padRight _ _ (hle i)]
    omega
  · intro i hi
    rw [show (twoColLines cx leftText rightText msb L Rw sep)[i] =
      twoColLine cx leftText rightText msb L Rw sep i by simp [twoColLines]]
    refine ⟨rfl, ?_, drop_padRight_append _ _ _ (hle i)⟩
    rw [twoColLine, take_padRight_append _ _ _ (hle i)]
    exact length_padRight _ _ (hle i)

/-! ## definitions table (C15) -/

/-- the right column of one definition: the wrapped text, first line prefixed by `- `, the others
by two spaces -/
def defRightCol (rc : List (List α)) : List (List α) :=
  (List.range rc.length).map fun i =>
    (if i == 0 then [cx.hy, cx.sp] else [cx.sp, cx.sp]) ++ rc.getD i []

/-- the lines of one definition paragraph: term column of width `T + 2`, gap 2, `- ` / 2-space
prefix, wrapped definition.  The definition text starts at column `T + 6` on every line. -/
def defParaLines (T : Nat) (term : List α) (rc : List (List α)) : List (List α) :=
  (List.range (max 1 rc.length)).map fun i =>
    (if i = 0 then [cx.sp, cx.sp] ++ term ++ List.replicate (T - term.length) cx.sp ++ [cx.sp, cx.sp]
     else List.replicate (T + 4) cx.sp) ++ (defRightCol cx rc).getD i []

/-- the wrapped lines of a definition as the model uses them: a definition that wraps to NO lines
(whitespace only) is treated like the empty definition, which wraps to one empty line, so that it
still gets its `- ` marker -/
def defRc (rc : List (List α)) : List (List α) := if rc.isEmpty then [[]] else rc

omit [DecidableEq α] in
theorem defRc_nil : defRc ([] : List (List α)) = [[]] := rfl

omit [DecidableEq α] in
theorem defRc_of_ne_nil (rc : List (List α)) (h : rc ≠ []) : defRc rc = rc := by
  cases rc with
  | nil => exact absurd rfl h
  | cons a t => rfl

omit [DecidableEq α] in
theorem defRc_ne_nil (rc : List (List α)) : defRc rc ≠ [] := by
  cases rc <;> simp [defRc]

omit [DecidableEq α] in
theorem defRc_length (rc : List (List α)) : (defRc rc).length = max 1 rc.length := by
  cases rc with
  | nil => rfl
  | cons a t => simp [defRc]

omit [DecidableEq α] in
theorem defRc_idem (rc : List (List α)) : defRc (defRc rc) = defRc rc :=
  defRc_of_ne_nil _ (defRc_ne_nil rc)

theorem defPara_combine (htriv : ∀ s, cx.ends s = List.range' 1 s.length)
    (T : Nat) (term : List α) (hT : term.length ≤ T) (rc : List (List α)) :
    combineColumns cx [[cx.sp, cx.sp] ++ term ++ List.replicate (T - term.length) cx.sp]
      (defRightCol cx rc) 2 = .ok (defParaLines cx T term rc) := by
  -- the left block is one line of `T + 2` atoms, so the pad is 2 on line 0 and `T + 4` below
  rw [combineColumns_triv cx htriv _ _ 2 (by omega)]
  congr 1
  have hlen : (defRightCol cx rc).length = rc.length := by simp [defRightCol]
  have hmax : maxLineLen [[cx.sp, cx.sp] ++ term ++ List.replicate (T - term.length) cx.sp] = T + 2 := by
    simp only [maxLineLen_cons, maxLineLen_nil, List.length_append, List.length_cons, List.length_nil,
      List.length_replicate]
    omega
  unfold defParaLines
  rw [hlen]
  apply List.map_congr_left
  intro i _
  unfold combinedLine
  rw [hmax]
  congr 1
  by_cases hi : i = 0
  · subst hi
    simp only [List.getD_cons_zero, if_true, List.length_append, List.length_cons, List.length_nil,
      List.length_replicate]
    have : T + 2 + (2 : Int).toNat - (0 + 1 + 1 + term.length + (T - term.length)) = 2 := by omega
    rw [this]
    rfl
  · obtain ⟨j, rfl⟩ : ∃ j, i = j + 1 := ⟨i - 1, by omega⟩
    simp only [List.getD_cons_succ, List.getD_nil, List.length_nil, List.nil_append, if_neg hi]
    congr 1

theorem defRightCol_getD (rc : List (List α)) (i : Nat) (hi : i < rc.length) :
    (defRightCol cx rc).getD i [] =
      (if i = 0 then [cx.hy, cx.sp] else [cx.sp, cx.sp]) ++ rc.getD i [] := by
  unfold defRightCol
  rw [getD_map_range _ _ _ _ hi]
  by_cases h : i = 0 <;> simp [h]

theorem defParaLines_length (T : Nat) (term : List α) (rc : List (List α)) :
    (defParaLines cx T term rc).length = max 1 rc.length := by
  simp [defParaLines]

theorem defParaLines_ne_nil (T : Nat) (term : List α) (rc : List (List α)) :
    defParaLines cx T term rc ≠ [] := by
  intro e
  have := congrArg List.length e
  rw [defParaLines_length] at this
  simp at this

theorem defParaLines_first (T : Nat) (term : List α) (rc : List (List α)) (hrc : rc ≠ [])
    (h0 : 0 < (defParaLines cx T term rc).length) :
    (defParaLines cx T term rc)[0] =
      [cx.sp, cx.sp] ++ term ++ List.replicate (T - term.length) cx.sp ++ [cx.sp, cx.sp] ++
        [cx.hy, cx.sp] ++ rc.getD 0 [] := by
  have : 0 < rc.length := List.length_pos_iff.2 hrc
  simp only [defParaLines, List.getElem_map, List.getElem_range, if_true]
  rw [defRightCol_getD cx rc 0 this]
  simp

theorem defParaLines_cont (T : Nat) (term : List α) (rc : List (List α)) (i : Nat) (hi0 : 0 < i)
    (hi : i < rc.length) (h : i < (defParaLines cx T term rc).length) :
    (defParaLines cx T term rc)[i] = List.replicate (T + 6) cx.sp ++ rc.getD i [] := by
  simp only [defParaLines, List.getElem_map, List.getElem_range, if_neg (show ¬ i = 0 by omega)]
  rw [defRightCol_getD cx rc i hi, if_neg (by omega)]
  rw [← List.append_assoc]
  congr 1
  rw [show T + 6 = (T + 4) + 2 by omega]
  show List.replicate (T + 4) cx.sp ++ List.replicate 2 cx.sp = _
  rw [List.replicate_append_replicate]

/-- the definition text starts at column `T + 6` on every line of the paragraph -/
theorem defParaLines_drop (T : Nat) (term : List α) (hT : term.length ≤ T) (rc : List (List α))
    (i : Nat) (hi : i < rc.length) (h : i < (defParaLines cx T term rc).length) :
    (defParaLines cx T term rc)[i].drop (T + 6) = rc.getD i [] := by
  by_cases hi0 : i = 0
  · subst hi0
    rw [defParaLines_first cx T term rc (by intro e; subst e; simp at hi)]
    exact List.drop_left' (by simp; omega)
  · rw [defParaLines_cont cx T term rc i (by omega) hi]
    exact List.drop_left' (by simp)

/-- a model paragraph has exactly one line per wrapped line (`defRc` is never empty) -/
theorem defParaLines_defRc_length (T : Nat) (term : List α) (rc : List (List α)) :
    (defParaLines cx T term (defRc rc)).length = (defRc rc).length := by
  have := List.length_pos_iff.2 (defRc_ne_nil rc)
  rw [defParaLines_length]
  omega

/-- with the model's `defRc` the definition text starts at column `T + 6` on every line of every
paragraph -/
theorem defParaLines_defRc_drop (T : Nat) (term : List α) (hT : term.length ≤ T) (rc : List (List α))
    (i : Nat) (hi : i < (defRc rc).length) :
    ((defParaLines cx T term (defRc rc))[i]'(by rw [defParaLines_defRc_length]; exact hi)).drop
      (T + 6) = (defRc rc).getD i [] :=
  defParaLines_drop cx T term hT (defRc rc) i hi _

omit [DecidableEq α] in
/-- `defParaLines` of NO wrapped lines is a single line without the `- `; the model never
passes `[]` but `defRc rc` -/
theorem defParaLines_nil (T : Nat) (term : List α) :
    defParaLines cx T term [] =
      [[cx.sp, cx.sp] ++ term ++ List.replicate (T - term.length) cx.sp ++ [cx.sp, cx.sp]] := by
  simp [defParaLines, defRightCol, List.range_succ]

omit [DecidableEq α] in
/-- a definition without any word (whitespace only) gives a single line WITH the `- ` -/
theorem defParaLines_defRc_nil (T : Nat) (term : List α) :
    defParaLines cx T term (defRc []) =
      [[cx.sp, cx.sp] ++ term ++ List.replicate (T - term.length) cx.sp ++ [cx.sp, cx.sp] ++
        [cx.hy, cx.sp]] := by
  simp [defParaLines, defRightCol, defRc]

/-- how `InsertDefinitionsTableOpts` appends a paragraph to the block built so far: its first
line is glued to the last line by the paragraph separator -/
def mergePara (paraSep : List α) (full combined : List (List α)) : List (List α) :=
  match full.isEmpty, combined with
  | false, c0 :: crest =>
    full.set (full.length - 1) (full.getD (full.length - 1) [] ++ paraSep ++ c0) ++ crest
  | _, _ => full ++ combined

theorem mergePara_nil (paraSep : List α) (combined : List (List α)) :
    mergePara paraSep [] combined = combined := by
  cases combined <;> rfl

/-- gluing a paragraph: the block stays non-empty, and in the joined text the paragraph separator
stands between the block so far and the new paragraph -/
theorem joinWith_mergePara (sep paraSep : List α) (full comb : List (List α))
    (hf : full ≠ []) (hc : comb ≠ []) :
    mergePara paraSep full comb ≠ [] ∧
    joinWith sep (mergePara paraSep full comb) =
      joinWith sep full ++ paraSep ++ joinWith sep comb := by
  obtain ⟨c0, crest, rfl⟩ : ∃ c0 crest, comb = c0 :: crest := by
    cases comb with
    | nil => exact absurd rfl hc
    | cons a t => exact ⟨a, t, rfl⟩
  have hsplit := eq_dropLast_append_getLastD full [] hf
  generalize full.dropLast = init at hsplit
  generalize full.getLastD [] = last at hsplit
  subst hsplit
  have he : (init ++ [last]).isEmpty = false := by simp
  have hm : mergePara paraSep (init ++ [last]) (c0 :: crest) =
      init ++ (last ++ paraSep ++ c0) :: crest := by
    unfold mergePara
    rw [he]
    simp only [List.length_append, List.length_cons, List.length_nil, Nat.zero_add,
      Nat.add_sub_cancel]
    rw [List.getD_eq_getElem?_getD, List.getElem?_append_right (Nat.le_refl _), Nat.sub_self]
    simp only [List.getElem?_cons_zero, Option.getD_some]
    rw [List.set_append_right _ _ (Nat.le_refl _), Nat.sub_self]
    simp only [List.set_cons_zero, List.append_assoc, List.cons_append, List.nil_append]
  rw [hm]
  refine ⟨by simp, ?_⟩
  rw [joinWith_append sep _ _ (List.cons_ne_nil _ _), joinWith_cons_flatten,
    joinWith_cons_flatten sep c0, joinWith_append_singleton]
  simp only [List.append_assoc]

/-- paragraphs glued one after the other: the block stays non-empty, and its text is the text so
far followed by the paragraphs, each after a paragraph separator -/
theorem foldl_mergePara_join {β : Type} (sep paraSep : List α) (f : β → List (List α))
    (hf : ∀ d, f d ≠ []) :
    ∀ (defs : List β) (full : List (List α)), full ≠ [] →
      defs.foldl (fun full item => mergePara paraSep full (f item)) full ≠ [] ∧
      joinWith sep (defs.foldl (fun full item => mergePara paraSep full (f item)) full) =
        joinWith sep full ++ (defs.map (fun d => paraSep ++ joinWith sep (f d))).flatten
  | [], full, h => by simp [h]
  | d :: defs, full, h => by
    obtain ⟨hne, hj⟩ := joinWith_mergePara sep paraSep full (f d) h (hf d)
    have ih := foldl_mergePara_join sep paraSep f hf defs _ hne
    rw [List.foldl_cons]
    refine ⟨ih.1, ?_⟩
    rw [ih.2, hj]
    simp only [List.map_cons, List.flatten_cons, List.append_assoc]

/-- the lines of the definitions table -/
def defTableLines (defs : List (List α × List α)) (width : Int) (lineSep paraSep : List α) :
    List (List α) :=
  let T := maxLineLen (defs.map (·.1))
  defs.foldl (fun full item =>
    mergePara paraSep full (defParaLines cx T item.1
      (defRc (colLines cx item.2 (max (width - ((T : Int) + 2) - 2 - 2) 2) lineSep)))) []

/-- the definitions block is not empty, and its text (lines joined by the line separator)
is the paragraphs, each the lines `defParaLines` joined by the line separator, joined by the
paragraph separator. -/
theorem defTableLines_join (defs : List (List α × List α)) (width : Int) (lineSep paraSep : List α)
    (hne : defs ≠ []) :
    defTableLines cx defs width lineSep paraSep ≠ [] ∧
    joinWith lineSep (defTableLines cx defs width lineSep paraSep) =
      joinWith paraSep (defs.map fun item =>
        joinWith lineSep (defParaLines cx (maxLineLen (defs.map (·.1))) item.1
          (defRc (colLines cx item.2
            (max (width - ((maxLineLen (defs.map (·.1)) : Int) + 2) - 2 - 2) 2) lineSep)))) := by
  unfold defTableLines
  simp only
  generalize maxLineLen (defs.map (·.1)) = T
  match defs, hne with
  | d :: rest, _ =>
    rw [List.foldl_cons, mergePara_nil, List.map_cons, joinWith_cons_flatten, List.map_map]
    exact foldl_mergePara_join lineSep paraSep _ (fun _ => defParaLines_ne_nil cx _ _ _) rest _
      (defParaLines_ne_nil cx _ _ _)

/-- the longest term, as computed by the model (start value `-1`) -/
theorem foldl_longest_term (htriv : ∀ s, cx.ends s = List.range' 1 s.length)
    (defs : List (List α × List α)) (hne : defs ≠ []) :
    defs.foldl (fun (m : Int) d => if (gLen cx d.1 : Int) > m then (gLen cx d.1 : Int) else m) (-1)
      = (maxLineLen (defs.map (·.1)) : Int) := by
  match defs, hne with
  | d :: rest, _ =>
    -- after the first term the accumulator is a length
    simp only [List.foldl_cons, gLen_triv cx htriv, List.map_cons, maxLineLen_cons]
    rw [if_pos (by omega)]
    refine foldl_max_eq (γ := Int) (·.1) Nat.cast _ (fun m b => ?_) rest d.1.length
    split <;> omega

/-- `InsertDefinitionsTableOpts` at cluster level: the inserted block consists of the
lines `defTableLines` -/
theorem insertDefTableOpts_triv (htriv : ∀ s, cx.ends s = List.range' 1 s.length)
    (hsp : cx.isSpace cx.sp = true) (ed : Editor α) (pos : Int)
    (defs : List (List α × List α)) (width : Int) (o : Options α) (hne : defs ≠ []) :
    ed.insertDefTableOpts cx pos defs width o =
      ed.insert cx pos (Block.mk
        (defTableLines cx defs width (o.withDefaults cx).lineSep (o.withDefaults cx).paraSep)
        (o.withDefaults cx).lineSep (!(o.withDefaults cx).noTrailing)).join := by
  simp only [Editor.insertDefTableOpts_eq_core]
  unfold Editor.insertDefTableOptsCore
  simp only
  rw [foldl_longest_term cx htriv defs hne]
  generalize hT : maxLineLen (defs.map (·.1)) = T
  rw [foldlM_ok_foldl _ (fun full item =>
    mergePara (o.withDefaults cx).paraSep full (defParaLines cx T item.1
      (defRc (colLines cx item.2 (max (width - ((T : Int) + 2) - 2 - 2) 2)
        (o.withDefaults cx).lineSep))))]
  · rw [ok_bind]
    have hnn := (defTableLines_join cx defs width (o.withDefaults cx).lineSep
      (o.withDefaults cx).paraSep hne).1
    unfold defTableLines at hnn ⊢
    simp only [hT] at hnn ⊢
    rw [if_pos (by simpa using hnn)]
  · intro full item hitem
    have hle : item.1.length ≤ T := by
      rw [← hT]
      exact le_maxLineLen _ _ (List.mem_map.2 ⟨item, hitem, rfl⟩)
    simp only [gLen_triv cx htriv]
    have hc := defPara_combine cx htriv T item.1 hle
      (defRc (colLines cx item.2 (max (width - ((T : Int) + 2) - 2 - 2) 2)
        (o.withDefaults cx).lineSep))
    unfold defRightCol defRc colLines at hc
    unfold defRc colLines
    -- a term of full width gets the padding `[]`, which is what `repeatStr` gives for 0
    rw [ite_eq_left_iff.2 fun hn => by rw [show (T : Int) - item.1.length = 0 by omega]; rfl,
      repeatStr_single _ _ (by omega), ok_bind, wrapLines_triv cx htriv hsp, ok_bind,
      show ((T : Int) - (item.1.length : Int)).toNat = T - item.1.length by omega, hc, ok_bind]
    generalize defParaLines cx T item.1 _ = comb
    unfold mergePara
    generalize full.isEmpty = b
    cases b <;> cases comb <;> rfl

/-- … as a text: what `InsertDefinitionsTableOpts` inserts -/
theorem insertDefTableOpts_triv_text (htriv : ∀ s, cx.ends s = List.range' 1 s.length)
    (hsp : cx.isSpace cx.sp = true) (ed : Editor α) (pos : Int)
    (defs : List (List α × List α)) (width : Int) (o : Options α) (hne : defs ≠ []) :
    ed.insertDefTableOpts cx pos defs width o =
      ed.insert cx pos
        (joinWith (o.withDefaults cx).paraSep (defs.map fun item =>
          joinWith (o.withDefaults cx).lineSep
            (defParaLines cx (maxLineLen (defs.map (·.1))) item.1
              (defRc (colLines cx item.2
                (max (width - ((maxLineLen (defs.map (·.1)) : Int) + 2) - 2 - 2) 2)
                (o.withDefaults cx).lineSep)))) ++
          (if (o.withDefaults cx).noTrailing = true then [] else (o.withDefaults cx).lineSep)) := by
  rw [insertDefTableOpts_triv cx htriv hsp ed pos defs width o hne, Block.join_eq,
    (defTableLines_join cx defs width _ _ hne).2]
  cases (o.withDefaults cx).noTrailing <;> rfl

/-- a definition with at least one word has at least one wrapped line -/
theorem colLines_ne_nil (text : List α) (w : Int) (hw : 2 ≤ w) (sep : List α)
    (hwords : Spec.words ⟨cx.isSpace, cx.sp, cx.hy⟩ (replaceAll' cx text sep) ≠ []) :
    colLines cx text w sep ≠ [] :=
  fun h => hwords ((Spec.wrapLines_eq_nil_iff _ _ _).1 h).2

end

end RosedVerif
