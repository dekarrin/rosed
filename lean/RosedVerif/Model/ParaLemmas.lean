/-
Paragraphs: the per-paragraph callback loop (`paraLoop`, `Editor.applyParasM`) is lossless.
-/
import RosedVerif.Model.OptionsLemmas
namespace RosedVerif

section
variable {α : Type} [DecidableEq α]

/-! ## the calls made by `paraLoop` -/

/-- The list of calls `(index, paragraph, prefix, suffix)` that `paraLoop` makes, defined by the
same recursion as `paraLoop` itself. -/
def paraCalls (lineSep prevSuffix nextPrefix : List α) (ambig : Bool) :
    Nat → List α → List (List α) → List (Nat × List α × List α × List α)
  | idx, cur, [] => [(idx, cur, (if idx != 0 then nextPrefix else []), [])]
  | idx, cur, nxt :: rest =>
    (idx,
      (if (ambig && lineSep.isPrefixOf nxt) then cur ++ lineSep else cur),
      (if idx != 0 then nextPrefix else []),
      prevSuffix) ::
    paraCalls lineSep prevSuffix nextPrefix ambig (idx + 1)
      (if (ambig && lineSep.isPrefixOf nxt) then nxt.drop lineSep.length else nxt) rest

/-- the paragraphs handed to the callback, in order -/
def paraPieces (lineSep : List α) (ambig : Bool) : List α → List (List α) → List (List α)
  | cur, [] => [cur]
  | cur, nxt :: rest =>
    (if (ambig && lineSep.isPrefixOf nxt) then cur ++ lineSep else cur) ::
    paraPieces lineSep ambig
      (if (ambig && lineSep.isPrefixOf nxt) then nxt.drop lineSep.length else nxt) rest

theorem paraCalls_length (lineSep prevSuffix nextPrefix : List α) (ambig : Bool)
    (idx : Nat) (cur : List α) (rest : List (List α)) :
    (paraCalls lineSep prevSuffix nextPrefix ambig idx cur rest).length = rest.length + 1 := by
  induction rest generalizing idx cur with
  | nil => rfl
  | cons nxt rest ih => simp only [paraCalls, List.length_cons, ih]

theorem paraPieces_length (lineSep : List α) (ambig : Bool) (cur : List α)
    (rest : List (List α)) : (paraPieces lineSep ambig cur rest).length = rest.length + 1 := by
  induction rest generalizing cur with
  | nil => rfl
  | cons nxt rest ih => simp only [paraPieces, List.length_cons, ih]

theorem paraPieces_ne_nil (lineSep : List α) (ambig : Bool) (cur : List α)
    (rest : List (List α)) : paraPieces lineSep ambig cur rest ≠ [] := by
  cases rest <;> exact List.cons_ne_nil _ _

/-- the indexes of the calls are `idx, idx+1, …` -/
theorem paraCalls_indexes (lineSep prevSuffix nextPrefix : List α) (ambig : Bool)
    (idx : Nat) (cur : List α) (rest : List (List α)) :
    (paraCalls lineSep prevSuffix nextPrefix ambig idx cur rest).map (·.1) =
      List.range' idx (rest.length + 1) := by
  induction rest generalizing idx cur with
  | nil => rfl
  | cons nxt rest ih =>
    simp only [paraCalls, List.map_cons, ih, List.length_cons, List.range'_succ]

/-- the paragraphs of the calls are `paraPieces` -/
theorem paraCalls_paragraphs (lineSep prevSuffix nextPrefix : List α) (ambig : Bool)
    (idx : Nat) (cur : List α) (rest : List (List α)) :
    (paraCalls lineSep prevSuffix nextPrefix ambig idx cur rest).map (·.2.1) =
      paraPieces lineSep ambig cur rest := by
  induction rest generalizing idx cur with
  | nil => rfl
  | cons nxt rest ih => simp only [paraCalls, paraPieces, List.map_cons, ih]

/-- the prefixes: `[]` for the call with index `0`, `nextPrefix` for all others -/
theorem paraCalls_prefixes (lineSep prevSuffix nextPrefix : List α) (ambig : Bool)
    (idx : Nat) (cur : List α) (rest : List (List α)) :
    (paraCalls lineSep prevSuffix nextPrefix ambig idx cur rest).map (·.2.2.1) =
      (List.range' idx (rest.length + 1)).map fun i => if i = 0 then [] else nextPrefix := by
  induction rest generalizing idx cur with
  | nil =>
    simp only [paraCalls, List.map_cons, List.map_nil, List.length_nil, Nat.zero_add,
      List.range'_one]
    by_cases h : idx = 0 <;> simp [h]
  | cons nxt rest ih =>
    simp only [paraCalls, List.map_cons, ih, List.length_cons, List.range'_succ]
    by_cases h : idx = 0 <;> simp [h]

/-- the suffixes: `prevSuffix` for every call but the last, `[]` for the last -/
theorem paraCalls_suffixes (lineSep prevSuffix nextPrefix : List α) (ambig : Bool)
    (idx : Nat) (cur : List α) (rest : List (List α)) :
    (paraCalls lineSep prevSuffix nextPrefix ambig idx cur rest).map (·.2.2.2) =
      List.replicate rest.length prevSuffix ++ [[]] := by
  induction rest generalizing idx cur with
  | nil => rfl
  | cons nxt rest ih =>
    simp only [paraCalls, List.map_cons, ih, List.length_cons, List.replicate_succ,
      List.cons_append]

/-- pointwise form: the `i`-th call -/
theorem paraCalls_getElem (lineSep prevSuffix nextPrefix : List α) (ambig : Bool)
    (idx : Nat) (cur : List α) (rest : List (List α)) (i : Nat)
    (h : i < (paraCalls lineSep prevSuffix nextPrefix ambig idx cur rest).length) :
    let c := (paraCalls lineSep prevSuffix nextPrefix ambig idx cur rest)[i]
    c.1 = idx + i ∧
    c.2.1 = (paraPieces lineSep ambig cur rest)[i]'(by
      rw [paraPieces_length]; rw [paraCalls_length] at h; exact h) ∧
    c.2.2.1 = (if idx + i = 0 then [] else nextPrefix) ∧
    c.2.2.2 = (if i = rest.length then [] else prevSuffix) := by
  intro c
  have hl := paraCalls_length lineSep prevSuffix nextPrefix ambig idx cur rest
  have hi : i < rest.length + 1 := by omega
  have h1 := paraCalls_indexes lineSep prevSuffix nextPrefix ambig idx cur rest
  have h2 := paraCalls_paragraphs lineSep prevSuffix nextPrefix ambig idx cur rest
  have h3 := paraCalls_prefixes lineSep prevSuffix nextPrefix ambig idx cur rest
  have h4 := paraCalls_suffixes lineSep prevSuffix nextPrefix ambig idx cur rest
  refine ⟨?_, ?_, ?_, ?_⟩
  · have := List.getElem_of_eq h1 (i := i) (by simpa using h)
    simpa using this
  · have := List.getElem_of_eq h2 (i := i) (by simpa using h)
    simpa using this
  · have := List.getElem_of_eq h3 (i := i) (by simpa using h)
    simpa using this
  · have := List.getElem_of_eq h4 (i := i) (by simpa using h)
    rw [List.getElem_map] at this
    show c.2.2.2 = _
    rw [this]
    by_cases hlast : i = rest.length
    · subst hlast
      simp
    · rw [if_neg hlast, List.getElem_append_left (by simpa using (by omega : i < rest.length))]
      simp

/-- without the ambiguity repair the pieces are the split pieces, untouched -/
theorem paraPieces_not_ambig (lineSep : List α) (cur : List α) (rest : List (List α)) :
    paraPieces lineSep false cur rest = cur :: rest := by
  induction rest generalizing cur with
  | nil => rfl
  | cons nxt rest ih =>
    simp only [paraPieces, Bool.false_and, Bool.false_eq_true, if_false, ih]

/-- no piece starts with `lineSep` ⇒ nothing is moved -/
theorem paraPieces_of_no_prefix (lineSep : List α) (ambig : Bool) (cur : List α)
    (rest : List (List α)) (h : ∀ p ∈ rest, lineSep.isPrefixOf p = false) :
    paraPieces lineSep ambig cur rest = cur :: rest := by
  induction rest generalizing cur with
  | nil => rfl
  | cons nxt rest ih =>
    have h1 := h nxt (by simp)
    simp only [paraPieces, h1, Bool.and_false, Bool.false_eq_true, if_false]
    rw [ih nxt (fun p hp => h p (by simp [hp]))]

omit [DecidableEq α] in
theorem joinWith_append_cons (sep a b : List α) (t : List (List α)) :
    joinWith sep ((a ++ b) :: t) = a ++ joinWith sep (b :: t) := by
  cases t with
  | nil => simp only [joinWith_singleton]
  | cons y t => simp only [joinWith_cons_cons, List.append_assoc]

/-- moving a `lineSep` across a `paraSep` does not change the joined text, because the two
commute -/
theorem joinWith_paraPieces (paraSep lineSep : List α) (ambig : Bool)
    (hamb : ambig = true → paraSep ++ lineSep = lineSep ++ paraSep)
    (cur : List α) (rest : List (List α)) :
    joinWith paraSep (paraPieces lineSep ambig cur rest) = joinWith paraSep (cur :: rest) := by
  induction rest generalizing cur with
  | nil => rfl
  | cons nxt rest ih =>
    rw [paraPieces, joinWith_cons_of_ne_nil _ _ (paraPieces_ne_nil _ _ _ _), ih,
      joinWith_cons_cons]
    by_cases hs : (ambig && lineSep.isPrefixOf nxt) = true
    · simp only [hs, if_true]
      have hs' := Bool.and_eq_true_iff.mp hs
      have hp := List.prefix_iff_eq_append.mp (List.isPrefixOf_iff_prefix.mp hs'.2)
      have hc := hamb hs'.1
      conv => rhs; rw [← hp, joinWith_append_cons]
      simp only [List.append_assoc]
      rw [← List.append_assoc lineSep, ← List.append_assoc paraSep, hc]
    · simp only [hs, if_false, Bool.false_eq_true]

/-! ## `paraLoop` in terms of its calls -/

/-- `paraLoop` invokes the callback exactly on `paraCalls`, in order, and concatenates the
results. -/
theorem paraLoop_eq_mapM (op : Nat → List α → List α → List α → R (List (List α)))
    (lineSep prevSuffix nextPrefix : List α) (ambig : Bool)
    (idx : Nat) (cur : List α) (rest : List (List α)) :
    paraLoop op lineSep prevSuffix nextPrefix ambig idx cur rest =
      List.flatten <$> (paraCalls lineSep prevSuffix nextPrefix ambig idx cur rest).mapM
        (fun c => op c.1 c.2.1 c.2.2.1 c.2.2.2) := by
  induction rest generalizing idx cur with
  | nil =>
    simp only [paraLoop, paraCalls, List.mapM_cons, List.mapM_nil, pure_bind, map_bind, map_pure,
      List.flatten_cons, List.flatten_nil, List.append_nil, bind_pure]
  | cons nxt rest ih =>
    simp only [paraLoop, paraCalls, List.mapM_cons, ih, map_bind, map_pure, List.flatten_cons,
      bind_map_left]

/-- a one-result-per-paragraph callback: the loop is `mapM` over the pieces -/
theorem paraLoop_single (f : List α → R (List α))
    (lineSep prevSuffix nextPrefix : List α) (ambig : Bool)
    (idx : Nat) (cur : List α) (rest : List (List α)) :
    paraLoop (fun _ p _ _ => do pure [← f p]) lineSep prevSuffix nextPrefix ambig idx cur rest =
      (paraPieces lineSep ambig cur rest).mapM f := by
  induction rest generalizing idx cur with
  | nil =>
    simp only [paraLoop, paraPieces, List.mapM_cons, List.mapM_nil, pure_bind]
  | cons nxt rest ih =>
    simp only [paraLoop, paraPieces, List.mapM_cons, ih, bind_assoc, pure_bind,
      List.singleton_append]

/-- the identity callback returns the pieces -/
theorem paraLoop_id_eq (lineSep prevSuffix nextPrefix : List α) (ambig : Bool)
    (idx : Nat) (cur : List α) (rest : List (List α)) :
    paraLoop (fun _ p _ _ => pure [p]) lineSep prevSuffix nextPrefix ambig idx cur rest =
      .ok (paraPieces lineSep ambig cur rest) := by
  have := paraLoop_single (fun p => (pure p : R (List α))) lineSep prevSuffix nextPrefix ambig
    idx cur rest
  simp only [pure_bind] at this
  rw [this]
  exact (List.mapM_pure (f := id)).trans (congrArg pure (List.map_id _))

theorem paraLoop_id (paraSep lineSep prevSuffix nextPrefix : List α) (ambig : Bool)
    (hamb : ambig = true → paraSep ++ lineSep = lineSep ++ paraSep)
    (idx : Nat) (cur : List α) (rest : List (List α)) :
    ∃ outs, paraLoop (fun _ p _ _ => pure [p]) lineSep prevSuffix nextPrefix ambig idx cur rest
        = .ok outs ∧
      joinWith paraSep outs = joinWith paraSep (cur :: rest) :=
  ⟨_, paraLoop_id_eq lineSep prevSuffix nextPrefix ambig idx cur rest,
    joinWith_paraPieces paraSep lineSep ambig hamb cur rest⟩

end

/-! ## `Editor.applyParasM` -/
section
variable {α : Type} [DecidableEq α] (cx : Ctx α)

/-- the `ambig` flag of `applyParasM` -/
def Options.ambig (o : Options α) : Bool := (o.paraSep ++ o.lineSep) == (o.lineSep ++ o.paraSep)

/-- the affixes `applyParasM` passes to its callback -/
def Options.prevSuffix (o : Options α) : List α := (splitOn o.paraSep o.lineSep).headD []
def Options.nextPrefix (o : Options α) : List α :=
  if (splitOn o.paraSep o.lineSep).length > 1 then (splitOn o.paraSep o.lineSep).getLastD [] else []

/-- the calls `(index, paragraph, prefix, suffix)` made by `ed.applyParasM cx op o`
(`o` already defaulted) -/
def paraCallsOf (text : List α) (o : Options α) : List (Nat × List α × List α × List α) :=
  match splitOn text o.paraSep with
  | [] => []
  | p :: ps => paraCalls o.lineSep o.prevSuffix o.nextPrefix o.ambig 0 p ps

/-- the paragraphs handed to the callback by `ed.applyParasM cx op o` (`o` already defaulted) -/
def paragraphsOf (text : List α) (o : Options α) : List (List α) :=
  match splitOn text o.paraSep with
  | [] => []
  | p :: ps => paraPieces o.lineSep o.ambig p ps

theorem paraCallsOf_paragraphs (text : List α) (o : Options α) :
    (paraCallsOf text o).map (·.2.1) = paragraphsOf text o := by
  unfold paraCallsOf paragraphsOf
  split
  · rfl
  · exact paraCalls_paragraphs _ _ _ _ _ _ _

theorem paraCallsOf_length (text : List α) (o : Options α) :
    (paraCallsOf text o).length = (splitOn text o.paraSep).length := by
  unfold paraCallsOf
  split
  · rename_i h; simp only [h, List.length_nil]
  · rename_i p ps h; simp only [h, paraCalls_length, List.length_cons]

theorem paragraphsOf_length (text : List α) (o : Options α) :
    (paragraphsOf text o).length = (splitOn text o.paraSep).length := by
  unfold paragraphsOf
  split
  · rename_i h; simp only [h, List.length_nil]
  · rename_i p ps h; simp only [h, paraPieces_length, List.length_cons]

/-- the paragraphs joined by the paragraph separator are the text -/
theorem joinWith_paragraphsOf (text : List α) (o : Options α) :
    joinWith o.paraSep (paragraphsOf text o) = text := by
  have hj := joinWith_splitOn_all text o.paraSep
  unfold paragraphsOf
  split
  · rename_i h; rw [h] at hj; exact hj
  · rename_i p ps h
    rw [h] at hj
    rw [joinWith_paraPieces _ _ _ ?_ p ps, hj]
    intro ha
    exact eq_of_beq ha

/-- the callback of `applyParasM` is invoked exactly on `paraCallsOf`, in order -/
theorem applyParasM_eq_mapM (ed : Editor α)
    (op : Nat → List α → List α → List α → R (List (List α))) (o : Options α) :
    ed.applyParasM cx op o =
      ((paraCallsOf ed.text (o.withDefaults cx)).mapM (fun c => op c.1 c.2.1 c.2.2.1 c.2.2.2) >>=
        fun outs => pure (ed.withText (joinWith (o.withDefaults cx).paraSep outs.flatten))) := by
  unfold Editor.applyParasM paraCallsOf
  dsimp only
  cases splitOn ed.text (o.withDefaults cx).paraSep with
  | nil => simp only [List.mapM_nil, pure_bind, List.flatten_nil, joinWith_nil]
  | cons p ps =>
    dsimp only
    rw [paraLoop_eq_mapM, map_eq_pure_bind]
    simp only [bind_assoc, pure_bind]
    rfl

/-- A one-result-per-paragraph callback `f` is mapped over the paragraphs and the results are
joined with the paragraph separator. -/
theorem applyParasM_single (ed : Editor α) (f : List α → R (List α)) (o : Options α) :
    ed.applyParasM cx (fun _ p _ _ => do pure [← f p]) o =
      ((paragraphsOf ed.text (o.withDefaults cx)).mapM f >>=
        fun rs => pure (ed.withText (joinWith (o.withDefaults cx).paraSep rs))) := by
  unfold Editor.applyParasM paragraphsOf
  dsimp only
  cases splitOn ed.text (o.withDefaults cx).paraSep with
  | nil => simp only [List.mapM_nil, pure_bind, joinWith_nil]
  | cons p ps =>
    dsimp only
    rw [paraLoop_single]
    rfl

/-- result form: the result text is `joinWith paraSep rs` with one `rs` entry per `paraSep`-piece
of the input -/
theorem applyParasM_single_ok (ed r : Editor α) (f : List α → R (List α)) (o : Options α)
    (h : ed.applyParasM cx (fun _ p _ _ => do pure [← f p]) o = .ok r) :
    ∃ rs, (paragraphsOf ed.text (o.withDefaults cx)).mapM f = .ok rs ∧
      r = ed.withText (joinWith (o.withDefaults cx).paraSep rs) ∧
      r.text = joinWith (o.withDefaults cx).paraSep rs ∧
      r.opts = ed.opts ∧
      rs.length = (splitOn ed.text (o.withDefaults cx).paraSep).length := by
  rw [applyParasM_single] at h
  obtain ⟨rs, hrs, h⟩ := bind_ok.1 h
  have hr := (pure_ok.1 h).symm
  refine ⟨rs, hrs, hr, ?_, ?_, ?_⟩
  · rw [hr, Editor.withText_text]
  · rw [hr, Editor.withText_opts]
  · rw [mapM_ok_length f _ rs hrs, paragraphsOf_length]

/-- if the callback never fails, neither does `applyParasM` -/
theorem applyParasM_single_pure (ed : Editor α) (g : List α → List α) (o : Options α) :
    ed.applyParasM cx (fun _ p _ _ => do pure [← (pure (g p) : R (List α))]) o =
      .ok (ed.withText (joinWith (o.withDefaults cx).paraSep
        ((paragraphsOf ed.text (o.withDefaults cx)).map g))) := by
  rw [applyParasM_single, List.mapM_pure, pure_bind]
  rfl

/-- the identity callback leaves the Editor alone, whatever the defaults (`joinWith_splitOn_all`
also covers the empty separator) -/
theorem applyParas_id' (ed : Editor α) (o : Options α) :
    ed.applyParasM cx (fun _ p _ _ => pure [p]) o = .ok ed := by
  have := applyParasM_single_pure cx ed id o
  simp only [pure_bind, id] at this
  rw [this, List.map_id, joinWith_paragraphsOf, Editor.withText_self]

theorem applyParas_id (_hd : cx.dParaSep ≠ []) (ed : Editor α) (o : Options α) :
    ∃ r, ed.applyParasM cx (fun _ p _ _ => pure [p]) o = .ok r ∧ r.text = ed.text ∧
      r.opts = ed.opts :=
  ⟨ed, applyParas_id' cx ed o, rfl, rfl⟩

end

/-! ### non-vacuity on concrete lists -/

example : paraCalls [0] [7] [8] true 0 [1] [[0, 2], [3]] =
    [(0, [1, 0], [], [7]), (1, [2], [8], [7]), (2, [3], [8], [])] := by decide
example : paraPieces [0] true [1] [[0, 2], [3]] = [[1, 0], [2], [3]] := by decide
example : joinWith [0, 0] (paraPieces [0] true [1] [[0, 2], [3]]) =
    joinWith [0, 0] [[1], [0, 2], [3]] := by decide

end RosedVerif
