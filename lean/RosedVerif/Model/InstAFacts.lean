/-
Instance A (code points + the real segmentation) satisfies the well-formedness
hypotheses of the generic lemmas: boundaries partition the text (from the
finite-state theory), every code point has a positive UTF-8 length, and slices
between boundaries segment as inside the whole string.
-/
import RosedVerif.Model.InstA
import RosedVerif.Model.PosLemmas
import RosedVerif.Model.Totality
import RosedVerif.Heap.Lemmas
import RosedVerif.Gem.RunesTheory
namespace RosedVerif

theorem part_splitRunes (s : List Int) : Part (splitRunes s) s.length where
  sorted := splitRunes_sorted s
  pos := splitRunes_bounds s
  last := fun h => splitRunes_last s (by intro hs; rw [hs] at h; exact h rfl)

theorem utf8Len_pos (r : Int) : 0 < utf8Len r := by
  unfold utf8Len; split <;> (try split) <;> (try split) <;> omega

theorem cxA_WF : cxA.WF := ⟨part_splitRunes, utf8Len_pos⟩

theorem cxA_Sane : cxA.Sane := cxA_WF.sane

theorem sliceOK : H.SliceOK := by
  intro s st en e h0 h1 h2 a b
  exact splitRunes_slice s st en h0 h1 h2

theorem cxA_ends : cxA.ends = splitRunes := rfl

end RosedVerif
