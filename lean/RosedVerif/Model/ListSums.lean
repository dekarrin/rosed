/-
Lists and finite sums for the layout proofs: `mapM` and folds that are maps, joins, running maxima
(`maxLineLen`), lines padded to a width, sums over an initial segment of ℕ (`sumTo`), and lines made
of segments (`segLine`): how long they are, where a segment sits, which atoms occur.
-/
import RosedVerif.Model.StringsLemmas
namespace RosedVerif

theorem mapM_ok_map {β γ : Type} (f : β → R γ) (g : β → γ) :
    ∀ (l : List β), (∀ x ∈ l, f x = .ok (g x)) → l.mapM f = .ok (l.map g)
  | [], _ => by simp only [List.mapM_nil, List.map_nil]; rfl
  | x :: l, h => by
    have h1 := h x (by simp)
    have h2 := mapM_ok_map f g l (fun y hy => h y (by simp [hy]))
    simp only [List.mapM_cons, h1, h2, List.map_cons]
    rfl

theorem foldlM_ok_foldl {β γ : Type} (f : γ → β → R γ) (g : γ → β → γ) :
    ∀ (l : List β) (s : γ), (∀ acc x, x ∈ l → f acc x = .ok (g acc x)) →
      l.foldlM f s = .ok (l.foldl g s)
  | [], s, _ => rfl
  | x :: l, s, h => by
    rw [List.foldlM_cons, h s x (by simp), List.foldl_cons]
    exact foldlM_ok_foldl f g l _ (fun acc y hy => h acc y (by simp [hy]))

theorem repeatStr_of_nonneg {α : Type} (s : List α) (n : Int) (h : 0 ≤ n) :
    repeatStr s n = .ok (List.replicate n.toNat s).flatten := by
  unfold repeatStr
  rw [if_neg (by omega)]
  rfl

theorem repeatStr_single {α : Type} (a : α) (n : Int) (h : 0 ≤ n) :
    repeatStr [a] n = .ok (List.replicate n.toNat a) := by
  rw [repeatStr_of_nonneg _ _ h, List.flatten_replicate_singleton]

theorem foldl_step_eq {β γ : Type} (f : List γ → β → List γ) (g : β → List γ)
    (h : ∀ acc x, f acc x = acc ++ g x) : ∀ (l : List β) (s : List γ),
    l.foldl f s = s ++ (l.map g).flatten
  | [], s => by simp
  | x :: l, s => by
    rw [List.foldl_cons, h, foldl_step_eq f g h l, List.map_cons, List.flatten_cons, List.append_assoc]

theorem foldl_append_eq {β γ : Type} (g : β → List γ) (l : List β) (s : List γ) :
    l.foldl (fun acc x => acc ++ g x) s = s ++ (l.map g).flatten :=
  foldl_step_eq _ g (fun _ _ => rfl) l s

theorem getD_mem_of_lt {β : Type} (l : List β) (d : β) (i : Nat) (hi : i < l.length) :
    l.getD i d ∈ l :=
  List.getElem_eq_getD (h := hi) d ▸ List.getElem_mem hi

theorem getD_map_of_lt {β γ : Type} (g : β → γ) (l : List β) (d : β) (e : γ) (i : Nat)
    (hi : i < l.length) : (l.map g).getD i e = g (l.getD i d) := by
  rw [← List.getElem_eq_getD (h := hi), ← List.getElem_eq_getD (h := (List.length_map g).symm ▸ hi),
    List.getElem_map]

theorem map_range_getD {β : Type} (l : List β) (d : β) :
    (List.range l.length).map (fun i => l.getD i d) = l := by
  apply List.ext_getElem
  · simp
  · intro i h1 h2
    rw [List.getElem_map, List.getElem_range, ← List.getElem_eq_getD]

theorem map_range_getD_map {β γ : Type} (l : List β) (d : β) (f : β → γ) :
    (List.range l.length).map (fun i => f (l.getD i d)) = l.map f := by
  show (List.range l.length).map (f ∘ fun i => l.getD i d) = _
  rw [← List.map_map, map_range_getD]

theorem getD_map_range {β : Type} (f : Nat → β) (d : β) (k i : Nat) (h : i < k) :
    ((List.range k).map f).getD i d = f i := by
  rw [List.getD_eq_getElem?_getD, List.getElem?_eq_getElem (by simpa using h)]
  simp

/-- the join of `A ++ B`: every line of `A` is followed by a separator -/
theorem joinWith_append {α : Type} (sep : List α) (A B : List (List α)) (hB : B ≠ []) :
    joinWith sep (A ++ B) = (A.map (· ++ sep)).flatten ++ joinWith sep B := by
  induction A with
  | nil => rfl
  | cons x t ih =>
    rw [List.cons_append, joinWith_cons_of_ne_nil sep x (by simp [hB]), ih]
    simp only [List.map_cons, List.flatten_cons, List.append_assoc]

theorem joinWith_append_nil_piece {α : Type} (sep : List α) :
    ∀ L : List (List α), L ≠ [] → joinWith sep (L ++ [[]]) = joinWith sep L ++ sep
  | [], h => absurd rfl h
  | [x], _ => by
    rw [List.singleton_append, joinWith_cons_cons, joinWith_singleton, joinWith_singleton,
      List.append_nil]
  | x :: y :: t, _ => by
    rw [List.cons_append, joinWith_cons_of_ne_nil sep x (by simp),
      joinWith_append_nil_piece sep (y :: t) (by simp), joinWith_cons_cons]
    simp only [List.append_assoc]

/-- a join as the first part followed by the others, each after a separator -/
theorem joinWith_cons_flatten {α : Type} (sep p0 : List α) (ps : List (List α)) :
    joinWith sep (p0 :: ps) = p0 ++ (ps.map (sep ++ ·)).flatten := by
  induction ps generalizing p0 with
  | nil => simp
  | cons q t ih =>
    rw [joinWith_cons_cons, ih q]
    simp only [List.map_cons, List.flatten_cons, List.append_assoc]

theorem length_padRight {α : Type} (l : List α) (a : α) {n : Nat} (h : l.length ≤ n) :
    (l ++ List.replicate (n - l.length) a).length = n := by
  rw [List.length_append, List.length_replicate]
  omega

theorem take_padRight_append {α : Type} (l r : List α) (a : α) {n : Nat} (h : l.length ≤ n) :
    (l ++ List.replicate (n - l.length) a ++ r).take n = l ++ List.replicate (n - l.length) a :=
  List.take_left' (length_padRight l a h)

theorem drop_padRight_append {α : Type} (l r : List α) (a : α) {n : Nat} (h : l.length ≤ n) :
    (l ++ List.replicate (n - l.length) a ++ r).drop n = r :=
  List.drop_left' (length_padRight l a h)

/-- length of the longest line (0 if there is none) -/
def maxLineLen {α : Type} (ls : List (List α)) : Nat := ls.foldr (fun l m => max l.length m) 0

theorem maxLineLen_nil {α : Type} : maxLineLen ([] : List (List α)) = 0 := rfl

theorem maxLineLen_cons {α : Type} (l : List α) (ls : List (List α)) :
    maxLineLen (l :: ls) = max l.length (maxLineLen ls) := rfl

theorem le_maxLineLen {α : Type} : ∀ (ls : List (List α)) (l : List α), l ∈ ls →
    l.length ≤ maxLineLen ls
  | [], _, h => by simp at h
  | y :: ls, l, h => by
    rw [maxLineLen_cons]
    rcases List.mem_cons.1 h with rfl | h
    · omega
    · have := le_maxLineLen ls l h
      omega

theorem maxLineLen_le {α : Type} (b : Nat) : ∀ (ls : List (List α)), (∀ l ∈ ls, l.length ≤ b) →
    maxLineLen ls ≤ b
  | [], _ => Nat.zero_le _
  | y :: ls, h => by
    rw [maxLineLen_cons]
    have h1 := h y (by simp)
    have h2 := maxLineLen_le b ls (fun l hl => h l (by simp [hl]))
    omega

theorem getD_length_le_maxLineLen {α : Type} (ls : List (List α)) (i : Nat) :
    (ls.getD i []).length ≤ maxLineLen ls := by
  by_cases hi : i < ls.length
  · exact le_maxLineLen ls _ (getD_mem_of_lt ls [] i hi)
  · rw [List.getD_eq_getElem?_getD, List.getElem?_eq_none (by omega), Option.getD_none]
    simp

/-- a fold that keeps the running maximum of the lengths `(p b).length` computes `maxLineLen`.
`c` embeds `ℕ` into the type of the accumulator: the model's folds run over `Int`, with `if`s in
place of `max`, the specification's over `ℕ` -/
theorem foldl_max_eq {α β γ : Type} (p : β → List α) (c : Nat → γ) (g : γ → β → γ)
    (hg : ∀ m b, g (c m) b = c (max m (p b).length)) :
    ∀ (l : List β) (m0 : Nat), l.foldl g (c m0) = c (max m0 (maxLineLen (l.map p)))
  | [], m0 => by rw [List.map_nil, maxLineLen_nil, Nat.max_zero]; rfl
  | b :: l, m0 => by
    rw [List.foldl_cons, hg, foldl_max_eq p c g hg l, List.map_cons, maxLineLen_cons, Nat.max_assoc]

/-- the form of the fold in `CombineColumnBlocks` and `InsertTwoColumnsOpts` -/
theorem foldl_maxLen {α : Type} (ls : List (List α)) :
    ls.foldl (fun (m : Int) l => if (l.length : Int) > m then (l.length : Int) else m) 0
      = (maxLineLen ls : Int) := by
  refine (foldl_max_eq (fun l => l) Nat.cast _ (fun m b => ?_) ls 0).trans ?_
  · split <;> omega
  · rw [List.map_id', Nat.zero_max]

/-! ## sums over an initial segment of ℕ -/

/-- `Σ_{i<n} f i` -/
def sumTo (f : Nat → Int) : Nat → Int
  | 0 => 0
  | n + 1 => sumTo f n + f n

theorem sumTo_congr {f g : Nat → Int} : ∀ (n : Nat), (∀ i, i < n → f i = g i) → sumTo f n = sumTo g n
  | 0, _ => rfl
  | n + 1, h => by
    rw [sumTo, sumTo, sumTo_congr n (fun i hi => h i (by omega)), h n (by omega)]

theorem sumTo_add (f g : Nat → Int) : ∀ (n : Nat),
    sumTo (fun i => f i + g i) n = sumTo f n + sumTo g n
  | 0 => rfl
  | n + 1 => by
    simp only [sumTo, sumTo_add f g n]
    omega

theorem sumTo_const (c : Int) : ∀ (n : Nat), sumTo (fun _ => c) n = n * c
  | 0 => by simp [sumTo]
  | n + 1 => by
    simp only [sumTo, sumTo_const c n, Int.natCast_add, Int.natCast_one, Int.add_mul, Int.one_mul]

theorem sumTo_add_const (f : Nat → Int) (c : Int) (n : Nat) :
    sumTo (fun i => f i + c) n = sumTo f n + n * c := by
  rw [sumTo_add f (fun _ => c) n, sumTo_const]

theorem sumTo_nonneg {f : Nat → Int} : ∀ (n : Nat), (∀ i, i < n → 0 ≤ f i) → 0 ≤ sumTo f n
  | 0, _ => Int.le_refl _
  | n + 1, h => by
    have := sumTo_nonneg n (fun i hi => h i (by omega))
    have := h n (by omega)
    simp only [sumTo]
    omega

/-- `Σ_{i<k} [i < m] c = min m k * c` -/
theorem sumTo_lt (m c : Int) (h0 : 0 ≤ m) : ∀ (k : Nat),
    sumTo (fun i => if (i : Int) < m then c else 0) k = min m k * c
  | 0 => by
    have : min m ((0 : Nat) : Int) = 0 := by omega
    rw [this, Int.zero_mul]
    rfl
  | k + 1 => by
    simp only [sumTo, sumTo_lt m c h0 k]
    by_cases hk : (k : Int) < m
    · have e1 : min m (k : Int) = k := by omega
      have e2 : min m ((k + 1 : Nat) : Int) = (k : Int) + 1 := by omega
      rw [if_pos hk, e1, e2, Int.add_mul, Int.one_mul]
    · have e1 : min m (k : Int) = m := by omega
      have e2 : min m ((k + 1 : Nat) : Int) = m := by omega
      rw [if_neg hk, e1, e2, Int.add_zero]

/-- `S` handed out to the first `N` of `K` places, `S / N` each and one more to the first `S % N`
of them, is handed out completely -/
theorem sumTo_distribute (f : Nat → Int) (S N : Int) (K : Nat) (hN : 1 ≤ N) (hNK : N ≤ K) :
    sumTo (fun i => f i +
      ((if (i : Int) < N then S / N else 0) + (if (i : Int) < S % N then 1 else 0))) K =
      sumTo f K + S := by
  have hmod0 := Int.emod_nonneg S (b := N) (by omega)
  have hmod1 := Int.emod_lt_of_pos S (b := N) (by omega)
  rw [sumTo_add f, sumTo_add (fun i => if (i : Int) < N then S / N else 0),
    sumTo_lt _ _ (by omega), sumTo_lt _ _ hmod0, show min N (K : Int) = N by omega,
    show min (S % N) (K : Int) = S % N by omega, Int.mul_one]
  have := Int.mul_ediv_add_emod S N
  omega

/-- the last-column rule of the borderless table: `Σ_{i<k} [i+1<k] 2 = 2 (k-1)` -/
theorem sumTo_notLast (k : Nat) (hk : 0 < k) :
    sumTo (fun i => if i + 1 < k then (2 : Int) else 0) k = 2 * ((k : Int) - 1) := by
  obtain ⟨m, rfl⟩ : ∃ m, k = m + 1 := ⟨k - 1, by omega⟩
  rw [sumTo, if_neg (by omega), sumTo_congr (g := fun _ => (2 : Int)) m
    (fun i hi => by rw [if_pos (by omega)]), sumTo_const]
  omega

theorem foldl_range_add (g : Nat → Int) (s0 : Int) : ∀ (n : Nat),
    (List.range n).foldl (fun s i => s + g i) s0 = s0 + sumTo g n
  | 0 => by simp [sumTo]
  | n + 1 => by
    rw [List.range_succ, List.foldl_append, foldl_range_add g s0 n]
    simp only [List.foldl_cons, List.foldl_nil, sumTo]
    omega

theorem length_flatten_map_range {γ : Type} (g : Nat → List γ) : ∀ (n : Nat),
    ((((List.range n).map g).flatten.length : Nat) : Int) = sumTo (fun i => ((g i).length : Int)) n
  | 0 => by simp [sumTo]
  | n + 1 => by
    rw [List.range_succ, List.map_append, List.flatten_append, List.length_append, Int.natCast_add,
      length_flatten_map_range g n]
    simp [sumTo]

/-! ## a line made of segments -/

/-- `start ++ seg 0 ++ sep ++ seg 1 ++ sep ++ … ++ seg (n-1) ++ sep`: the common form of a table
row (`start = sep = vert`, or both empty without borders) and of the horizontal bar
(`start = sep = corner`) -/
def segLine {α : Type} (start sep : List α) (n : Nat) (seg : Nat → List α) : List α :=
  start ++ ((List.range n).map fun k => seg k ++ sep).flatten

/-- the start offset of segment `k` in a line whose segments are `w i` long and are separated by
`slen` atoms -/
def segOffset (w : Nat → Int) (slen0 slen : Nat) (k : Nat) : Int :=
  (slen0 : Int) + sumTo (fun i => w i + (slen : Int)) k

/-- a line of `n` segments of lengths `w i` ends where segment `n` would start -/
theorem segLine_length {α : Type} (start sep : List α) (n : Nat) (seg : Nat → List α)
    (w : Nat → Int) (hw : ∀ i, i < n → ((seg i).length : Int) = w i) :
    ((segLine start sep n seg).length : Int) = segOffset w start.length sep.length n := by
  unfold segLine segOffset
  rw [List.length_append, Int.natCast_add, length_flatten_map_range]
  congr 1
  apply sumTo_congr
  intro i hi
  rw [List.length_append, Int.natCast_add, hw i hi]

theorem range_split (n k : Nat) (hk : k < n) :
    List.range n = List.range k ++ k :: (List.range (n - k - 1)).map (fun j => k + 1 + j) := by
  obtain ⟨m, rfl⟩ : ∃ m, n = k + (m + 1) := ⟨n - k - 1, by omega⟩
  rw [List.range_add, List.range_succ_eq_map, List.map_cons, List.map_map,
    show k + (m + 1) - k - 1 = m by omega]
  congr 2
  exact List.map_congr_left fun j _ => by simp only [Function.comp]; omega

/-- cut `g 0 ++ g 1 ++ … ++ g (n-1)` around its `k`-th piece -/
theorem flatten_map_range_split {γ : Type} (g : Nat → List γ) (n k : Nat) (hk : k < n) :
    ((List.range n).map g).flatten =
      ((List.range k).map g).flatten ++ (g k ++
        ((List.range (n - k - 1)).map (fun j => g (k + 1 + j))).flatten) := by
  conv => lhs; rw [range_split n k hk]
  rw [List.map_append, List.flatten_append, List.map_cons, List.flatten_cons, List.map_map]
  rfl

theorem drop_take_of_split {γ : Type} (pre s rest : List γ) (a b : Nat) (ha : pre.length = a)
    (hb : s.length = b) : ((pre ++ (s ++ rest)).drop a).take b = s := by
  subst ha hb
  rw [List.drop_left, List.take_left]

theorem getElem?_of_split {γ : Type} (pre : List γ) (x : γ) (rest : List γ) (a : Nat)
    (ha : pre.length = a) : (pre ++ x :: rest)[a]? = some x := by
  subst ha
  simp

section
variable {α : Type}

theorem segLine_split (start sep : List α) (n : Nat) (seg : Nat → List α) (k : Nat) (hk : k < n) :
    segLine start sep n seg =
      segLine start sep k seg ++ (seg k ++ (sep ++
        ((List.range (n - k - 1)).map fun j => seg (k + 1 + j) ++ sep).flatten)) := by
  unfold segLine
  rw [flatten_map_range_split _ n k hk]
  simp only [List.append_assoc]

theorem TableShape.segOffset_nonneg (w : Nat → Int) (a b k : Nat) (hw : ∀ i, i < k → 0 ≤ w i) :
    0 ≤ segOffset w a b k := by
  unfold segOffset
  have := sumTo_nonneg (f := fun i => w i + (b : Int)) k (fun i hi => by have := hw i hi; omega)
  omega

theorem segLine_seg_at (start sep : List α) (n : Nat) (seg : Nat → List α) (w : Nat → Int)
    (k : Nat) (hk : k < n) (hw : ∀ i, i ≤ k → ((seg i).length : Int) = w i) :
    ((segLine start sep n seg).drop (segOffset w start.length sep.length k).toNat).take
      (w k).toNat = seg k := by
  rw [segLine_split start sep n seg k hk]
  apply drop_take_of_split
  · have := segLine_length start sep k seg w (fun i hi => hw i (by omega))
    omega
  · have := hw k (Nat.le_refl _)
    omega

theorem segLine_sep_at (start sep : List α) (n : Nat) (seg : Nat → List α) (w : Nat → Int)
    (k : Nat) (hk : k < n) (hw : ∀ i, i ≤ k → ((seg i).length : Int) = w i) :
    ((segLine start sep n seg).drop (segOffset w start.length sep.length k + w k).toNat).take
      sep.length = sep := by
  rw [segLine_split start sep n seg k hk, ← List.append_assoc, ← List.append_assoc,
    List.append_assoc _ sep]
  apply drop_take_of_split _ _ _ _ _ _ rfl
  have := segLine_length start sep k seg w (fun i hi => hw i (by omega))
  have := hw k (Nat.le_refl _)
  rw [List.length_append]
  omega

theorem segLine_start (start sep : List α) (n : Nat) (seg : Nat → List α) :
    (segLine start sep n seg).take start.length = start := by
  unfold segLine
  rw [List.take_left]

theorem mem_segLine (start sep : List α) (n : Nat) (seg : Nat → List α) (a : α)
    (h : a ∈ segLine start sep n seg) : a ∈ start ∨ a ∈ sep ∨ ∃ k, k < n ∧ a ∈ seg k := by
  unfold segLine at h
  rcases List.mem_append.1 h with h | h
  · exact .inl h
  · obtain ⟨l, hl, ha⟩ := List.mem_flatten.1 h
    obtain ⟨k, hk, rfl⟩ := List.mem_map.1 hl
    rcases List.mem_append.1 ha with ha | ha
    · exact .inr (.inr ⟨k, List.mem_range.1 hk, ha⟩)
    · exact .inr (.inl ha)

end

end RosedVerif
