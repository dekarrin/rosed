/-
One round of `appendWord` (manip.appendWordToWrappedLine) as an equation whose tests are
comparisons of cluster counts: the form in which termination, the width bound and the
refinement proof use the loop.
-/
import RosedVerif.Model.Manip
namespace RosedVerif
variable {α : Type} {cx : Ctx α}

/-- The word goes on the current line after one space, or directly if the line is empty; it
fills the line exactly, overflows it, or leaves room.  On overflow an empty line takes a
hyphenated head of the word, a non-empty line is emitted as it is. -/
theorem appendWord_succ {width : Int} (hw : 2 ≤ width) (fuel : Nat) (lines : List (List α))
    (word line : List α) :
    appendWord cx width (fuel + 1) lines word line =
      if gLen cx word = 0 then .ok (lines, line)
      else if gLen cx line = 0 then
        if (gLen cx word : Int) = width then appendWord cx width fuel (lines ++ [line ++ word]) [] []
        else if width < gLen cx word then
          appendWord cx width fuel (lines ++ [line ++ gSub cx word 0 (width - 1) ++ [cx.hy]])
            (gSub cx word (width - 1) (gLen cx word)) []
        else appendWord cx width fuel lines [] (line ++ word)
      else
        if ((gLen cx line + 1 + gLen cx word : Nat) : Int) = width then
          appendWord cx width fuel (lines ++ [line ++ [cx.sp] ++ word]) [] []
        else if width < (gLen cx line + 1 + gLen cx word : Nat) then
          appendWord cx width fuel (lines ++ [line]) word []
        else appendWord cx width fuel lines [] (line ++ [cx.sp] ++ word) := by
  rw [appendWord, if_neg (by omega)]
  by_cases hword : gLen cx word = 0
  · rw [if_neg (by omega), if_pos hword]; rfl
  · rw [if_pos (by omega), if_neg hword]
    by_cases hz : gLen cx line = 0
    · simp only [hz, Int.natCast_zero, bne_self_eq_false, Bool.false_eq_true, if_false, if_true,
        Int.add_zero, Int.zero_add, beq_iff_eq, gt_iff_lt]
    · have hz' : ¬ (gLen cx line : Int) = 0 := by omega
      simp only [hz, hz', bne_iff_ne, ne_eq, not_false_eq_true, if_true, if_false, beq_iff_eq,
        gt_iff_lt, Int.natCast_add, Int.natCast_one, Int.add_assoc, Int.add_comm 1]

end RosedVerif
