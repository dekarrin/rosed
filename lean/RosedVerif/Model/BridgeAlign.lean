/-
The A→B bridge for CountLeading/TrailingWhitespace and AlignLine{Left,Right,Center}.  On a stable
sequence of clusters running the model on CODE POINTS (instance `cxA`, real UAX #29 segmentation)
gives exactly the flattening of running it on CLUSTER TOKENS (instance `cxB`, one atom per
cluster).

The relation lemmas (`rel_…`) need only a stable sequence of clusters; segmenting the output back
needs a stable vocabulary containing the space token.
JustifyLine is in BridgeAlignCRLF.lean.
-/
import RosedVerif.Model.BridgeWrap
import RosedVerif.Model.AlignRefine
namespace RosedVerif
namespace BridgeAlign
open BridgeWrap

/-- `gem.String.IndexFunc` / `LastIndexFunc`: the predicates of the two levels agree on every
cluster (the models' whitespace tests look at the first code point of a cluster) -/
theorem findIdx?_singletons {f : List Int → Bool} {g : List (List Int) → Bool}
    (hfg : ∀ c, c ≠ [] → f c = g [c]) : ∀ (toks : List (List Int)), (∀ t ∈ toks, t ≠ []) →
    toks.findIdx? f = (toks.map fun c => [c]).findIdx? g
  | [], _ => rfl
  | t :: rest, h => by
    rw [List.map_cons, List.findIdx?_cons, List.findIdx?_cons,
      findIdx?_singletons hfg rest (fun x hx => h x (List.mem_cons_of_mem _ hx)),
      hfg t (h t List.mem_cons_self)]

section
variable {x : List Int} {y : List (List Int)} {f : List Int → Bool} {g : List (List Int) → Bool}

theorem rel_gIndexFunc (h : Rel x y) (hfg : ∀ c, c ≠ [] → f c = g [c]) :
    gIndexFunc cxA f x = gIndexFunc cxB g y := by
  unfold gIndexFunc findIdxInt
  rw [rel_clusters h, WrapRefine.clusters_triv cxB cxB_triv, findIdx?_singletons hfg y h.1.ne_nil]

theorem rel_gLastIndexFunc (h : Rel x y) (hfg : ∀ c, c ≠ [] → f c = g [c]) :
    gLastIndexFunc cxA f x = gLastIndexFunc cxB g y := by
  unfold gLastIndexFunc findIdxInt
  simp only [rel_clusters h, WrapRefine.clusters_triv cxB cxB_triv, ← List.map_reverse,
    List.length_map]
  rw [findIdx?_singletons hfg y.reverse (fun t ht => h.1.ne_nil t (List.mem_reverse.1 ht))]

theorem notSpaceHead_singleton : ∀ c : List Int, c ≠ [] →
    notSpaceHead cxA c = notSpaceHead cxB [c]
  | [], h => absurd rfl h
  | _ :: _, _ => rfl

theorem rel_countLeadingWs {x : List Int} {y : List (List Int)} (h : Rel x y) :
    countLeadingWs cxA x = countLeadingWs cxB y := by
  unfold countLeadingWs
  rw [rel_gIndexFunc h notSpaceHead_singleton, rel_gLen h]

theorem rel_countTrailingWs {x : List Int} {y : List (List Int)} (h : Rel x y) :
    countTrailingWs cxA x = countTrailingWs cxB y := by
  unfold countTrailingWs
  rw [rel_gLastIndexFunc h notSpaceHead_singleton, rel_gLen h]

theorem gRepeat_sp_flatten (n : Int) : (gRepeat [cxB.sp] n).flatten = gRepeat [cxA.sp] n := by
  rw [gRepeat_single, gRepeat_single]
  exact replicate_singleton_flatten (0x20 : Int) n.toNat

theorem Rel.ite (c : Prop) [Decidable c] {x' : List Int} {y' : List (List Int)} (h : Rel x y)
    (h' : Rel x' y') : Rel (if c then x else x') (if c then y else y') := by
  split
  · exact h
  · exact h'

theorem rel_alignLeft {x : List Int} {y : List (List Int)} (h : Rel x y) (w : Int) :
    alignLeft cxA x w = (alignLeft cxB y w).flatten := by
  have he := Rel.ite (countLeadingWs cxB y > 0) (rel_gSub h (countLeadingWs cxB y) (gLen cxB y)) h
  simp only [alignLeft_eq_core]
  unfold alignLeftCore
  dsimp only
  rw [rel_countLeadingWs h, rel_gLen h, rel_gLen he, List.flatten_append, gRepeat_sp_flatten,
    ← he.2]

theorem rel_alignRight {x : List Int} {y : List (List Int)} (h : Rel x y) (w : Int) :
    alignRight cxA x w = (alignRight cxB y w).flatten := by
  have he := Rel.ite (countTrailingWs cxB y > 0) (rel_gSub h 0 (-countTrailingWs cxB y)) h
  simp only [alignRight_eq_core]
  unfold alignRightCore
  dsimp only
  rw [rel_countTrailingWs h, rel_gLen he, List.flatten_append, gRepeat_sp_flatten, ← he.2]

theorem rel_alignCenter {x : List Int} {y : List (List Int)} (h : Rel x y) (w : Int) :
    alignCenter cxA x w = (alignCenter cxB y w).flatten := by
  have he := Rel.ite (countTrailingWs cxB y > 0)
    (rel_gSub h (countLeadingWs cxB y) (-countTrailingWs cxB y))
    (rel_gSub h (countLeadingWs cxB y) (gLen cxB y))
  simp only [alignCenter_eq_core]
  unfold alignCenterCore
  dsimp only
  rw [rel_countTrailingWs h, rel_countLeadingWs h, rel_gLen h, rel_gLen he,
    apply_ite List.flatten, List.flatten_append, List.flatten_append, gRepeat_sp_flatten,
    gRepeat_sp_flatten, ← he.2]

end

section specmem
variable {α : Type} (tk : Spec.Toks α)

theorem mem_pad {n : Nat} {c : α} (h : c ∈ Spec.pad tk n) : c = tk.sp :=
  List.eq_of_mem_replicate h

theorem mem_stripLeft {l : List α} {c : α} (h : c ∈ Spec.stripLeft tk l) : c ∈ l :=
  (Spec.stripLeft_suffix tk l).subset h

theorem mem_stripRight {l : List α} {c : α} (h : c ∈ Spec.stripRight tk l) : c ∈ l :=
  (Spec.stripRight_prefix tk l).subset h

theorem alignLeft_mem_tokens (w : Int) (l : List α) :
    ∀ c ∈ Spec.alignLeft tk w l, c ∈ l ∨ c = tk.sp := by
  intro c h
  unfold Spec.alignLeft at h
  rcases List.mem_append.1 h with h | h
  · exact Or.inl (mem_stripLeft tk h)
  · exact Or.inr (mem_pad tk h)

theorem alignRight_mem_tokens (w : Int) (l : List α) :
    ∀ c ∈ Spec.alignRight tk w l, c ∈ l ∨ c = tk.sp := by
  intro c h
  unfold Spec.alignRight at h
  rcases List.mem_append.1 h with h | h
  · exact Or.inr (mem_pad tk h)
  · exact Or.inl (mem_stripRight tk h)

theorem alignCenter_mem_tokens (w : Int) (l : List α) :
    ∀ c ∈ Spec.alignCenter tk w l, c ∈ l ∨ c = tk.sp := by
  intro c h
  unfold Spec.alignCenter at h
  dsimp only at h
  split at h
  · exact Or.inl (mem_stripLeft tk (mem_stripRight tk h))
  · rcases List.mem_append.1 h with h | h
    · rcases List.mem_append.1 h with h | h
      · exact Or.inr (mem_pad tk h)
      · exact Or.inl (mem_stripLeft tk (mem_stripRight tk h))
    · exact Or.inr (mem_pad tk h)

end specmem

theorem over_of_mem_or_sp {V : List (List Int)} (hsp : [0x20] ∈ V) {toks out : List (List Int)}
    (ht : ∀ t ∈ toks, t ∈ V) (h : ∀ c ∈ out, c ∈ toks ∨ c = cxB.sp) : ∀ t ∈ out, t ∈ V := by
  intro t hto
  rcases h t hto with h | h
  · exact ht t h
  · rw [h]; exact hsp

/-- a token list made of tokens of a text over `V` and of space tokens segments into itself -/
theorem clusters_of_mem_or_sp {V : List (List Int)} (hV : VocabStable V = true) (hsp : [0x20] ∈ V)
    {toks out : List (List Int)} (ht : ∀ t ∈ toks, t ∈ V)
    (h : ∀ c ∈ out, c ∈ toks ∨ c = cxB.sp) : clusters cxA out.flatten = out :=
  clusters_flatten_stable _ (stableRunes_of_vocab V hV _ (over_of_mem_or_sp hsp ht h))

end BridgeAlign
open BridgeWrap BridgeAlign

/-- CountLeadingWhitespace on code points = on cluster tokens -/
theorem countLeadingWs_bridge {V : List (List Int)} (hV : VocabStable V = true)
    (toks : List (List Int)) (ht : ∀ t ∈ toks, t ∈ V) :
    countLeadingWs cxA toks.flatten = countLeadingWs cxB toks :=
  rel_countLeadingWs ((RelV.mk' ht).rel hV)

/-- CountTrailingWhitespace on code points = on cluster tokens -/
theorem countTrailingWs_bridge {V : List (List Int)} (hV : VocabStable V = true)
    (toks : List (List Int)) (ht : ∀ t ∈ toks, t ∈ V) :
    countTrailingWs cxA toks.flatten = countTrailingWs cxB toks :=
  rel_countTrailingWs ((RelV.mk' ht).rel hV)

/-- closed form: the number of leading clusters whose first code point is whitespace (any
stable sequence of clusters) -/
theorem countLeadingWs_bridge_spec (toks : List (List Int)) (hst : StableRunes toks) :
    countLeadingWs cxA toks.flatten = ((toks.takeWhile cxB.isSpace).length : Int) := by
  rw [rel_countLeadingWs (Rel.mk' hst), countLeadingWs_triv cxB cxB_triv]

theorem countTrailingWs_bridge_spec (toks : List (List Int)) (hst : StableRunes toks) :
    countTrailingWs cxA toks.flatten = ((toks.reverse.takeWhile cxB.isSpace).length : Int) := by
  rw [rel_countTrailingWs (Rel.mk' hst), countTrailingWs_triv cxB cxB_triv]

/-- AlignLineLeft on code points = flattening of AlignLineLeft on cluster tokens -/
theorem alignLeft_bridge {V : List (List Int)} (hV : VocabStable V = true)
    (toks : List (List Int)) (ht : ∀ t ∈ toks, t ∈ V) (w : Int) :
    alignLeft cxA toks.flatten w = (alignLeft cxB toks w).flatten :=
  rel_alignLeft ((RelV.mk' ht).rel hV) w

theorem alignRight_bridge {V : List (List Int)} (hV : VocabStable V = true)
    (toks : List (List Int)) (ht : ∀ t ∈ toks, t ∈ V) (w : Int) :
    alignRight cxA toks.flatten w = (alignRight cxB toks w).flatten :=
  rel_alignRight ((RelV.mk' ht).rel hV) w

theorem alignCenter_bridge {V : List (List Int)} (hV : VocabStable V = true)
    (toks : List (List Int)) (ht : ∀ t ∈ toks, t ∈ V) (w : Int) :
    alignCenter cxA toks.flatten w = (alignCenter cxB toks w).flatten :=
  rel_alignCenter ((RelV.mk' ht).rel hV) w

/-- AlignLineLeft on code points is the flattening of the specification on clusters -/
theorem alignLeft_bridge_spec {V : List (List Int)} (hV : VocabStable V = true)
    (toks : List (List Int)) (ht : ∀ t ∈ toks, t ∈ V) (w : Int) :
    alignLeft cxA toks.flatten w =
      (Spec.alignLeft ⟨cxB.isSpace, cxB.sp, cxB.hy⟩ w toks).flatten := by
  rw [alignLeft_bridge hV toks ht w, alignLeft_triv cxB cxB_triv]

theorem alignRight_bridge_spec {V : List (List Int)} (hV : VocabStable V = true)
    (toks : List (List Int)) (ht : ∀ t ∈ toks, t ∈ V) (w : Int) :
    alignRight cxA toks.flatten w =
      (Spec.alignRight ⟨cxB.isSpace, cxB.sp, cxB.hy⟩ w toks).flatten := by
  rw [alignRight_bridge hV toks ht w, alignRight_triv cxB cxB_triv]

theorem alignCenter_bridge_spec {V : List (List Int)} (hV : VocabStable V = true)
    (toks : List (List Int)) (ht : ∀ t ∈ toks, t ∈ V) (w : Int) :
    alignCenter cxA toks.flatten w =
      (Spec.alignCenter ⟨cxB.isSpace, cxB.sp, cxB.hy⟩ w toks).flatten := by
  rw [alignCenter_bridge hV toks ht w, alignCenter_triv cxB cxB_triv]

/-- With the space in the vocabulary the output segments (real UAX #29 segmentation) back
into exactly the clusters of the specification, so all clauses of Spec/AlignLemmas.lean
transfer. -/
theorem alignLeft_bridge_clusters {V : List (List Int)} (hV : VocabStable V = true)
    (hsp : [0x20] ∈ V) (toks : List (List Int)) (ht : ∀ t ∈ toks, t ∈ V) (w : Int) :
    clusters cxA (alignLeft cxA toks.flatten w) =
      Spec.alignLeft ⟨cxB.isSpace, cxB.sp, cxB.hy⟩ w toks := by
  rw [alignLeft_bridge_spec hV toks ht w]
  exact clusters_of_mem_or_sp hV hsp ht (alignLeft_mem_tokens _ w toks)

theorem alignRight_bridge_clusters {V : List (List Int)} (hV : VocabStable V = true)
    (hsp : [0x20] ∈ V) (toks : List (List Int)) (ht : ∀ t ∈ toks, t ∈ V) (w : Int) :
    clusters cxA (alignRight cxA toks.flatten w) =
      Spec.alignRight ⟨cxB.isSpace, cxB.sp, cxB.hy⟩ w toks := by
  rw [alignRight_bridge_spec hV toks ht w]
  exact clusters_of_mem_or_sp hV hsp ht (alignRight_mem_tokens _ w toks)

theorem alignCenter_bridge_clusters {V : List (List Int)} (hV : VocabStable V = true)
    (hsp : [0x20] ∈ V) (toks : List (List Int)) (ht : ∀ t ∈ toks, t ∈ V) (w : Int) :
    clusters cxA (alignCenter cxA toks.flatten w) =
      Spec.alignCenter ⟨cxB.isSpace, cxB.sp, cxB.hy⟩ w toks := by
  rw [alignCenter_bridge_spec hV toks ht w]
  exact clusters_of_mem_or_sp hV hsp ht (alignCenter_mem_tokens _ w toks)

/-- the width clause transferred to code-point text, as an illustration: a line whose stripped
text fits is padded to exactly `w` clusters -/
theorem alignLeft_bridge_width {V : List (List Int)} (hV : VocabStable V = true)
    (hsp : [0x20] ∈ V) (toks : List (List Int)) (ht : ∀ t ∈ toks, t ∈ V) (w : Int)
    (h : ((Spec.stripLeft ⟨cxB.isSpace, cxB.sp, cxB.hy⟩ toks).length : Int) ≤ w) :
    (gLen cxA (alignLeft cxA toks.flatten w) : Int) = w := by
  rw [gLen_eq_clusters_length, alignLeft_bridge_clusters hV hsp toks ht w]
  exact Spec.alignLeft_length _ w toks h

namespace BridgeAlign

def demoVocab3 : List (List Int) :=
  [[0x61], [0x62], [0x20], [0x2D], [0x65, 0x301], [0x1F1E9, 0x1F1EA], [0x9], [0x0A]]

theorem demoVocab3_stable : VocabStable demoVocab3 = true :=
  VocabStable.mono demoWords_stable (by decide)

theorem demoVocab3_spTail : ∀ t ∈ demoVocab3, (0x20 : Int) ∉ t.tail :=
  spTail_of_spOnly (by decide)

theorem demoVocab3_nlOnly : ∀ t ∈ demoVocab3, (0x0A : Int) ∈ t → t = [0x0A] := by decide

/-- "<TAB> é 🇩🇪<LF>ab  ": AlignLineLeft on code points is the flattening of the specification, and the output
of AlignLineCenter re-segments into the specification's clusters -/
example (w : Int) :
    alignLeft cxA ([[0x9], [0x20], [0x65, 0x301], [0x20], [0x1F1E9, 0x1F1EA], [0x0A], [0x61],
        [0x62], [0x20], [0x20]] : List (List Int)).flatten w =
      (Spec.alignLeft ⟨cxB.isSpace, cxB.sp, cxB.hy⟩ w [[0x9], [0x20], [0x65, 0x301], [0x20],
        [0x1F1E9, 0x1F1EA], [0x0A], [0x61], [0x62], [0x20], [0x20]]).flatten :=
  alignLeft_bridge_spec demoVocab3_stable _ (by decide) w

example (w : Int) :
    clusters cxA (alignCenter cxA ([[0x9], [0x20], [0x65, 0x301], [0x20], [0x1F1E9, 0x1F1EA],
        [0x0A], [0x61], [0x62], [0x20], [0x20]] : List (List Int)).flatten w) =
      Spec.alignCenter ⟨cxB.isSpace, cxB.sp, cxB.hy⟩ w [[0x9], [0x20], [0x65, 0x301], [0x20],
        [0x1F1E9, 0x1F1EA], [0x0A], [0x61], [0x62], [0x20], [0x20]] :=
  alignCenter_bridge_clusters demoVocab3_stable (by decide) _ (by decide) w

/-- alignment does not need `demoVocab3`: any stable vocabulary will do, e.g. `demoVocab2` -/
example (w : Int) :
    alignRight cxA ([[0x61], [0x20], [0x65, 0x301], [0x9]] : List (List Int)).flatten w =
      (alignRight cxB [[0x61], [0x20], [0x65, 0x301], [0x9]] w).flatten :=
  alignRight_bridge demoVocab2_stable _ (by decide) w

end BridgeAlign

end RosedVerif
