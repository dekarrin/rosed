/-
The A→B bridge for CollapseSpace / Wrap (BridgeWrap.lean: manip level, EMPTY line separator) lifted
to
  (a) a NON-EMPTY line separator `S` with `GoodSep V S` (BridgeStrings.lean), and
  (b) the Editor-level operations `Editor.collapseSpaceOpts` / `Editor.wrapOpts` (non-paragraph
      mode), which is what the public operations run (Options.withDefaults always fills the line
      separator in).
-/
import RosedVerif.Model.BridgeStrings
import RosedVerif.Model.BridgeAlign
import RosedVerif.Model.OpsStructure
namespace RosedVerif
namespace BridgeOps
open BridgeWrap

section
variable {α : Type} [DecidableEq α] (cx : Ctx α)

/-- the separator only enters through the pre-pass -/
theorem collapseSpace_sep (text sep : List α) :
    collapseSpace cx text sep = collapseSpace cx (replaceAll' cx text sep) [] := rfl

theorem wrapLines_sep (text : List α) (w : Int) (sep : List α) :
    wrapLines cx text w sep = wrapLines cx (replaceAll' cx text sep) w [] := rfl

end

section vocab
variable {V : List (List Int)} {S : List (List Int)}

/-- CollapseSpace with a good separator, with the invariants of the result -/
theorem collapseSpace_bridge_good_full (hV : VocabStable V = true) (hsp : [0x20] ∈ V)
    (hspTail : ∀ t ∈ V, (0x20 : Int) ∉ t.tail) (hS : GoodSep V S)
    (toks : List (List Int)) (ht : ∀ t ∈ toks, t ∈ V) :
    ∃ r, collapseSpace cxB toks S = .ok r ∧
      collapseSpace cxA toks.flatten S.flatten = .ok r.flatten ∧
      r = Spec.collapse (WrapRefine.toks cxB) (replaceAll' cxB toks S) ∧
      (∀ t ∈ r, t ∈ V) ∧ (∀ t ∈ r, SpOK t) := by
  rw [collapseSpace_sep cxA, collapseSpace_sep cxB toks, hS.replaceAll' toks ht]
  exact collapseSpace_bridge_full hV hsp hspTail _ (replaceAll'_over hsp toks ht _)

/-- CollapseSpace with a good separator: code points = flattening of cluster tokens -/
theorem collapseSpace_bridge_good (hV : VocabStable V = true) (hsp : [0x20] ∈ V)
    (hspTail : ∀ t ∈ V, (0x20 : Int) ∉ t.tail) (hS : GoodSep V S)
    (toks : List (List Int)) (ht : ∀ t ∈ toks, t ∈ V) :
    collapseSpace cxA toks.flatten S.flatten = (collapseSpace cxB toks S).map List.flatten := by
  rw [collapseSpace_sep cxA, collapseSpace_sep cxB toks, hS.replaceAll' toks ht]
  exact collapseSpace_bridge_map hV hsp hspTail _ (replaceAll'_over hsp toks ht _)

theorem collapseSpace_bridge_good_spec (hV : VocabStable V = true) (hsp : [0x20] ∈ V)
    (hspTail : ∀ t ∈ V, (0x20 : Int) ∉ t.tail) (hS : GoodSep V S)
    (toks : List (List Int)) (ht : ∀ t ∈ toks, t ∈ V) :
    collapseSpace cxA toks.flatten S.flatten =
      .ok (Spec.collapse (WrapRefine.toks cxB) (replaceAll' cxB toks S)).flatten := by
  rw [collapseSpace_bridge_good hV hsp hspTail hS toks ht,
    collapseSpace_triv_all cxB cxB_triv cxB_sp_space]
  rfl

/-- Wrap with a good separator -/
theorem wrapLines_bridge_good (hV : VocabStable V = true) (hsp : [0x20] ∈ V)
    (hspTail : ∀ t ∈ V, (0x20 : Int) ∉ t.tail) (hS : GoodSep V S)
    (toks : List (List Int)) (ht : ∀ t ∈ toks, t ∈ V) (w : Int) :
    wrapLines cxA toks.flatten w S.flatten =
      (wrapLines cxB toks w S).map (List.map List.flatten) := by
  rw [wrapLines_sep cxA, wrapLines_sep cxB toks, hS.replaceAll' toks ht]
  exact wrapLines_bridge_map hV hsp hspTail _ (replaceAll'_over hsp toks ht _) w

theorem wrapLines_bridge_good_spec (hV : VocabStable V = true) (hsp : [0x20] ∈ V)
    (hspTail : ∀ t ∈ V, (0x20 : Int) ∉ t.tail) (hS : GoodSep V S)
    (toks : List (List Int)) (ht : ∀ t ∈ toks, t ∈ V) (w : Int) :
    wrapLines cxA toks.flatten w S.flatten =
      .ok ((Spec.wrapLines (WrapRefine.toks cxB) (max w 2).toNat
        (replaceAll' cxB toks S)).map List.flatten) := by
  rw [wrapLines_bridge_good hV hsp hspTail hS toks ht, wrapLines_triv cxB cxB_triv cxB_sp_space]
  rfl

end vocab

section vocab
variable {V : List (List Int)} {n : Int}

/-- CollapseSpace with the separator `[n]`: code points = flattening of cluster tokens -/
theorem _root_.RosedVerif.collapseSpace_bridge_sep (hV : VocabStable V = true) (hsp : [0x20] ∈ V)
    (hspTail : ∀ t ∈ V, (0x20 : Int) ∉ t.tail) (hnOnly : ∀ t ∈ V, n ∈ t → t = [n])
    (toks : List (List Int)) (ht : ∀ t ∈ toks, t ∈ V) :
    collapseSpace cxA toks.flatten [n] = (collapseSpace cxB toks [[n]]).map List.flatten :=
  collapseSpace_bridge_good hV hsp hspTail (goodSep_rune hV hnOnly) toks ht

theorem _root_.RosedVerif.collapseSpace_bridge_sep_spec (hV : VocabStable V = true)
    (hsp : [0x20] ∈ V) (hspTail : ∀ t ∈ V, (0x20 : Int) ∉ t.tail)
    (hnOnly : ∀ t ∈ V, n ∈ t → t = [n]) (toks : List (List Int)) (ht : ∀ t ∈ toks, t ∈ V) :
    collapseSpace cxA toks.flatten [n] =
      .ok (Spec.collapse ⟨cxB.isSpace, cxB.sp, cxB.hy⟩ (replaceAll' cxB toks [[n]])).flatten :=
  collapseSpace_bridge_good_spec hV hsp hspTail (goodSep_rune hV hnOnly) toks ht

theorem collapseSpace_bridge_sep_full (hV : VocabStable V = true) (hsp : [0x20] ∈ V)
    (hspTail : ∀ t ∈ V, (0x20 : Int) ∉ t.tail) (hnOnly : ∀ t ∈ V, n ∈ t → t = [n])
    (toks : List (List Int)) (ht : ∀ t ∈ toks, t ∈ V) :
    ∃ r, collapseSpace cxB toks [[n]] = .ok r ∧
      collapseSpace cxA toks.flatten [n] = .ok r.flatten ∧
      r = Spec.collapse ⟨cxB.isSpace, cxB.sp, cxB.hy⟩ (replaceAll' cxB toks [[n]]) ∧
      (∀ t ∈ r, t ∈ V) ∧ (∀ t ∈ r, SpOK t) :=
  collapseSpace_bridge_good_full hV hsp hspTail (goodSep_rune hV hnOnly) toks ht

/-- Wrap with the separator `[n]` -/
theorem _root_.RosedVerif.wrapLines_bridge_sep (hV : VocabStable V = true) (hsp : [0x20] ∈ V)
    (hspTail : ∀ t ∈ V, (0x20 : Int) ∉ t.tail) (hnOnly : ∀ t ∈ V, n ∈ t → t = [n])
    (toks : List (List Int)) (ht : ∀ t ∈ toks, t ∈ V) (w : Int) :
    wrapLines cxA toks.flatten w [n] =
      (wrapLines cxB toks w [[n]]).map (List.map List.flatten) :=
  wrapLines_bridge_good hV hsp hspTail (goodSep_rune hV hnOnly) toks ht w

/-- closed form: Wrap on code points is the line-wise flattening of the greedy specification
run on the cluster tokens after the separator pre-pass -/
theorem _root_.RosedVerif.wrapLines_bridge_sep_spec (hV : VocabStable V = true)
    (hsp : [0x20] ∈ V) (hspTail : ∀ t ∈ V, (0x20 : Int) ∉ t.tail)
    (hnOnly : ∀ t ∈ V, n ∈ t → t = [n]) (toks : List (List Int)) (ht : ∀ t ∈ toks, t ∈ V)
    (w : Int) :
    wrapLines cxA toks.flatten w [n] =
      .ok ((Spec.wrapLines ⟨cxB.isSpace, cxB.sp, cxB.hy⟩ (max w 2).toNat
        (replaceAll' cxB toks [[n]])).map List.flatten) :=
  wrapLines_bridge_good_spec hV hsp hspTail (goodSep_rune hV hnOnly) toks ht w

end vocab

end BridgeOps

/-- flatten every list field of the options (cluster tokens → code points) -/
def Options.flat (o : Options (List Int)) : Options Int where
  indentStr := o.indentStr.flatten
  lineSep := o.lineSep.flatten
  noTrailing := o.noTrailing
  paraSep := o.paraSep.flatten
  preservePara := o.preservePara
  justifyLast := o.justifyLast
  borders := o.borders
  headers := o.headers
  charset := o.charset.flatten

/-- flatten the text and the options of an editor (byte ranges of sub-editors are unchanged: the
byte length of a token is the sum of the byte lengths of its code points) -/
def Editor.flat : Editor (List Int) → Editor Int
  | .root t o => .root t.flatten o.flat
  | .sub t o p a b => .sub t.flatten o.flat p.flat a b

namespace BridgeOps
open BridgeWrap BridgeAlign

@[simp] theorem flat_root (t : List (List Int)) (o : Options (List Int)) :
    (Editor.root t o).flat = .root t.flatten o.flat := rfl

theorem flat_withText (ed : Editor (List Int)) (t : List (List Int)) :
    (ed.withText t).flat = ed.flat.withText t.flatten := by
  cases ed <;> rfl

theorem flat_text (ed : Editor (List Int)) : ed.flat.text = ed.text.flatten := by
  cases ed <;> rfl

theorem flat_opts (ed : Editor (List Int)) : ed.flat.opts = ed.opts.flat := by
  cases ed <;> rfl

theorem flat_default : ({} : Options (List Int)).flat = {} := rfl

theorem dLineSep_B : cxB.dLineSep = [[0x0A]] := by decide +kernel
theorem dParaSep_B : cxB.dParaSep = [[0x0A], [0x0A]] := by decide +kernel
theorem dIndent_B : cxB.dIndent = [[0x09]] := by decide +kernel
theorem dCharset_B : cxB.dCharset = [[0x2B], [0x7C], [0x2D]] := by decide +kernel
theorem dLineSep_flat : cxB.dLineSep.flatten = cxA.dLineSep := clusters_flatten cxA_WF _
theorem dParaSep_flat : cxB.dParaSep.flatten = cxA.dParaSep := clusters_flatten cxA_WF _
theorem dIndent_flat : cxB.dIndent.flatten = cxA.dIndent := clusters_flatten cxA_WF _
theorem dCharset_flat : cxB.dCharset.flatten = cxA.dCharset := clusters_flatten cxA_WF _

theorem ite_flatten (l d : List (List Int)) (h : ∀ t ∈ l, t ≠ []) :
    (if l.isEmpty then d else l).flatten = if l.flatten.isEmpty then d.flatten else l.flatten := by
  rw [flatten_isEmpty l h]
  split <;> rfl

/-- the separator / indent part of the defaults commutes with flattening -/
theorem sepDefaults_flat (o : Options (List Int)) (hl : ∀ t ∈ o.lineSep, t ≠ [])
    (hi : ∀ t ∈ o.indentStr, t ≠ []) (hp : ∀ t ∈ o.paraSep, t ≠ []) :
    (o.sepDefaults cxB).flat = o.flat.sepDefaults cxA := by
  cases o with
  | mk i l nt p pp jl b h c =>
    simp only [Options.sepDefaults, Options.flat, ite_flatten _ _ hl, ite_flatten _ _ hi,
      ite_flatten _ _ hp, dLineSep_flat, dParaSep_flat, dIndent_flat]
    rfl

theorem dCharset_rel : Rel cxA.dCharset cxB.dCharset :=
  ⟨stableRunes_of_vocab demoWords demoWords_stable _ (by rw [dCharset_B]; decide),
    dCharset_flat.symm⟩

/-- `Options.WithDefaults` commutes with flattening: both levels cut the same clusters out
of the character set, or out of the default one -/
theorem withDefaults_flat {V : List (List Int)} (hV : VocabStable V = true)
    (o : Options (List Int)) (hl : ∀ t ∈ o.lineSep, t ≠ [])
    (hi : ∀ t ∈ o.indentStr, t ≠ []) (hp : ∀ t ∈ o.paraSep, t ≠ [])
    (hc : ∀ t ∈ o.charset, t ∈ V) :
    (o.withDefaults cxB).flat = o.flat.withDefaults cxA := by
  have hc' : Rel o.flat.charset o.charset := (RelV.mk' hc).rel hV
  rw [withDefaults_eq, withDefaults_eq, rel_gLen hc', rel_gLen dCharset_rel,
    (rel_gSub hc' _ _).2, (rel_gSub dCharset_rel _ _).2, ← sepDefaults_flat o hl hi hp,
    apply_ite Options.flat, apply_ite Options.flat]
  simp only [Options.flat, List.flatten_append]

theorem withDefaults_flat_over {V : List (List Int)} (hV : VocabStable V = true)
    (o : Options (List Int)) (hl : ∀ t ∈ o.lineSep, t ∈ V) (hi : ∀ t ∈ o.indentStr, t ∈ V)
    (hp : ∀ t ∈ o.paraSep, t ∈ V) (hc : ∀ t ∈ o.charset, t ∈ V) :
    (o.withDefaults cxB).flat = o.flat.withDefaults cxA :=
  withDefaults_flat hV o (over_ne_nil hV hl) (over_ne_nil hV hi) (over_ne_nil hV hp) hc

/-- the non-emptiness of the separator tokens is needed: an (ill-formed) empty token makes the
token-level separator non-empty while its flattening is empty and gets replaced by the default -/
theorem withDefaults_flat_needs_ne :
    (({ lineSep := [[]] } : Options (List Int)).withDefaults cxB).flat ≠
      ({ lineSep := [[]] } : Options (List Int)).flat.withDefaults cxA := by
  decide +kernel

/-- the defaulted line separator on the rune side is the flattening of the one on the token side
(only the line-separator tokens need to be non-empty; compare `withDefaults_flat`) -/
theorem lineSep_flat_gen (o' : Options (List Int))
    (hne : ∀ t ∈ (o'.withDefaults cxB).lineSep, t ≠ []) :
    (o'.flat.withDefaults cxA).lineSep = (o'.withDefaults cxB).lineSep.flatten := by
  rw [Options.lineSep_withDefaults cxB o'] at hne ⊢
  rw [Options.lineSep_withDefaults cxA o'.flat]
  show (if o'.lineSep.flatten.isEmpty then cxA.dLineSep else o'.lineSep.flatten) = _
  by_cases he : o'.lineSep.isEmpty = true
  · have h0 : o'.lineSep = [] := List.isEmpty_iff.1 he
    rw [h0, ← dLineSep_flat]
    rfl
  · rw [if_neg he] at hne ⊢
    rw [BridgeWrap.flatten_isEmpty _ hne, if_neg he]

/-- the defaulted line separator on the rune side, when the token side is the single token `[n]` -/
theorem lineSep_flat {n : Int} (o' : Options (List Int))
    (hls : (o'.withDefaults cxB).lineSep = [[n]]) : (o'.flat.withDefaults cxA).lineSep = [n] := by
  rw [lineSep_flat_gen o' (by rw [hls]; simp), hls]
  rfl

theorem preservePara_flat (o' : Options (List Int)) :
    (o'.flat.withDefaults cxA).preservePara = (o'.withDefaults cxB).preservePara := by
  rw [withDefaults_preservePara, withDefaults_preservePara]; rfl

theorem join_flatten_gen (S : List (List Int)) (ls : List (List (List Int))) :
    (Block.mk (ls.map List.flatten) S.flatten false).join = (Block.mk ls S false).join.flatten := by
  unfold Block.join
  cases ls with
  | nil => rfl
  | cons l ls =>
    simp only [List.map_cons, List.isEmpty_cons, Bool.false_eq_true, ↓reduceIte, List.append_nil]
    exact joinWith_flatten S (l :: ls)

section vocab
variable {V : List (List Int)}

/-- `Editor.CollapseSpaceOpts` for a good line separator (any editor whose text is over `V`) -/
theorem collapseSpaceOpts_bridge_good (hV : VocabStable V = true) (hsp : [0x20] ∈ V)
    (hspTail : ∀ t ∈ V, (0x20 : Int) ∉ t.tail)
    (ed : Editor (List Int)) (ht : ∀ t ∈ ed.text, t ∈ V) (o' : Options (List Int))
    (hS : GoodSep V (o'.withDefaults cxB).lineSep) :
    Editor.collapseSpaceOpts cxA ed.flat o'.flat =
      (Editor.collapseSpaceOpts cxB ed o').map Editor.flat := by
  unfold Editor.collapseSpaceOpts
  simp only [lineSep_flat_gen o' hS.tok_ne, flat_text,
    collapseSpace_bridge_good hV hsp hspTail hS ed.text ht]
  cases collapseSpace cxB ed.text (o'.withDefaults cxB).lineSep with
  | error e => rfl
  | ok r => exact congrArg Except.ok (flat_withText ed r).symm

/-- `Editor.WrapOpts`, non-paragraph mode, for a good line separator (any editor whose text is
over `V`) -/
theorem wrapOpts_bridge_good (hV : VocabStable V = true) (hsp : [0x20] ∈ V)
    (hspTail : ∀ t ∈ V, (0x20 : Int) ∉ t.tail)
    (ed : Editor (List Int)) (ht : ∀ t ∈ ed.text, t ∈ V) (w : Int) (o' : Options (List Int))
    (hpp : o'.preservePara = false) (hS : GoodSep V (o'.withDefaults cxB).lineSep) :
    Editor.wrapOpts cxA ed.flat w o'.flat = (Editor.wrapOpts cxB ed w o').map Editor.flat := by
  have hppB : (o'.withDefaults cxB).preservePara = false := by
    rw [withDefaults_preservePara]; exact hpp
  have hppA : (o'.flat.withDefaults cxA).preservePara = false := by
    rw [preservePara_flat]; exact hppB
  obtain ⟨r, hB⟩ : ∃ r, wrapLines cxB ed.text (max w 2) (o'.withDefaults cxB).lineSep = .ok r :=
    ⟨_, wrapLines_triv cxB cxB_triv cxB_sp_space _ _ _⟩
  have hA : wrapLines cxA ed.flat.text (max w 2) (o'.flat.withDefaults cxA).lineSep =
      .ok (r.map List.flatten) := by
    rw [lineSep_flat_gen o' hS.tok_ne, flat_text, wrapLines_bridge_good hV hsp hspTail hS ed.text ht,
      hB]
    rfl
  rw [wrapOpts_structure cxB ed w o' _ hppB hB]
  refine (wrapOpts_structure cxA ed.flat w o'.flat _ hppA hA).trans (congrArg Except.ok ?_)
  rw [lineSep_flat_gen o' hS.tok_ne, flat_text, hS.suffix ed.text ht, joinWith_flatten,
    flat_withText, List.flatten_append, apply_ite List.flatten]
  rfl

variable {n : Int}

/-- `Editor.CollapseSpaceOpts` on a root editor, separator `[n]` -/
theorem _root_.RosedVerif.collapseSpaceOpts_bridge (hV : VocabStable V = true) (hsp : [0x20] ∈ V)
    (hspTail : ∀ t ∈ V, (0x20 : Int) ∉ t.tail) (hnOnly : ∀ t ∈ V, n ∈ t → t = [n])
    (toks : List (List Int)) (ht : ∀ t ∈ toks, t ∈ V) (o o' : Options (List Int))
    (hls : (o'.withDefaults cxB).lineSep = [[n]]) :
    Editor.collapseSpaceOpts cxA (.root toks.flatten o.flat) o'.flat =
      (Editor.collapseSpaceOpts cxB (.root toks o) o').map Editor.flat :=
  collapseSpaceOpts_bridge_good hV hsp hspTail (.root toks o) ht o' (hls ▸ goodSep_rune hV hnOnly)

/-- `Editor.WrapOpts` on a root editor, non-paragraph mode, separator `[n]` -/
theorem _root_.RosedVerif.wrapOpts_bridge (hV : VocabStable V = true) (hsp : [0x20] ∈ V)
    (hspTail : ∀ t ∈ V, (0x20 : Int) ∉ t.tail) (hnOnly : ∀ t ∈ V, n ∈ t → t = [n])
    (toks : List (List Int)) (ht : ∀ t ∈ toks, t ∈ V) (w : Int) (o o' : Options (List Int))
    (hpp : o'.preservePara = false) (hls : (o'.withDefaults cxB).lineSep = [[n]]) :
    Editor.wrapOpts cxA (.root toks.flatten o.flat) w o'.flat =
      (Editor.wrapOpts cxB (.root toks o) w o').map Editor.flat :=
  wrapOpts_bridge_good hV hsp hspTail (.root toks o) ht w o' hpp (hls ▸ goodSep_rune hV hnOnly)

end vocab

theorem default_lineSep_B : (({} : Options (List Int)).withDefaults cxB).lineSep = [[0x0A]] := by
  rw [Options.lineSep_withDefaults cxB _]
  exact dLineSep_B

theorem join_mk_false {α : Type} (ls : List (List α)) (sep : List α) :
    (Block.mk ls sep false).join = joinWith sep ls := by
  unfold Block.join
  cases ls with
  | nil => rfl
  | cons l ls => simp

/-- `Editor.WrapOpts` on cluster tokens, non-paragraph mode, in closed form -/
theorem wrapOpts_B_closed (ed : Editor (List Int)) (w : Int) (o' : Options (List Int))
    (hpp : o'.preservePara = false) :
    Editor.wrapOpts cxB ed w o' =
      .ok (ed.withText
        (joinWith (o'.withDefaults cxB).lineSep
            (Spec.wrapLines ⟨cxB.isSpace, cxB.sp, cxB.hy⟩ (max w 2).toNat
              (replaceAll' cxB ed.text (o'.withDefaults cxB).lineSep)) ++
          (if @List.isSuffixOf (List Int) instBEqOfDecidableEq (o'.withDefaults cxB).lineSep ed.text
            then (o'.withDefaults cxB).lineSep else []))) := by
  refine wrapOpts_structure cxB ed w o' _ (by rw [withDefaults_preservePara]; exact hpp) ?_
  rw [wrapLines_triv cxB cxB_triv cxB_sp_space, Int.max_assoc, Int.max_self]

section specne
variable {α : Type} (tk : Spec.Toks α)
open Spec

/-- a text that is empty or has a non-whitespace token wraps to at least one line -/
theorem spec_wrapLines_ne_nil (w : Nat) (l : List α)
    (h : l = [] ∨ ∃ c ∈ l, tk.ws c = false) : Spec.wrapLines tk w l ≠ [] := by
  intro e
  obtain ⟨hl, hwords⟩ := (wrapLines_eq_nil_iff tk w l).1 e
  rcases h with rfl | ⟨c, hc, hws⟩
  · exact hl rfl
  · rw [(words_eq_nil_iff tk l).1 hwords c hc] at hws
    cases hws
end specne

section vocab
variable {V : List (List Int)}

/-- `Editor.WrapOpts` with all options unset (line separator U+000A), on code points: it
succeeds and the new text is the flattening of the specification's lines joined by the line-feed
token, plus a trailing line feed when the text ended with one. -/
theorem _root_.RosedVerif.wrapOpts_default_bridge (hV : VocabStable V = true) (hsp : [0x20] ∈ V)
    (hspTail : ∀ t ∈ V, (0x20 : Int) ∉ t.tail) (hnl : ∀ t ∈ V, (0x0A : Int) ∈ t → t = [0x0A])
    (toks : List (List Int)) (ht : ∀ t ∈ toks, t ∈ V) (w : Int) :
    ∃ e, Editor.wrapOpts cxA (.root toks.flatten {}) w {} = .ok e ∧
      e.opts = {} ∧
      e.text =
        (joinWith [[0x0A]]
            (Spec.wrapLines ⟨cxB.isSpace, cxB.sp, cxB.hy⟩ (max w 2).toNat
              (replaceAll' cxB toks [[0x0A]])) ++
          (if ([[0x0A]] : List (List Int)).isSuffixOf toks then [[0x0A]] else [])).flatten := by
  have h := wrapOpts_bridge hV hsp hspTail hnl toks ht w {} {} rfl default_lineSep_B
  rw [flat_default, wrapOpts_B_closed _ _ _ rfl, default_lineSep_B] at h
  refine ⟨_, h, rfl, ?_⟩
  rw [← isSuffixOf_inst]
  rfl

/-- The lines of the result: splitting the new text at U+000A and segmenting every piece
(real UAX #29 segmentation) gives back exactly the specification's lines, plus the trailing empty
line when the text ended with the separator — PROVIDED the specification has at least one line
(i.e. the text is empty or contains a non-whitespace cluster; see
`wrapOpts_default_lines_needs_ne`). -/
theorem _root_.RosedVerif.wrapOpts_default_bridge_lines (hV : VocabStable V = true)
    (hsp : [0x20] ∈ V) (hhy : [0x2D] ∈ V)
    (hspTail : ∀ t ∈ V, (0x20 : Int) ∉ t.tail) (hnl : ∀ t ∈ V, (0x0A : Int) ∈ t → t = [0x0A])
    (toks : List (List Int)) (ht : ∀ t ∈ toks, t ∈ V) (w : Int)
    (hne : Spec.wrapLines ⟨cxB.isSpace, cxB.sp, cxB.hy⟩ (max w 2).toNat
      (replaceAll' cxB toks [[0x0A]]) ≠ []) :
    ∃ e, Editor.wrapOpts cxA (.root toks.flatten {}) w {} = .ok e ∧
      (splitOn e.text [0x0A]).map (clusters cxA) =
        Spec.wrapLines ⟨cxB.isSpace, cxB.sp, cxB.hy⟩ (max w 2).toNat
            (replaceAll' cxB toks [[0x0A]]) ++
          (if ([[0x0A]] : List (List Int)).isSuffixOf toks then [[]] else []) := by
  obtain ⟨e, he, -, htext⟩ := wrapOpts_default_bridge hV hsp hspTail hnl toks ht w
  refine ⟨e, he, ?_⟩
  generalize hL : Spec.wrapLines ⟨cxB.isSpace, cxB.sp, cxB.hy⟩ (max w 2).toNat
      (replaceAll' cxB toks [[0x0A]]) = L at hne htext ⊢
  -- the tokens of the lines: in `V`, and none is the line feed
  have hmem : ∀ line ∈ L ++ (if ([[0x0A]] : List (List Int)).isSuffixOf toks then [[]] else []),
      ∀ c ∈ line, c ∈ V ∧ c ≠ [0x0A] := by
    refine List.forall_mem_append.2 ⟨fun line hline c hc => ?_, by
      split
      · exact List.forall_mem_singleton.2 nofun
      · nofun⟩
    rw [← hL] at hline
    rcases wrapLines_mem_tokens _ _ _ line hline c hc with h | rfl | rfl
    · exact ⟨replaceAll'_over hsp toks ht _ c h, fun e =>
        replaceAll_single_not_mem toks [0x0A] [[0x20]] (by decide) (e ▸ h)⟩
    · exact ⟨hsp, by decide⟩
    · exact ⟨hhy, by decide⟩
  rw [htext, joinWith_append_ite _ L hne,
    splitOn_joinWith_flatten 0x0A _ (List.append_ne_nil_of_left_ne_nil hne _)
      (fun l hl t ht hm => (hmem l hl t ht).2 (hnl t (hmem l hl t ht).1 hm))]
  exact map_clusters_flatten_over hV fun l hl c hc => (hmem l hl c hc).1

/-- with a hypothesis on the text itself: it is empty or contains a non-whitespace cluster -/
theorem _root_.RosedVerif.wrapOpts_default_bridge_lines' (hV : VocabStable V = true)
    (hsp : [0x20] ∈ V) (hhy : [0x2D] ∈ V)
    (hspTail : ∀ t ∈ V, (0x20 : Int) ∉ t.tail) (hnl : ∀ t ∈ V, (0x0A : Int) ∈ t → t = [0x0A])
    (toks : List (List Int)) (ht : ∀ t ∈ toks, t ∈ V) (w : Int)
    (hne : toks = [] ∨ ∃ t ∈ toks, cxB.isSpace t = false) :
    ∃ e, Editor.wrapOpts cxA (.root toks.flatten {}) w {} = .ok e ∧
      (splitOn e.text [0x0A]).map (clusters cxA) =
        Spec.wrapLines ⟨cxB.isSpace, cxB.sp, cxB.hy⟩ (max w 2).toNat
            (replaceAll' cxB toks [[0x0A]]) ++
          (if ([[0x0A]] : List (List Int)).isSuffixOf toks then [[]] else []) := by
  refine wrapOpts_default_bridge_lines hV hsp hhy hspTail hnl toks ht w ?_
  refine spec_wrapLines_ne_nil _ _ _ ?_
  rcases hne with rfl | ⟨t, htm, hws⟩
  · exact Or.inl rfl
  · refine Or.inr ⟨t, ?_, hws⟩
    refine mem_replaceAll_single toks [0x0A] [[0x20]] t htm ?_
    intro e
    rw [e] at hws
    revert hws
    decide

end vocab

/-- `demoVocab2` plus the line feed: the list `BridgeAlign.demoVocab3` -/
def demoVocab3 : List (List Int) := demoVocab2 ++ [[0x0A]]

theorem demoVocab3_stable : VocabStable demoVocab3 = true := BridgeAlign.demoVocab3_stable

theorem demoVocab3_sp : [0x20] ∈ demoVocab3 := by decide
theorem demoVocab3_hy : [0x2D] ∈ demoVocab3 := by decide
theorem demoVocab3_nl : [0x0A] ∈ demoVocab3 := by decide

theorem demoVocab3_spTail : ∀ t ∈ demoVocab3, (0x20 : Int) ∉ t.tail := BridgeAlign.demoVocab3_spTail

theorem demoVocab3_nlOnly : ∀ t ∈ demoVocab3, (0x0A : Int) ∈ t → t = [0x0A] := BridgeAlign.demoVocab3_nlOnly

/-- all hypotheses of the Editor-level bridge hold for the vocabulary `demoVocab3` and the
separator U+000A: for every text over the vocabulary, every width, every editor options `o` and
every call options `o'` that leave the line separator unset (or set it to "\n") and do not ask
for paragraph mode, `WrapOpts` / `CollapseSpaceOpts` on code points are the flattening of the
same operations on cluster tokens -/
example (toks : List (List Int)) (ht : ∀ t ∈ toks, t ∈ demoVocab3) (w : Int)
    (o o' : Options (List Int)) (hpp : o'.preservePara = false)
    (hls : o'.lineSep = [] ∨ o'.lineSep = [[0x0A]]) :
    Editor.wrapOpts cxA (.root toks.flatten o.flat) w o'.flat =
        (Editor.wrapOpts cxB (.root toks o) w o').map Editor.flat ∧
    Editor.collapseSpaceOpts cxA (.root toks.flatten o.flat) o'.flat =
        (Editor.collapseSpaceOpts cxB (.root toks o) o').map Editor.flat := by
  have h : (o'.withDefaults cxB).lineSep = [[0x0A]] := by
    rw [Options.lineSep_withDefaults cxB o']
    rcases hls with h | h <;> rw [h]
    · exact dLineSep_B
    · rfl
  exact ⟨wrapOpts_bridge demoVocab3_stable demoVocab3_sp demoVocab3_spTail demoVocab3_nlOnly
      toks ht w o o' hpp h,
    collapseSpaceOpts_bridge demoVocab3_stable demoVocab3_sp demoVocab3_spTail demoVocab3_nlOnly
      toks ht o o' h⟩

/-- the string helpers on the same vocabulary -/
example (toks : List (List Int)) (ht : ∀ t ∈ toks, t ∈ demoVocab3) :
    splitOn toks.flatten [0x0A] = (splitOn toks [[0x0A]]).map List.flatten ∧
    replaceAll toks.flatten [0x0A] [0x20] = (replaceAll toks [[0x0A]] [[0x20]]).flatten ∧
    (∀ t ∈ replaceAll toks [[0x0A]] [[0x20]], t ∈ demoVocab3) ∧
    ([0x0A] : List Int).isSuffixOf toks.flatten = ([[0x0A]] : List (List Int)).isSuffixOf toks :=
  ⟨splitOn_bridge demoVocab3_nlOnly toks ht, replaceAll_bridge demoVocab3_nlOnly toks ht,
    replaceAll_over demoVocab3_sp toks ht _,
    isSuffixOf_bridge' demoVocab3_stable demoVocab3_nlOnly toks ht⟩

/-- "a é<TAB>\n🇩🇪🇩🇪b ab\n" with the default options, any width: `WrapOpts` on code points
succeeds and its lines, re-segmented, are the lines of the greedy specification on clusters plus
the trailing empty line -/
example (w : Int) :
    ∃ e, Editor.wrapOpts cxA (.root ([[0x61], [0x20], [0x65, 0x301], [0x9], [0x0A],
        [0x1F1E9, 0x1F1EA], [0x1F1E9, 0x1F1EA], [0x62], [0x20], [0x61], [0x62], [0x0A]] :
          List (List Int)).flatten {}) w {} = .ok e ∧
      (splitOn e.text [0x0A]).map (clusters cxA) =
        Spec.wrapLines ⟨cxB.isSpace, cxB.sp, cxB.hy⟩ (max w 2).toNat
          [[0x61], [0x20], [0x65, 0x301], [0x9], [0x20],
            [0x1F1E9, 0x1F1EA], [0x1F1E9, 0x1F1EA], [0x62], [0x20], [0x61], [0x62], [0x20]] ++
          [[]] := by
  have h := wrapOpts_default_bridge_lines' demoVocab3_stable demoVocab3_sp demoVocab3_hy
    demoVocab3_spTail demoVocab3_nlOnly
    [[0x61], [0x20], [0x65, 0x301], [0x9], [0x0A], [0x1F1E9, 0x1F1EA], [0x1F1E9, 0x1F1EA],
      [0x62], [0x20], [0x61], [0x62], [0x0A]] (by decide) w
    (Or.inr ⟨[0x61], by decide, by decide⟩)
  have e1 : replaceAll' cxB ([[0x61], [0x20], [0x65, 0x301], [0x9], [0x0A], [0x1F1E9, 0x1F1EA],
      [0x1F1E9, 0x1F1EA], [0x62], [0x20], [0x61], [0x62], [0x0A]] : List (List Int)) [[0x0A]] =
      [[0x61], [0x20], [0x65, 0x301], [0x9], [0x20],
        [0x1F1E9, 0x1F1EA], [0x1F1E9, 0x1F1EA], [0x62], [0x20], [0x61], [0x62], [0x20]] := by
    decide +kernel
  have e2 : ([[0x0A]] : List (List Int)).isSuffixOf ([[0x61], [0x20], [0x65, 0x301], [0x9],
      [0x0A], [0x1F1E9, 0x1F1EA], [0x1F1E9, 0x1F1EA], [0x62], [0x20], [0x61], [0x62], [0x0A]] :
      List (List Int)) = true := by decide +kernel
  rw [e1, e2, if_pos rfl] at h
  exact h

/-- the side condition of `wrapOpts_default_bridge_lines` is needed: for the text "\n" (whitespace
only, ending with the separator) the specification has NO line, the new text is "\n" again, and
splitting it gives two empty lines, not one -/
theorem wrapOpts_default_lines_needs_ne (w : Int) :
    ∃ e, Editor.wrapOpts cxA (.root ([[0x0A]] : List (List Int)).flatten {}) w {} = .ok e ∧
      e.text = [0x0A] ∧
      (splitOn e.text [0x0A]).map (clusters cxA) = [[], []] ∧
      Spec.wrapLines ⟨cxB.isSpace, cxB.sp, cxB.hy⟩ (max w 2).toNat
          (replaceAll' cxB [[0x0A]] [[0x0A]]) ++
        (if ([[0x0A]] : List (List Int)).isSuffixOf [[0x0A]] then [[]] else []) = [[]] := by
  obtain ⟨e, he, -, htext⟩ := wrapOpts_default_bridge demoVocab3_stable demoVocab3_sp
    demoVocab3_spTail demoVocab3_nlOnly [[0x0A]] (by decide) w
  have e1 : replaceAll' cxB ([[0x0A]] : List (List Int)) [[0x0A]] = [[0x20]] := by decide +kernel
  have e2 : Spec.wrapLines ⟨cxB.isSpace, cxB.sp, cxB.hy⟩ (max w 2).toNat [[0x20]] = [] := by
    simp [Spec.wrapLines, Spec.words, Spec.wordsAux, Spec.fill, cxB, isSpaceRune_sp]
  rw [e1, e2] at htext
  have e3 : e.text = [0x0A] := by rw [htext]; decide +kernel
  refine ⟨e, he, e3, ?_, ?_⟩
  · rw [e3]; decide +kernel
  · rw [e1, e2]; decide +kernel

/-- the hypothesis `hnOnly` is needed for the string helpers: CR LF is a single cluster, the
vocabulary below is stable, but splitting the code points at U+000A cuts that cluster in two -/
theorem nlOnly_needed_split :
    VocabStable [[0x61], [0x20], [0x0A], [0x0D, 0x0A]] = true ∧
    splitOn ([[0x61], [0x0D, 0x0A], [0x61]] : List (List Int)).flatten [0x0A] ≠
      (splitOn ([[0x61], [0x0D, 0x0A], [0x61]] : List (List Int)) [[0x0A]]).map List.flatten := by
  decide +kernel

/-- the hypothesis `hnOnly` is needed for CollapseSpace: with the combining acute accent U+0301 as
"separator", the code-point level turns the accent inside the cluster `e + U+0301` into a space,
the token level leaves the cluster alone -/
theorem sepOnly_needed :
    VocabStable [[0x61], [0x20], [0x65, 0x301]] = true ∧
    collapseSpace cxA ([[0x65, 0x301]] : List (List Int)).flatten [0x301] = .ok [0x65, 0x20] ∧
    collapseSpace cxB [[0x65, 0x301]] [[0x301]] = .ok [[0x65, 0x301]] :=
  ⟨by decide +kernel, of_okEq (by decide +kernel), of_okEq (by decide +kernel)⟩

/-- `demoVocab2` plus the CR LF cluster -/
def demoVocabCRLF : List (List Int) := demoVocab2 ++ [[0x0D, 0x0A]]

theorem demoVocabCRLF_stable : VocabStable demoVocabCRLF = true :=
  VocabStable.mono demoWords_stable (by decide)

theorem demoVocabCRLF_good : GoodSep demoVocabCRLF [[0x0D, 0x0A]] :=
  goodSep_tok demoVocabCRLF_stable 0x0D [0x0A] (by decide) (by decide)

/-- `WrapOpts` / `CollapseSpaceOpts` with the Windows line separator "\r\n" -/
example (toks : List (List Int)) (ht : ∀ t ∈ toks, t ∈ demoVocabCRLF) (w : Int)
    (o o' : Options (List Int)) (hpp : o'.preservePara = false)
    (hls : o'.lineSep = [[0x0D, 0x0A]]) :
    Editor.wrapOpts cxA (.root toks.flatten o.flat) w o'.flat =
        (Editor.wrapOpts cxB (.root toks o) w o').map Editor.flat ∧
    Editor.collapseSpaceOpts cxA (.root toks.flatten o.flat) o'.flat =
        (Editor.collapseSpaceOpts cxB (.root toks o) o').map Editor.flat ∧
    o'.flat.lineSep = [0x0D, 0x0A] := by
  have h : GoodSep demoVocabCRLF (o'.withDefaults cxB).lineSep := by
    rw [Options.lineSep_withDefaults cxB o', hls, if_neg (by decide)]
    exact demoVocabCRLF_good
  refine ⟨wrapOpts_bridge_good demoVocabCRLF_stable (by decide)
      (spTail_of_spOnly (by decide)) (.root toks o) ht w o' hpp h,
    collapseSpaceOpts_bridge_good demoVocabCRLF_stable (by decide)
      (spTail_of_spOnly (by decide)) (.root toks o) ht o' h, ?_⟩
  show o'.lineSep.flatten = _
  rw [hls]; rfl

theorem demoVocab3_marker_nl : Marker demoVocab3 [0x0A] :=
  ⟨0x0A, [], rfl, List.not_mem_nil, demoVocab3_nlOnly⟩

/-- a two-token separator: "\n\n" -/
theorem demoVocab3_good_nlnl : GoodSep demoVocab3 [[0x0A], [0x0A]] :=
  goodSep_markers demoVocab3_stable _ (by simp) (by
    intro s hs
    simp only [List.mem_cons, List.not_mem_nil, or_false, or_self] at hs
    rw [hs]; exact demoVocab3_marker_nl)

example (toks : List (List Int)) (ht : ∀ t ∈ toks, t ∈ demoVocab3) (w : Int) :
    wrapLines cxA toks.flatten w [0x0A, 0x0A] =
      .ok ((Spec.wrapLines ⟨cxB.isSpace, cxB.sp, cxB.hy⟩ (max w 2).toNat
        (replaceAll' cxB toks [[0x0A], [0x0A]])).map List.flatten) :=
  wrapLines_bridge_good_spec demoVocab3_stable demoVocab3_sp demoVocab3_spTail
    demoVocab3_good_nlnl toks ht w

end BridgeOps
end RosedVerif
