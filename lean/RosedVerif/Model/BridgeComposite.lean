/-
The A→B bridge for the composite operations: CombineColumnBlocks, Editor.Insert, two-column layout,
definitions table, table.  On a stable vocabulary `V` running the model on CODE POINTS (instance
`cxA`, real UAX #29 segmentation) gives exactly the flattening of running it on CLUSTER TOKENS
(instance `cxB`, one atom per cluster).

Columns, Insert and the definitions table are bridged step by step along their definitions.  The
table goes through the simulation of `TableSim.lean`: flattening over `V` is a homomorphism of the
layout primitives in the sense of `LayoutSim.lean` (`homFlat`), which gives `makeTable_bridge`; the
identity is one too (`homId`), and there the simulation says that the table stays over `V`
(`makeTable_B_over`).  The corollaries `…_bridge_C14/15/16` carry the cluster-level statements of
C14–C16 over to code points; `hup_needed` and `charset_over_needed` show that two hypotheses of the
table bridge cannot be dropped.
-/
import RosedVerif.Model.BridgeOps
import RosedVerif.Model.CompositeLemmas
import RosedVerif.Model.TableSim
namespace RosedVerif
set_option linter.unusedSectionVars false

/-- the clusters of the flattening of a token list over `V` are the tokens -/
theorem clusters_flat_over {V : List (List Int)} (hV : VocabStable V = true)
    {toks : List (List Int)} (ht : ∀ t ∈ toks, t ∈ V) : clusters cxA toks.flatten = toks :=
  clusters_flatten_stable toks (stableRunes_of_vocab V hV toks ht)

namespace BridgeComposite
open BridgeWrap BridgeOps LayoutSim

/-- a computation and its image under `φ`, continued by corresponding continuations -/
theorem map_bind_eq {A B C D : Type} {φ : B → A} {ψ : D → C} {y : R B} {f : A → R C}
    {g : B → R D} (h : ∀ b, y = .ok b → f (φ b) = (g b).map ψ) :
    y.map φ >>= f = (y >>= g).map ψ := by
  cases y with
  | error e => rfl
  | ok b => exact h b rfl

theorem mapM_map_bridge {β γ δ : Type} (f : β → R γ) (g : β → R δ) (h : δ → γ) :
    ∀ (l : List β), (∀ x ∈ l, f x = (g x).map h) → l.mapM f = (l.mapM g).map (List.map h)
  | [], _ => by simp only [List.mapM_nil]; rfl
  | x :: l, hx => by
    rw [List.mapM_cons, List.mapM_cons, hx x List.mem_cons_self,
      mapM_map_bridge f g h l fun y hy => hx y (List.mem_cons_of_mem _ hy)]
    exact map_bind_eq fun a _ => map_bind_eq fun as _ => rfl

theorem getD_map_flatten {β : Type} (ls : List (List (List β))) (i : Nat) :
    (ls.map List.flatten).getD i [] = (ls.getD i []).flatten :=
  getD_map_nil List.flatten rfl ls i

theorem stableRunes_nil : StableRunes [] := by
  unfold StableRunes
  rw [List.map_nil, stableSeq_iff_R]
  trivial

theorem getD_stable {ls : List (List (List Int))} (h : ∀ l ∈ ls, StableRunes l) (i : Nat) :
    StableRunes (ls.getD i []) := getD_forall stableRunes_nil h i

theorem getD_over {V : List (List Int)} {ls : List (List (List Int))}
    (h : ∀ l ∈ ls, ∀ t ∈ l, t ∈ V) (i : Nat) : ∀ t ∈ ls.getD i [], t ∈ V := getD_forall_mem h i

theorem replicate_sp_over {V : List (List Int)} (hsp : [0x20] ∈ V) (n : Nat) :
    ∀ t ∈ List.replicate n cxB.sp, t ∈ V := by
  intro t ht
  rw [List.eq_of_mem_replicate ht]; exact hsp

theorem foldl_congr_mem {β σ : Type} (f g : σ → β → σ) :
    ∀ (l : List β), (∀ s, ∀ x ∈ l, f s x = g s x) → ∀ s0, l.foldl f s0 = l.foldl g s0 :=
  fun l h s0 => foldl_rel (r := Eq) f g l s0 s0 rfl fun x hx s _ hs => hs ▸ h s x hx

theorem ite_map_eq {β γ : Type} (f : β → γ) (c : Prop) [Decidable c] (a b : γ) (a' b' : β)
    (h1 : a = f a') (h2 : b = f b') : (if c then a else b) = f (if c then a' else b') :=
  ite_rel (r := fun a b => a = f b) c h1 h2

theorem replicate_flatten_flatten {β : Type} (s : List (List β)) (n : Nat) :
    (List.replicate n s.flatten).flatten = (List.replicate n s).flatten.flatten := by
  induction n with
  | zero => rfl
  | succ n ih => simp only [List.replicate_succ, List.flatten_cons, ih, List.flatten_append]

/-- `strings.Repeat`: same error, corresponding results -/
theorem repeatStr_bridge (s : List (List Int)) (n : Int) :
    repeatStr s.flatten n = (repeatStr s n).map List.flatten := by
  unfold repeatStr
  split
  · rfl
  · show Except.ok _ = Except.ok _
    rw [replicate_flatten_flatten]

theorem repeatStr_sp_bridge (n : Int) :
    repeatStr [cxA.sp] n = (repeatStr [cxB.sp] n).map List.flatten :=
  repeatStr_bridge [cxB.sp] n

theorem gLen_A_flatten {l : List (List Int)} (h : StableRunes l) :
    gLen cxA l.flatten = gLen cxB l := by
  rw [gLen_flatten_stable l h, gLen_triv cxB cxB_triv]

theorem gLen_over {V : List (List Int)} (hV : VocabStable V = true) {y : List (List Int)}
    (hy : ∀ t ∈ y, t ∈ V) : gLen cxA y.flatten = gLen cxB y :=
  gLen_A_flatten (stableRunes_of_vocab V hV y hy)

theorem foldl_maxLen_bridge (ls : List (List (List Int))) (h : ∀ l ∈ ls, StableRunes l) (m0 : Int) :
    (ls.map List.flatten).foldl
        (fun (m : Int) l => if (gLen cxA l : Int) > m then (gLen cxA l : Int) else m) m0 =
      ls.foldl (fun (m : Int) l => if (gLen cxB l : Int) > m then (gLen cxB l : Int) else m) m0 := by
  rw [List.foldl_map]
  exact foldl_congr_mem _ _ ls (fun m l hl => by rw [gLen_A_flatten (h l hl)]) m0

/-- only the LEFT lines have to segment into their tokens (their cluster counts are used); the
right lines are arbitrary token lists -/
theorem combineColumns_bridge_stable (left right : List (List (List Int)))
    (hl : ∀ l ∈ left, StableRunes l) (gap : Int) :
    combineColumns cxA (left.map List.flatten) (right.map List.flatten) gap =
      (combineColumns cxB left right gap).map (List.map List.flatten) := by
  unfold combineColumns
  simp only [List.isEmpty_map, List.length_map, foldl_maxLen_bridge left hl]
  refine ite_map_eq _ _ _ _ _ _ rfl (mapM_map_bridge _ _ _ _ fun i _ => ?_)
  simp only [getD_map_flatten, gLen_A_flatten (getD_stable hl i)]
  rw [repeatStr_sp_bridge]
  exact map_bind_eq fun s _ =>
    congrArg Except.ok (by rw [List.flatten_append, List.flatten_append])

theorem cxB_blen_pos {c : List Int} (hc : c ≠ []) : 0 < cxB.blen c :=
  Nat.lt_of_lt_of_le (List.length_pos_iff.2 hc)
    (length_le_byteLen (cx := cxA) fun a _ => utf8Len_pos a)

theorem flatten_map_single {β : Type} (l : List β) : (l.map fun c => [c]).flatten = l := by
  induction l with
  | nil => rfl
  | cons a t ih => simp only [List.map_cons, List.flatten_cons, ih, List.singleton_append]

/-- `Editor.Insert` on cluster tokens in closed form.  It goes through `Chars`, i.e. through byte
offsets, which are right as long as the atoms of the text have a positive byte length: in `cxB` all
tokens but the ill-formed empty one. -/
theorem insert_B_closed (ed : Editor (List Int)) (hne : ∀ t ∈ ed.text, t ≠ []) (p : Int)
    (x : List (List Int)) :
    ed.insert cxB p x =
      .ok (ed.withText (ed.text.take (Spec.normPos ed.text.length p).toNat ++ x ++
        ed.text.drop (Spec.normPos ed.text.length p).toNat)) := by
  rw [Editor.insert_eq_spec (fun s => part_range' s.length) ed fun a ha => cxB_blen_pos (hne a ha),
    Spec.insert_eq]
  unfold Spec.posNat
  rw [WrapRefine.clusters_triv cxB cxB_triv, List.length_map, ← List.map_take, ← List.map_drop,
    flatten_map_single, flatten_map_single]

/-- `Editor.Insert` on code points in closed form, for a text that is the flattening of a stable
token list -/
theorem insert_flat_closed (ed : Editor (List Int)) (hst : StableRunes ed.text) (p : Int)
    (x : List Int) :
    ed.flat.insert cxA p x =
      .ok (ed.flat.withText ((ed.text.take (Spec.normPos ed.text.length p).toNat).flatten ++ x ++
        (ed.text.drop (Spec.normPos ed.text.length p).toNat).flatten)) := by
  rw [Editor.insert_eq_spec cxA_WF.1 _ (cxA_WF.pos _), Spec.insert_eq]
  unfold Spec.posNat
  rw [flat_text, clusters_flatten_stable _ hst]

/-- the inserted text is an ARBITRARY token list (it need not be over the vocabulary) -/
theorem insert_bridge_stable (ed : Editor (List Int)) (hst : StableRunes ed.text) (p : Int)
    (ins : List (List Int)) :
    ed.flat.insert cxA p ins.flatten = (ed.insert cxB p ins).map Editor.flat := by
  rw [insert_flat_closed ed hst, insert_B_closed ed hst.ne_nil]
  show _ = Except.ok _
  rw [flat_withText]
  simp only [List.flatten_append]

/-- a list-valued option that an empty value leaves to the default: defaulting commutes with
flattening when no token of the defaulted value is empty (a list of empty tokens would be
non-empty on tokens and empty on code points) -/
theorem ite_isEmpty_flatten {l d : List (List Int)} {dA : List Int} (hd : d.flatten = dA)
    (hne : ∀ t ∈ (if l.isEmpty then d else l), t ≠ []) :
    (if l.flatten.isEmpty then dA else l.flatten) = (if l.isEmpty then d else l).flatten := by
  by_cases he : l.isEmpty = true
  · rw [List.isEmpty_iff.1 he, ← hd]
    rfl
  · rw [if_neg he] at hne ⊢
    rw [BridgeWrap.flatten_isEmpty _ hne, if_neg he]

theorem paraSep_flat_gen (o' : Options (List Int))
    (hne : ∀ t ∈ (o'.withDefaults cxB).paraSep, t ≠ []) :
    (o'.flat.withDefaults cxA).paraSep = (o'.withDefaults cxB).paraSep.flatten := by
  rw [Options.paraSep_withDefaults] at hne ⊢
  rw [Options.paraSep_withDefaults]
  exact ite_isEmpty_flatten dParaSep_flat hne

theorem noTrailing_flat (o : Options (List Int)) :
    (o.flat.withDefaults cxA).noTrailing = (o.withDefaults cxB).noTrailing := by
  rw [withDefaults_noTrailing, withDefaults_noTrailing]; rfl

/-- `tb.Block.Join` commutes with flattening (any trailing mode) -/
theorem join_flatten_b (S : List (List Int)) (ls : List (List (List Int))) (b : Bool) :
    (Block.mk (ls.map List.flatten) S.flatten b).join = (Block.mk ls S b).join.flatten := by
  unfold Block.join
  cases ls with
  | nil => cases b <;> rfl
  | cons l ls =>
    simp only [List.map_cons, List.isEmpty_cons, Bool.false_eq_true, ↓reduceIte,
      List.flatten_append]
    rw [← List.map_cons, joinWith_flatten S (l :: ls)]
    cases b <;> rfl

theorem wrapLines_B_over {V : List (List Int)} (hsp : [0x20] ∈ V) (hhy : [0x2D] ∈ V)
    (toks : List (List Int)) (ht : ∀ t ∈ toks, t ∈ V) (w : Int) (S : List (List Int))
    (r : List (List (List Int))) (h : wrapLines cxB toks w S = .ok r) :
    ∀ line ∈ r, ∀ c ∈ line, c ∈ V := by
  rw [wrapLines_triv cxB cxB_triv cxB_sp_space] at h
  cases h
  exact wrapLines_spec_over hsp hhy _ _ (replaceAll'_over hsp toks ht S)

/-- the column widths of InsertTwoColumnsOpts (pure integer / float arithmetic) -/
def twoColW (msb width : Int) (pct : Pct) : Int × Int :=
  let (num, exp) :=
    if pct.neg ∨ pct.num == 0 then (0, 0)
    else if pct.num > 2 ^ pct.exp then (1, 0) else (pct.num, pct.exp)
  let msb := if msb < 0 then 0 else msb
  let minWidth := msb + 2 + 2
  let width := if width < minWidth then minWidth else width
  let avail := width - msb
  let leftW : Int := mulRoundTrunc avail.toNat num exp
  let leftW := if leftW < 2 then 2 else leftW
  let leftW := if leftW > avail - 2 then avail - 2 else leftW
  (leftW, avail - leftW)

theorem insertTwoColumnsOpts_unfold {α : Type} [DecidableEq α] (cx : Ctx α) (ed : Editor α)
    (pos : Int) (l r : List α) (msb width : Int) (pct : Pct) (o : Options α) :
    ed.insertTwoColumnsOpts cx pos l r msb width pct o =
      if l.isEmpty ∧ r.isEmpty then pure ed
      else if (twoColW msb width pct).2 < 2 then throw .explicit
      else twoColBody cx ed pos l r (if msb < 0 then 0 else msb) (twoColW msb width pct).1
        (twoColW msb width pct).2 o := by
  unfold Editor.insertTwoColumnsOpts
  rfl

section vocab
variable {V : List (List Int)}

theorem twoColBody_bridge (hV : VocabStable V = true) (hsp : [0x20] ∈ V) (hhy : [0x2D] ∈ V)
    (hspTail : ∀ t ∈ V, (0x20 : Int) ∉ t.tail)
    (ed : Editor (List Int)) (ht : ∀ t ∈ ed.text, t ∈ V) (pos : Int)
    (l r : List (List Int)) (hl : ∀ t ∈ l, t ∈ V) (hr : ∀ t ∈ r, t ∈ V) (msb lw rw : Int)
    (o : Options (List Int)) (hS : GoodSep V (o.withDefaults cxB).lineSep) :
    twoColBody cxA ed.flat pos l.flatten r.flatten msb lw rw o.flat =
      (twoColBody cxB ed pos l r msb lw rw o).map Editor.flat := by
  unfold twoColBody
  simp only [lineSep_flat_gen o hS.tok_ne, noTrailing_flat,
    wrapLines_bridge_good hV hsp hspTail hS l hl, wrapLines_bridge_good hV hsp hspTail hS r hr]
  refine map_bind_eq fun lb hlb => map_bind_eq fun rb _ => ?_
  have hst : ∀ line ∈ lb, StableRunes line := fun line hline =>
    stableRunes_of_vocab V hV line (wrapLines_B_over hsp hhy l hl lw _ lb hlb line hline)
  simp only [foldl_maxLen_bridge lb hst, combineColumns_bridge_stable lb rb hst]
  refine map_bind_eq fun comb _ => ?_
  rw [join_flatten_b]
  exact insert_bridge_stable ed (stableRunes_of_vocab V hV _ ht) pos _

theorem insertTwoColumnsOpts_bridge_gen (hV : VocabStable V = true) (hsp : [0x20] ∈ V)
    (hhy : [0x2D] ∈ V) (hspTail : ∀ t ∈ V, (0x20 : Int) ∉ t.tail)
    (ed : Editor (List Int)) (ht : ∀ t ∈ ed.text, t ∈ V) (pos : Int)
    (l r : List (List Int)) (hl : ∀ t ∈ l, t ∈ V) (hr : ∀ t ∈ r, t ∈ V) (gap width : Int)
    (pct : Pct) (o : Options (List Int)) (hS : GoodSep V (o.withDefaults cxB).lineSep) :
    Editor.insertTwoColumnsOpts cxA ed.flat pos l.flatten r.flatten gap width pct o.flat =
      (Editor.insertTwoColumnsOpts cxB ed pos l r gap width pct o).map Editor.flat := by
  rw [insertTwoColumnsOpts_unfold, insertTwoColumnsOpts_unfold,
    flatten_isEmpty l (over_ne_nil hV hl), flatten_isEmpty r (over_ne_nil hV hr)]
  exact ite_map_eq _ _ _ _ _ _ rfl (ite_map_eq _ _ _ _ _ _ rfl
    (twoColBody_bridge hV hsp hhy hspTail ed ht pos l r hl hr _ _ _ o hS))

end vocab

section defs
variable {α : Type} [DecidableEq α] (cx : Ctx α)

/-- the longest term, as the model computes it -/
def defLongest (defs : List (List α × List α)) : Int :=
  defs.foldl (fun m d => if (gLen cx d.1 : Int) > m then (gLen cx d.1 : Int) else m) (-1)

/-- how the loop of InsertDefinitionsTableOpts appends the lines of a paragraph to the block built
so far (`mergePara`, in the monad) -/
def defMerge (paraSep : List α) (full combined : List (List α)) : R (List (List α)) :=
  match full.isEmpty, combined with
  | false, c0 :: crest =>
    pure (full.set (full.length - 1) (full.getD (full.length - 1) [] ++ paraSep ++ c0) ++ crest)
  | _, _ => pure (full ++ combined)

/-- one iteration of the loop of InsertDefinitionsTableOpts, after the padding of the term has
been computed -/
def defStepK (rightWidth : Int) (lineSep paraSep : List α)
    (full : List (List α)) (item : List α × List α) (pad : List α) : R (List (List α)) := do
  let rc ← wrapLines cx item.2 (rightWidth - 2) lineSep
  let combined ← combineColumns cx [[cx.sp, cx.sp] ++ item.1 ++ pad] (defRightCol cx (defRc rc)) 2
  defMerge paraSep full combined

/-- one iteration of the loop of InsertDefinitionsTableOpts -/
def defStep (longest rightWidth : Int) (lineSep paraSep : List α)
    (full : List (List α)) (item : List α × List α) : R (List (List α)) :=
  if (gLen cx item.1 : Int) < longest then
    repeatStr [cx.sp] (longest - (gLen cx item.1 : Int)) >>=
      defStepK cx rightWidth lineSep paraSep full item
  else defStepK cx rightWidth lineSep paraSep full item []

theorem insertDefTableOpts_unfold (ed : Editor α) (pos : Int) (defs : List (List α × List α))
    (width : Int) (o : Options α) :
    ed.insertDefTableOpts cx pos defs width o =
      (defs.foldlM (defStep cx (defLongest cx defs) (width - (defLongest cx defs + 2) - 2)
          (o.withDefaults cx).lineSep (o.withDefaults cx).paraSep) [] >>= fun full =>
        if !full.isEmpty then
          ed.insert cx pos
            (Block.mk full (o.withDefaults cx).lineSep (!(o.withDefaults cx).noTrailing)).join
        else pure ed) := by
  rw [Editor.insertDefTableOpts_eq_core]; rfl

end defs

theorem foldlM_bridge {β γ σ τ : Type} (φ : τ → σ) (ψ : γ → β) (f : σ → β → R σ)
    (g : τ → γ → R τ) :
    ∀ (l : List γ), (∀ t, ∀ x ∈ l, f (φ t) (ψ x) = (g t x).map φ) →
      ∀ t, (l.map ψ).foldlM f (φ t) = (l.foldlM g t).map φ
  | [], _, _ => rfl
  | x :: l, h, t => by
    rw [List.map_cons, List.foldlM_cons, List.foldlM_cons, h t x List.mem_cons_self]
    exact map_bind_eq fun t' _ =>
      foldlM_bridge φ ψ f g l (fun t y hy => h t y (List.mem_cons_of_mem _ hy)) t'

theorem repeatStr_sp_B_over {V : List (List Int)} (hsp : [0x20] ∈ V) {n : Int}
    {pad : List (List Int)} (h : repeatStr [cxB.sp] n = .ok pad) : ∀ t ∈ pad, t ∈ V := by
  by_cases hn : 0 ≤ n
  · rw [repeatStr_single _ _ hn] at h
    cases h
    exact replicate_sp_over hsp _
  · unfold repeatStr at h
    rw [if_pos (by omega)] at h
    cases h

theorem defRc_flatten (rc : List (List (List Int))) :
    defRc (rc.map List.flatten) = (defRc rc).map List.flatten := by
  cases rc <;> rfl

theorem defRightCol_flatten (rc : List (List (List Int))) :
    defRightCol cxA (rc.map List.flatten) = (defRightCol cxB rc).map List.flatten := by
  unfold defRightCol
  rw [List.length_map, List.map_map]
  apply List.map_congr_left
  intro i _
  simp only [Function.comp, getD_map_flatten, List.flatten_append]
  split <;> rfl

theorem defMerge_flatten (P : List (List Int)) (full comb : List (List (List Int))) :
    defMerge P.flatten (full.map List.flatten) (comb.map List.flatten) =
      (defMerge P full comb).map (List.map List.flatten) := by
  cases full with
  | nil => cases comb <;> rfl
  | cons f fs =>
    cases comb with
    | nil => exact congrArg Except.ok (List.map_append).symm
    | cons c0 crest =>
      show Except.ok _ = Except.ok _
      simp only [List.length_map, getD_map_flatten, List.map_append, List.map_set,
        List.flatten_append]

section vocab
variable {V : List (List Int)}

theorem defLongest_bridge (hV : VocabStable V = true) (defs : List (List (List Int) × List (List Int)))
    (hd : ∀ d ∈ defs, ∀ t ∈ d.1, t ∈ V) :
    defLongest cxA (defs.map fun d => (d.1.flatten, d.2.flatten)) = defLongest cxB defs := by
  unfold defLongest
  rw [List.foldl_map]
  exact foldl_congr_mem _ _ defs
    (fun m d hd' => by rw [gLen_over hV (hd d hd')]) _

theorem defStepK_bridge (hV : VocabStable V = true) (hsp : [0x20] ∈ V)
    (hspTail : ∀ t ∈ V, (0x20 : Int) ∉ t.tail) (RW : Int) (S P : List (List Int))
    (hS : GoodSep V S) (full : List (List (List Int))) (item : List (List Int) × List (List Int))
    (h1 : ∀ t ∈ item.1, t ∈ V) (h2 : ∀ t ∈ item.2, t ∈ V) (pad : List (List Int))
    (hpadV : ∀ t ∈ pad, t ∈ V) :
    defStepK cxA RW S.flatten P.flatten (full.map List.flatten) (item.1.flatten, item.2.flatten)
        pad.flatten =
      (defStepK cxB RW S P full item pad).map (List.map List.flatten) := by
  have hleft : [[cxA.sp, cxA.sp] ++ item.1.flatten ++ pad.flatten] =
      [[cxB.sp, cxB.sp] ++ item.1 ++ pad].map List.flatten := by
    simp only [List.map_cons, List.map_nil, List.flatten_append]
    rfl
  have hst : ∀ l ∈ [[cxB.sp, cxB.sp] ++ item.1 ++ pad], StableRunes l := by
    intro l hl
    rw [List.mem_singleton.1 hl]
    exact stableRunes_of_vocab V hV _
      (over_append (over_append (over_append (over_single hsp) (over_single hsp)) h1) hpadV)
  unfold defStepK
  simp only [wrapLines_bridge_good hV hsp hspTail hS item.2 h2]
  refine map_bind_eq fun rc _ => ?_
  simp only [defRc_flatten, defRightCol_flatten, hleft, combineColumns_bridge_stable _ _ hst]
  exact map_bind_eq fun comb _ => defMerge_flatten P full comb

theorem defStep_bridge (hV : VocabStable V = true) (hsp : [0x20] ∈ V)
    (hspTail : ∀ t ∈ V, (0x20 : Int) ∉ t.tail) (L RW : Int) (S P : List (List Int))
    (hS : GoodSep V S) (full : List (List (List Int))) (item : List (List Int) × List (List Int))
    (h1 : ∀ t ∈ item.1, t ∈ V) (h2 : ∀ t ∈ item.2, t ∈ V) :
    defStep cxA L RW S.flatten P.flatten (full.map List.flatten) (item.1.flatten, item.2.flatten) =
      (defStep cxB L RW S P full item).map (List.map List.flatten) := by
  unfold defStep
  simp only [gLen_over hV h1]
  split
  · rw [repeatStr_sp_bridge]
    exact map_bind_eq fun pad hp =>
      defStepK_bridge hV hsp hspTail RW S P hS full item h1 h2 pad (repeatStr_sp_B_over hsp hp)
  · exact defStepK_bridge hV hsp hspTail RW S P hS full item h1 h2 [] over_nil

theorem insertDefTableOpts_bridge_gen (hV : VocabStable V = true) (hsp : [0x20] ∈ V)
    (hspTail : ∀ t ∈ V, (0x20 : Int) ∉ t.tail)
    (ed : Editor (List Int)) (ht : ∀ t ∈ ed.text, t ∈ V) (pos : Int)
    (defs : List (List (List Int) × List (List Int)))
    (hd1 : ∀ d ∈ defs, ∀ t ∈ d.1, t ∈ V) (hd2 : ∀ d ∈ defs, ∀ t ∈ d.2, t ∈ V) (width : Int)
    (o : Options (List Int)) (hS : GoodSep V (o.withDefaults cxB).lineSep)
    (hP : ∀ t ∈ (o.withDefaults cxB).paraSep, t ≠ []) :
    Editor.insertDefTableOpts cxA ed.flat pos (defs.map fun d => (d.1.flatten, d.2.flatten)) width
        o.flat =
      (Editor.insertDefTableOpts cxB ed pos defs width o).map Editor.flat := by
  rw [insertDefTableOpts_unfold, insertDefTableOpts_unfold, defLongest_bridge hV defs hd1,
    lineSep_flat_gen o hS.tok_ne, paraSep_flat_gen o hP, noTrailing_flat]
  have hfold := foldlM_bridge (List.map List.flatten)
    (fun d : List (List Int) × List (List Int) => (d.1.flatten, d.2.flatten))
    (defStep cxA (defLongest cxB defs) (width - (defLongest cxB defs + 2) - 2)
      (o.withDefaults cxB).lineSep.flatten (o.withDefaults cxB).paraSep.flatten)
    (defStep cxB (defLongest cxB defs) (width - (defLongest cxB defs + 2) - 2)
      (o.withDefaults cxB).lineSep (o.withDefaults cxB).paraSep) defs
    (fun t x hx => defStep_bridge hV hsp hspTail _ _ _ _ hS t x (hd1 x hx) (hd2 x hx)) []
  rw [List.map_nil] at hfold
  rw [hfold]
  refine map_bind_eq fun full _ => ?_
  rw [List.isEmpty_map, join_flatten_b]
  exact ite_map_eq _ _ _ _ _ _ (insert_bridge_stable ed (stableRunes_of_vocab V hV _ ht) pos _) rfl

end vocab

open BridgeAlign in
/-- the three table characters on the two levels: same text, segmented the same way -/
structure RelChars (a : TableChars Int) (b : TableChars (List Int)) : Prop where
  corner : BridgeAlign.Rel a.corner b.corner
  vert : BridgeAlign.Rel a.vert b.vert
  horz : BridgeAlign.Rel a.horz b.horz

theorem map_upper_flatten (c : List (List Int)) :
    c.flatten.map cxA.upper = (c.map cxB.upper).flatten := by
  rw [List.map_flatten]
  rfl

theorem gSub_B_mem (s : List (List Int)) (a b : Int) : ∀ t ∈ gSub cxB s a b, t ∈ s := by
  have hb := rangeToIndexes_bounds (s.length : Int) a b (Int.natCast_nonneg _)
  generalize hr : rangeToIndexes (s.length : Int) a b = p at hb
  obtain ⟨st, en⟩ := p
  simp only at hb
  rw [gSub_triv_of_rti cxB cxB_triv s a b st en hr hb.1 hb.2.1 hb.2.2]
  intro t ht
  exact List.mem_of_mem_drop (List.mem_of_mem_take ht)

theorem gSub_B_over {V y : List (List Int)} (hy : ∀ t ∈ y, t ∈ V) (a b : Int) :
    ∀ t ∈ gSub cxB y a b, t ∈ V := fun t h => hy t (gSub_B_mem y a b t h)

section vocab
variable {V : List (List Int)}

theorem alignLeft_B_over (hsp : [0x20] ∈ V) (toks : List (List Int)) (ht : ∀ t ∈ toks, t ∈ V)
    (w : Int) : ∀ t ∈ alignLeft cxB toks w, t ∈ V := by
  rw [alignLeft_triv cxB cxB_triv]
  exact BridgeAlign.over_of_mem_or_sp hsp ht (BridgeAlign.alignLeft_mem_tokens _ w toks)

theorem alignCenter_B_over (hsp : [0x20] ∈ V) (toks : List (List Int)) (ht : ∀ t ∈ toks, t ∈ V)
    (w : Int) : ∀ t ∈ alignCenter cxB toks w, t ∈ V := by
  rw [alignCenter_triv cxB cxB_triv]
  exact BridgeAlign.over_of_mem_or_sp hsp ht (BridgeAlign.alignCenter_mem_tokens _ w toks)

theorem alignRight_B_over (hsp : [0x20] ∈ V) (toks : List (List Int)) (ht : ∀ t ∈ toks, t ∈ V)
    (w : Int) : ∀ t ∈ alignRight cxB toks w, t ∈ V := by
  rw [alignRight_triv cxB cxB_triv]
  exact BridgeAlign.over_of_mem_or_sp hsp ht (BridgeAlign.alignRight_mem_tokens _ w toks)

theorem rel_of_over (hV : VocabStable V = true) {y : List (List Int)} (hy : ∀ t ∈ y, t ∈ V) :
    BridgeAlign.Rel y.flatten y := BridgeAlign.Rel.mk' (stableRunes_of_vocab V hV y hy)

theorem gSub_over (hV : VocabStable V = true) {y : List (List Int)} (hy : ∀ t ∈ y, t ∈ V)
    (a b : Int) : gSub cxA y.flatten a b = (gSub cxB y a b).flatten :=
  (BridgeAlign.rel_gSub (rel_of_over hV hy) a b).2

/-- flattening, on token lists over a stable vocabulary with the blank, is a homomorphism of the
layout primitives from `cxB` to `cxA` -/
theorem homFlat (hV : VocabStable V = true) (hsp : [0x20] ∈ V) :
    Hom cxA cxB List.flatten (· ∈ V) where
  nil := rfl
  append _ _ := List.flatten_append
  isEmpty b hb := flatten_isEmpty b (over_ne_nil hV hb)
  sp := rfl
  spQ := hsp
  len _ hb := gLen_over hV hb
  sub _ hb x y := ⟨gSub_over hV hb x y, gSub_B_over hb x y⟩
  leadingWs _ hb := BridgeAlign.rel_countLeadingWs (rel_of_over hV hb)
  trailingWs _ hb := BridgeAlign.rel_countTrailingWs (rel_of_over hV hb)
  left b hb w := ⟨alignLeft_bridge hV b hb w, alignLeft_B_over hsp b hb w⟩
  right b hb w := ⟨alignRight_bridge hV b hb w, alignRight_B_over hsp b hb w⟩
  center b hb w := ⟨alignCenter_bridge hV b hb w, alignCenter_B_over hsp b hb w⟩

theorem sepHomFlat {S : List (List Int)} (hS : GoodSep V S) (hSV : ∀ t ∈ S, t ∈ V) :
    SepHom List.flatten (· ∈ V) S := ⟨hSV, hS.split⟩

theorem map_upper_over (hup : ∀ t ∈ V, t.map upperRune ∈ V) {cell : List (List Int)}
    (hcell : ∀ t ∈ cell, t ∈ V) : ∀ t ∈ cell.map cxB.upper, t ∈ V := by
  intro t ht
  obtain ⟨u, hu, rfl⟩ := List.mem_map.1 ht
  exact hup u (hcell u hu)

/-- the identity, on token lists over a vocabulary with the blank: what it preserves is "over `V`" -/
theorem homId (hsp : [0x20] ∈ V) : Hom cxB cxB id (· ∈ V) where
  nil := rfl
  append _ _ := rfl
  isEmpty _ _ := rfl
  sp := rfl
  spQ := hsp
  len _ _ := rfl
  sub _ hb x y := ⟨rfl, gSub_B_over hb x y⟩
  leadingWs _ _ := rfl
  trailingWs _ _ := rfl
  left b hb w := ⟨rfl, alignLeft_B_over hsp b hb w⟩
  right b hb w := ⟨rfl, alignRight_B_over hsp b hb w⟩
  center b hb w := ⟨rfl, alignCenter_B_over hsp b hb w⟩

/-- `manip.MakeTable`, for a character set of at least three clusters; with a header row the
vocabulary has to be closed under upper-casing (`hup_needed`) -/
theorem makeTable_bridge (hV : VocabStable V = true) (hsp : [0x20] ∈ V)
    (data : List (List (List (List Int))))
    (hdata : ∀ row ∈ data, ∀ cell ∈ row, ∀ t ∈ cell, t ∈ V) (width : Int) (header border : Bool)
    (hup : header = true → ∀ t ∈ V, t.map upperRune ∈ V)
    (cs : List (List Int)) (hcs : ∀ t ∈ cs, t ∈ V) (h3 : 3 ≤ cs.length) :
    makeTable cxA (data.map (List.map List.flatten)) width header border cs.flatten =
      (makeTable cxB data width header border cs).map List.flatten :=
  (makeTable_sim (homFlat hV hsp) hdata width header border
    (fun hh cell hc => ⟨map_upper_flatten cell, map_upper_over (hup hh) hc⟩) hcs
    (Nat.le_trans h3 (Nat.le_of_eq (gLen_triv cxB cxB_triv cs).symm))).1

theorem makeTable_B_over (hsp : [0x20] ∈ V) (data : List (List (List (List Int))))
    (hdata : ∀ row ∈ data, ∀ cell ∈ row, ∀ t ∈ cell, t ∈ V) (width : Int) (header border : Bool)
    (hup : header = true → ∀ t ∈ V, t.map upperRune ∈ V)
    (cs : List (List Int)) (hcs : ∀ t ∈ cs, t ∈ V) (h3 : 3 ≤ cs.length) :
    ∀ line ∈ makeTable cxB data width header border cs, ∀ t ∈ line, t ∈ V :=
  (makeTable_sim (homId hsp) hdata width header border
    (fun hh _ hc => ⟨rfl, map_upper_over (hup hh) hc⟩) hcs
    (Nat.le_trans h3 (Nat.le_of_eq (gLen_triv cxB cxB_triv cs).symm))).2

end vocab

theorem withDefaults_charset_congr {α : Type} [DecidableEq α] (cx : Ctx α) (o o' : Options α)
    (h : o.charset = o'.charset) :
    (o.withDefaults cx).charset = (o'.withDefaults cx).charset := by
  rw [withDefaults_eq, withDefaults_eq, h]
  split
  · split <;> rfl
  · simp only [Options.sepDefaults, h]

section vocab
variable {V : List (List Int)}

/-- the defaulted table character set on the rune side is the flattening of the one on the token
side (only the character set itself has to be over `V`) -/
theorem charset_flat_gen (hV : VocabStable V = true) (o : Options (List Int))
    (hc : ∀ t ∈ o.charset, t ∈ V) :
    (o.flat.withDefaults cxA).charset = (o.withDefaults cxB).charset.flatten := by
  -- the defaulted character set does not depend on the separators: with these emptied,
  -- `withDefaults_flat` asks nothing of them
  have h := withDefaults_flat hV
    ({ o with lineSep := [], indentStr := [], paraSep := [] } : Options (List Int))
    (fun t ht => by cases ht) (fun t ht => by cases ht) (fun t ht => by cases ht) hc
  have h' := congrArg Options.charset h
  rw [withDefaults_charset_congr cxA o.flat
      ({ o with lineSep := [], indentStr := [], paraSep := [] } : Options (List Int)).flat rfl,
    ← h', withDefaults_charset_congr cxB o
      ({ o with lineSep := [], indentStr := [], paraSep := [] } : Options (List Int)) rfl]
  rfl

theorem headers_flat (o : Options (List Int)) :
    (o.flat.withDefaults cxA).headers = (o.withDefaults cxB).headers := by
  rw [Options.headers_withDefaults, Options.headers_withDefaults]; rfl

theorem borders_flat (o : Options (List Int)) :
    (o.flat.withDefaults cxA).borders = (o.withDefaults cxB).borders := by
  rw [Options.borders_withDefaults, Options.borders_withDefaults]; rfl

theorem charset_B_length (o : Options (List Int)) : (o.withDefaults cxB).charset.length = 3 :=
  withDefaults_charset_length_triv cxB cxB_triv (by rw [dCharset_B]; rfl) o

theorem tableLines_B_over (hsp : [0x20] ∈ V) (data : List (List (List (List Int))))
    (hdata : ∀ row ∈ data, ∀ cell ∈ row, ∀ t ∈ cell, t ∈ V) (width : Int)
    (o : Options (List Int)) (hcd : ∀ t ∈ (o.withDefaults cxB).charset, t ∈ V)
    (hup : o.headers = true → ∀ t ∈ V, t.map upperRune ∈ V) :
    ∀ line ∈ makeTable cxB data width (o.withDefaults cxB).headers (o.withDefaults cxB).borders
      (o.withDefaults cxB).charset, ∀ t ∈ line, t ∈ V :=
  makeTable_B_over hsp data hdata width _ _
    (fun h => hup ((Options.headers_withDefaults cxB o).symm.trans h)) _ hcd
    (Nat.le_of_eq (charset_B_length o).symm)

theorem insertTableOpts_bridge_gen (hV : VocabStable V = true) (hsp : [0x20] ∈ V)
    (ed : Editor (List Int)) (ht : ∀ t ∈ ed.text, t ∈ V) (pos : Int)
    (data : List (List (List (List Int))))
    (hdata : ∀ row ∈ data, ∀ cell ∈ row, ∀ t ∈ cell, t ∈ V) (width : Int)
    (o : Options (List Int)) (hL : ∀ t ∈ (o.withDefaults cxB).lineSep, t ≠ [])
    (hc : ∀ t ∈ o.charset, t ∈ V) (hcd : ∀ t ∈ (o.withDefaults cxB).charset, t ∈ V)
    (hup : o.headers = true → ∀ t ∈ V, t.map upperRune ∈ V) :
    Editor.insertTableOpts cxA ed.flat pos (data.map (List.map List.flatten)) width o.flat =
      (Editor.insertTableOpts cxB ed pos data width o).map Editor.flat := by
  have hover := tableLines_B_over hsp data hdata width o hcd hup
  rw [← Options.headers_withDefaults cxB o] at hup
  unfold Editor.insertTableOpts
  simp only [lineSep_flat_gen o hL, charset_flat_gen hV o hc, headers_flat, borders_flat,
    noTrailing_flat,
    makeTable_bridge hV hsp data hdata width _ _ hup _ hcd
      (Nat.le_of_eq (charset_B_length o).symm), join_flatten_b]
  generalize makeTable cxB data width (o.withDefaults cxB).headers (o.withDefaults cxB).borders
    (o.withDefaults cxB).charset = ls at hover
  rw [flatten_isEmpty _ (join_forall hL (fun l hl => over_ne_nil hV (hover l hl)) false),
    ← List.flatten_append, ← apply_ite List.flatten]
  exact insert_bridge_stable ed (stableRunes_of_vocab V hV _ ht) pos _

/-- the result of an insertion into a root editor, seen from the code-point side -/
theorem insert_root_flat (hV : VocabStable V = true) (toks : List (List Int))
    (ht : ∀ t ∈ toks, t ∈ V) (o0 : Options (List Int)) (pos : Int) (X : List (List Int)) :
    (Editor.insert cxB (.root toks o0) pos X).map Editor.flat =
      .ok (.root (toks.take (Spec.normPos toks.length pos).toNat ++ X ++
        toks.drop (Spec.normPos toks.length pos).toNat).flatten o0.flat) := by
  rw [insert_B_closed (.root toks o0) (over_ne_nil hV ht)]
  rfl

theorem colLines_B_over (hsp : [0x20] ∈ V) (hhy : [0x2D] ∈ V) (text : List (List Int))
    (ht : ∀ t ∈ text, t ∈ V) (w : Int) (S : List (List Int)) :
    ∀ line ∈ colLines cxB text w S, ∀ t ∈ line, t ∈ V :=
  wrapLines_spec_over hsp hhy _ _ (replaceAll'_over hsp text ht S)

theorem defRc_B_over {rc : List (List (List Int))} (h : ∀ line ∈ rc, ∀ t ∈ line, t ∈ V) :
    ∀ line ∈ defRc rc, ∀ t ∈ line, t ∈ V := by
  unfold defRc
  split
  · intro line hline
    rw [List.mem_singleton.1 hline]; exact over_nil
  · exact h

theorem defRightCol_B_over (hsp : [0x20] ∈ V) (hhy : [0x2D] ∈ V) {rc : List (List (List Int))}
    (h : ∀ line ∈ rc, ∀ t ∈ line, t ∈ V) : ∀ line ∈ defRightCol cxB rc, ∀ t ∈ line, t ∈ V := by
  intro line hline
  unfold defRightCol at hline
  obtain ⟨j, _, rfl⟩ := List.mem_map.1 hline
  refine over_append ?_ (getD_over h j)
  split
  · exact over_append (over_single hhy) (over_single hsp)
  · exact over_append (over_single hsp) (over_single hsp)

theorem defParaLines_B_over (hsp : [0x20] ∈ V) (hhy : [0x2D] ∈ V) (T : Nat) {term : List (List Int)}
    (hterm : ∀ t ∈ term, t ∈ V) {rc : List (List (List Int))}
    (h : ∀ line ∈ rc, ∀ t ∈ line, t ∈ V) :
    ∀ line ∈ defParaLines cxB T term rc, ∀ t ∈ line, t ∈ V := by
  intro line hline
  unfold defParaLines at hline
  obtain ⟨i, _, rfl⟩ := List.mem_map.1 hline
  have h2 : ∀ t ∈ [cxB.sp, cxB.sp], t ∈ V := over_append (over_single hsp) (over_single hsp)
  refine over_append ?_ (getD_over (defRightCol_B_over hsp hhy h) i)
  split
  · exact over_append (over_append (over_append h2 hterm) (replicate_sp_over hsp _)) h2
  · exact replicate_sp_over hsp _

theorem resegment (hV : VocabStable V = true) {line : List (List Int)} (h : ∀ t ∈ line, t ∈ V) :
    clusters cxA line.flatten = line ∧ gLen cxA line.flatten = line.length :=
  ⟨clusters_flat_over hV h, gLen_flatten_stable _ (stableRunes_of_vocab V hV _ h)⟩

end vocab

end BridgeComposite

/-- CombineColumnBlocks on code points = line-wise flattening of CombineColumnBlocks on
cluster tokens, for lines over a stable vocabulary. -/
theorem combineColumns_bridge {V : List (List Int)} (hV : VocabStable V = true)
    (left right : List (List (List Int))) (hl : ∀ l ∈ left, ∀ t ∈ l, t ∈ V) (gap : Int) :
    combineColumns cxA (left.map List.flatten) (right.map List.flatten) gap =
      (combineColumns cxB left right gap).map (List.map List.flatten) :=
  BridgeComposite.combineColumns_bridge_stable left right
    (fun l h => stableRunes_of_vocab V hV l (hl l h)) gap

/-- `Editor.Insert` on a root editor, every integer position. -/
theorem insert_bridge {V : List (List Int)} (hV : VocabStable V = true)
    (toks : List (List Int)) (ht : ∀ t ∈ toks, t ∈ V) (o0 : Options (List Int)) (pos : Int)
    (ins : List (List Int)) :
    Editor.insert cxA (.root toks.flatten o0.flat) pos ins.flatten =
      (Editor.insert cxB (.root toks o0) pos ins).map Editor.flat :=
  BridgeComposite.insert_bridge_stable (.root toks o0) (stableRunes_of_vocab V hV _ ht) pos ins

/-- `Editor.InsertTwoColumnsOpts` on a root editor: every position, gap, width,
percentage; both texts over the vocabulary; the (defaulted) line separator good for `V`. -/
theorem insertTwoColumnsOpts_bridge {V : List (List Int)} (hV : VocabStable V = true)
    (hsp : [0x20] ∈ V) (hhy : [0x2D] ∈ V) (hspTail : ∀ t ∈ V, (0x20 : Int) ∉ t.tail)
    (toks : List (List Int)) (ht : ∀ t ∈ toks, t ∈ V) (o0 : Options (List Int)) (pos : Int)
    (l r : List (List Int)) (hl : ∀ t ∈ l, t ∈ V) (hr : ∀ t ∈ r, t ∈ V) (gap width : Int)
    (pct : Pct) (o : Options (List Int)) (hS : BridgeOps.GoodSep V (o.withDefaults cxB).lineSep) :
    Editor.insertTwoColumnsOpts cxA (.root toks.flatten o0.flat) pos l.flatten r.flatten gap width
        pct o.flat =
      (Editor.insertTwoColumnsOpts cxB (.root toks o0) pos l r gap width pct o).map Editor.flat :=
  BridgeComposite.insertTwoColumnsOpts_bridge_gen hV hsp hhy hspTail (.root toks o0) ht pos l r
    hl hr gap width pct o hS

/-- `Editor.InsertDefinitionsTableOpts` on a root editor: terms and definitions are token
lists over the vocabulary; the (defaulted) line separator is good for `V`; the tokens of the
(defaulted) paragraph separator are non-empty (it is only ever copied into the output). -/
theorem insertDefTableOpts_bridge {V : List (List Int)} (hV : VocabStable V = true)
    (hsp : [0x20] ∈ V) (hspTail : ∀ t ∈ V, (0x20 : Int) ∉ t.tail)
    (toks : List (List Int)) (ht : ∀ t ∈ toks, t ∈ V) (o0 : Options (List Int)) (pos : Int)
    (defs : List (List (List Int) × List (List Int)))
    (hd1 : ∀ d ∈ defs, ∀ t ∈ d.1, t ∈ V) (hd2 : ∀ d ∈ defs, ∀ t ∈ d.2, t ∈ V) (width : Int)
    (o : Options (List Int)) (hS : BridgeOps.GoodSep V (o.withDefaults cxB).lineSep)
    (hP : ∀ t ∈ (o.withDefaults cxB).paraSep, t ≠ []) :
    Editor.insertDefTableOpts cxA (.root toks.flatten o0.flat) pos
        (defs.map fun d => (d.1.flatten, d.2.flatten)) width o.flat =
      (Editor.insertDefTableOpts cxB (.root toks o0) pos defs width o).map Editor.flat :=
  BridgeComposite.insertDefTableOpts_bridge_gen hV hsp hspTail (.root toks o0) ht pos defs
    hd1 hd2 width o hS hP

/-- `Editor.InsertTableOpts` on a root editor: cells are token lists over the vocabulary;
the character set (as given and after defaulting) is over `V`; with headers on, the upper-cased
clusters of the vocabulary are again clusters of the vocabulary.  The line separator is only
copied into the output: its tokens just have to be non-empty. -/
theorem insertTableOpts_bridge {V : List (List Int)} (hV : VocabStable V = true)
    (hsp : [0x20] ∈ V) (toks : List (List Int)) (ht : ∀ t ∈ toks, t ∈ V)
    (o0 : Options (List Int)) (pos : Int) (data : List (List (List (List Int))))
    (hdata : ∀ row ∈ data, ∀ cell ∈ row, ∀ t ∈ cell, t ∈ V) (width : Int)
    (o : Options (List Int)) (hL : ∀ t ∈ (o.withDefaults cxB).lineSep, t ≠ [])
    (hc : ∀ t ∈ o.charset, t ∈ V) (hcd : ∀ t ∈ (o.withDefaults cxB).charset, t ∈ V)
    (hup : o.headers = true → ∀ t ∈ V, t.map upperRune ∈ V) :
    Editor.insertTableOpts cxA (.root toks.flatten o0.flat) pos (data.map (List.map List.flatten))
        width o.flat =
      (Editor.insertTableOpts cxB (.root toks o0) pos data width o).map Editor.flat :=
  BridgeComposite.insertTableOpts_bridge_gen hV hsp (.root toks o0) ht pos data hdata width o hL
    hc hcd hup

section corollaries
open BridgeComposite BridgeWrap BridgeOps
variable {V : List (List Int)}

/-- C14 on code points: the operation succeeds; the new text is the old text with a block inserted
at the normalised cluster position; the block's lines, re-segmented with the real UAX #29
segmentation, are exactly the cluster-level lines `ls` of C14: `left_i`, padded with spaces to
cluster column `leftW + gap`, then `right_i`; both column widths ≥ 2, summing with the gap to the
clamped width; no line has more clusters than that width. -/
theorem insertTwoColumnsOpts_bridge_C14 (hV : VocabStable V = true)
    (hsp : [0x20] ∈ V) (hhy : [0x2D] ∈ V) (hspTail : ∀ t ∈ V, (0x20 : Int) ∉ t.tail)
    (toks : List (List Int)) (ht : ∀ t ∈ toks, t ∈ V) (o0 : Options (List Int)) (pos : Int)
    (l r : List (List Int)) (hl : ∀ t ∈ l, t ∈ V) (hr : ∀ t ∈ r, t ∈ V) (gap width : Int)
    (pct : Pct) (o : Options (List Int)) (hS : GoodSep V (o.withDefaults cxB).lineSep)
    (hne : ¬(l.isEmpty ∧ r.isEmpty)) (hg : 0 ≤ gap) :
    ∃ (leftW rightW : Int) (ls : List (List (List Int))), 2 ≤ leftW ∧ 2 ≤ rightW ∧
      leftW + gap + rightW = max width (gap + 4) ∧
      Editor.insertTwoColumnsOpts cxA (.root toks.flatten o0.flat) pos l.flatten r.flatten gap width
          pct o.flat =
        .ok (.root (toks.take (Spec.normPos toks.length pos).toNat ++
          (Block.mk ls (o.withDefaults cxB).lineSep (!(o.withDefaults cxB).noTrailing)).join ++
          toks.drop (Spec.normPos toks.length pos).toNat).flatten o0.flat) ∧
      ls.length = max (colLines cxB l leftW (o.withDefaults cxB).lineSep).length
        (colLines cxB r rightW (o.withDefaults cxB).lineSep).length ∧
      (∀ line ∈ ls, clusters cxA line.flatten = line ∧
        (gLen cxA line.flatten : Int) ≤ max width (gap + 4)) ∧
      ∀ (i : Nat) (hi : i < ls.length),
        ls[i] = (colLines cxB l leftW (o.withDefaults cxB).lineSep).getD i [] ++
          List.replicate ((leftW + gap).toNat -
            ((colLines cxB l leftW (o.withDefaults cxB).lineSep).getD i []).length) cxB.sp ++
          (colLines cxB r rightW (o.withDefaults cxB).lineSep).getD i [] ∧
        ((clusters cxA ls[i].flatten).take (leftW + gap).toNat).length = (leftW + gap).toNat ∧
        (clusters cxA ls[i].flatten).drop (leftW + gap).toNat =
          (colLines cxB r rightW (o.withDefaults cxB).lineSep).getD i [] := by
  obtain ⟨L, Rw, ls, h1, h2, h3, heq, hlen, hwid, hshape⟩ :=
    insertTwoColumnsOpts_triv_width cxB cxB_triv cxB_sp_space (.root toks o0) pos l r gap width pct o
      hne hg
  have hover : ∀ line ∈ ls, ∀ t ∈ line, t ∈ V := by
    intro line hline
    obtain ⟨i, hi, rfl⟩ := List.getElem_of_mem hline
    rw [(hshape i hi).1]
    exact over_append (over_append (getD_over (colLines_B_over hsp hhy l hl _ _) i)
      (replicate_sp_over hsp _)) (getD_over (colLines_B_over hsp hhy r hr _ _) i)
  refine ⟨L, Rw, ls, h1, h2, h3, ?_, hlen, ?_, ?_⟩
  · rw [insertTwoColumnsOpts_bridge hV hsp hhy hspTail toks ht o0 pos l r hl hr gap width pct o hS,
      heq, insert_root_flat hV toks ht]
  · intro line hline
    obtain ⟨e1, e2⟩ := resegment hV (hover line hline)
    refine ⟨e1, ?_⟩
    rw [e2]; exact hwid line hline
  · intro i hi
    rw [(resegment hV (hover _ (List.getElem_mem hi))).1]
    exact hshape i hi

/-- C15 on code points: the operation succeeds; the inserted text is the flattening of the
cluster-level text of C15 (paragraphs joined by the paragraph separator, lines by the line
separator); every line of every paragraph, re-segmented with the real UAX #29 segmentation, is the
cluster-level line, and the definition text starts at cluster column `T + 6` on every line (`T` =
the longest term, in clusters). -/
theorem insertDefTableOpts_bridge_C15 (hV : VocabStable V = true)
    (hsp : [0x20] ∈ V) (hhy : [0x2D] ∈ V) (hspTail : ∀ t ∈ V, (0x20 : Int) ∉ t.tail)
    (toks : List (List Int)) (ht : ∀ t ∈ toks, t ∈ V) (o0 : Options (List Int)) (pos : Int)
    (defs : List (List (List Int) × List (List Int)))
    (hd1 : ∀ d ∈ defs, ∀ t ∈ d.1, t ∈ V) (hd2 : ∀ d ∈ defs, ∀ t ∈ d.2, t ∈ V) (width : Int)
    (o : Options (List Int)) (hS : GoodSep V (o.withDefaults cxB).lineSep)
    (hP : ∀ t ∈ (o.withDefaults cxB).paraSep, t ≠ []) (hne : defs ≠ []) :
    Editor.insertDefTableOpts cxA (.root toks.flatten o0.flat) pos
        (defs.map fun d => (d.1.flatten, d.2.flatten)) width o.flat =
      .ok (.root (toks.take (Spec.normPos toks.length pos).toNat ++
        (joinWith (o.withDefaults cxB).paraSep (defs.map fun item =>
          joinWith (o.withDefaults cxB).lineSep
            (defParaLines cxB (maxLineLen (defs.map (·.1))) item.1
              (defRc (colLines cxB item.2
                (max (width - ((maxLineLen (defs.map (·.1)) : Int) + 2) - 2 - 2) 2)
                (o.withDefaults cxB).lineSep)))) ++
          (if (o.withDefaults cxB).noTrailing = true then [] else (o.withDefaults cxB).lineSep)) ++
        toks.drop (Spec.normPos toks.length pos).toNat).flatten o0.flat) ∧
    ∀ item ∈ defs, ∀ (rc : List (List (List Int))),
      rc = defRc (colLines cxB item.2
        (max (width - ((maxLineLen (defs.map (·.1)) : Int) + 2) - 2 - 2) 2)
        (o.withDefaults cxB).lineSep) →
      (defParaLines cxB (maxLineLen (defs.map (·.1))) item.1 rc).length = rc.length ∧
      ∀ (i : Nat) (hi : i < (defParaLines cxB (maxLineLen (defs.map (·.1))) item.1 rc).length),
        clusters cxA ((defParaLines cxB (maxLineLen (defs.map (·.1))) item.1 rc)[i]).flatten =
          (defParaLines cxB (maxLineLen (defs.map (·.1))) item.1 rc)[i] ∧
        (clusters cxA ((defParaLines cxB (maxLineLen (defs.map (·.1))) item.1 rc)[i]).flatten).drop
          (maxLineLen (defs.map (·.1)) + 6) = rc.getD i [] := by
  constructor
  · rw [insertDefTableOpts_bridge hV hsp hspTail toks ht o0 pos defs hd1 hd2 width o hS hP,
      insertDefTableOpts_triv_text cxB cxB_triv cxB_sp_space (.root toks o0) pos defs width o hne,
      insert_root_flat hV toks ht]
  · intro item hitem rc hrc
    generalize hT : maxLineLen (defs.map (·.1)) = T at hrc ⊢
    have hle : item.1.length ≤ T := by
      rw [← hT]
      exact le_maxLineLen _ _ (List.mem_map.2 ⟨item, hitem, rfl⟩)
    have hlen : (defParaLines cxB T item.1 rc).length = rc.length := by
      rw [hrc]; exact defParaLines_defRc_length cxB T item.1 _
    refine ⟨hlen, fun i hi => ?_⟩
    have hover := defParaLines_B_over hsp hhy T (hd1 item hitem)
      (hrc ▸ defRc_B_over (colLines_B_over hsp hhy item.2 (hd2 item hitem) _ _)) _
      (List.getElem_mem hi)
    rw [(resegment hV hover).1]
    exact ⟨rfl, defParaLines_drop cxB T item.1 hle rc i (by omega) hi⟩

/-- C16 on code points: the operation succeeds; the inserted block consists of the lines `ls` of the
cluster-level table; every line, re-segmented with the real UAX #29 segmentation, has exactly
`max width minWidth` clusters (the table is rectangular in clusters). -/
theorem insertTableOpts_bridge_C16 (hV : VocabStable V = true)
    (hsp : [0x20] ∈ V) (toks : List (List Int)) (ht : ∀ t ∈ toks, t ∈ V)
    (o0 : Options (List Int)) (pos : Int) (data : List (List (List (List Int))))
    (hdata : ∀ row ∈ data, ∀ cell ∈ row, ∀ t ∈ cell, t ∈ V) (width : Int)
    (o : Options (List Int)) (hL : ∀ t ∈ (o.withDefaults cxB).lineSep, t ≠ [])
    (hc : ∀ t ∈ o.charset, t ∈ V) (hcd : ∀ t ∈ (o.withDefaults cxB).charset, t ∈ V)
    (hup : o.headers = true → ∀ t ∈ V, t.map upperRune ∈ V) :
    ∃ ls : List (List (List Int)),
      ls = makeTable cxB data width (o.withDefaults cxB).headers (o.withDefaults cxB).borders
        (o.withDefaults cxB).charset ∧
      Editor.insertTableOpts cxA (.root toks.flatten o0.flat) pos
          (data.map (List.map List.flatten)) width o.flat =
        .ok (.root (toks.take (Spec.normPos toks.length pos).toNat ++
          (if (!(o.withDefaults cxB).noTrailing) = true ∧
              (!(Block.mk ls (o.withDefaults cxB).lineSep false).join.isEmpty) = true then
            (Block.mk ls (o.withDefaults cxB).lineSep false).join ++ (o.withDefaults cxB).lineSep
          else (Block.mk ls (o.withDefaults cxB).lineSep false).join) ++
          toks.drop (Spec.normPos toks.length pos).toNat).flatten o0.flat) ∧
      ∀ line ∈ ls, clusters cxA line.flatten = line ∧
        (gLen cxA line.flatten : Int) = max width (tableMinWidth data o.borders) := by
  refine ⟨_, rfl, ?_, ?_⟩
  · rw [insertTableOpts_bridge hV hsp toks ht o0 pos data hdata width o hL hc hcd hup]
    unfold Editor.insertTableOpts
    exact insert_root_flat hV toks ht o0 pos _
  · intro line hline
    obtain ⟨e1, e2⟩ := resegment hV (tableLines_B_over hsp data hdata width o hcd hup line hline)
    refine ⟨e1, ?_⟩
    rw [e2]
    exact insertTableOpts_lines_rect cxB cxB_triv (by rw [dCharset_B]; rfl) data width o line hline

end corollaries

namespace BridgeComposite
open BridgeWrap BridgeOps

/-- if the three default table characters `+`, `|`, `-` are clusters of the vocabulary, the
defaulted character set is over the vocabulary as soon as the given one is -/
theorem defaulted_charset_over {V : List (List Int)} (o : Options (List Int))
    (hc : ∀ t ∈ o.charset, t ∈ V) (h1 : [0x2B] ∈ V) (h2 : [0x7C] ∈ V) (h3 : [0x2D] ∈ V) :
    ∀ t ∈ (o.withDefaults cxB).charset, t ∈ V := by
  have hd : ∀ t ∈ cxB.dCharset, t ∈ V := by
    rw [dCharset_B]
    intro t ht
    simp only [List.mem_cons, List.not_mem_nil, or_false] at ht
    rcases ht with rfl | rfl | rfl <;> assumption
  rw [withDefaults_eq]
  split
  · split
    · exact over_append hc (fun t ht => hd t (gSub_B_mem _ _ _ t ht))
    · exact fun t ht => hc t (gSub_B_mem _ _ _ t ht)
  · exact hc

theorem defaulted_lineSep_nl (o : Options (List Int))
    (hls : o.lineSep = [] ∨ o.lineSep = [[0x0A]]) : (o.withDefaults cxB).lineSep = [[0x0A]] := by
  rw [Options.lineSep_withDefaults]
  rcases hls with h | h <;> rw [h]
  · exact dLineSep_B
  · rfl

/-- the four bridges above on `BridgeOps.demoVocab3` (`a b ␠ - é 🇩🇪 TAB LF`): every text / column /
term / definition over the vocabulary, every position, gap, width, percentage, every options value
that leaves the line and paragraph separators unset (or sets the line separator to "\n") -/
example (left right : List (List (List Int)))
    (hl : ∀ l ∈ left, ∀ t ∈ l, t ∈ BridgeOps.demoVocab3) (gap : Int) :
    combineColumns cxA (left.map List.flatten) (right.map List.flatten) gap =
      (combineColumns cxB left right gap).map (List.map List.flatten) :=
  combineColumns_bridge BridgeOps.demoVocab3_stable left right hl gap

example (toks : List (List Int)) (ht : ∀ t ∈ toks, t ∈ BridgeOps.demoVocab3)
    (o0 : Options (List Int)) (pos : Int) (ins : List (List Int)) :
    Editor.insert cxA (.root toks.flatten o0.flat) pos ins.flatten =
      (Editor.insert cxB (.root toks o0) pos ins).map Editor.flat :=
  insert_bridge BridgeOps.demoVocab3_stable toks ht o0 pos ins

example (toks : List (List Int)) (ht : ∀ t ∈ toks, t ∈ BridgeOps.demoVocab3)
    (o0 : Options (List Int)) (pos : Int) (l r : List (List Int))
    (hl : ∀ t ∈ l, t ∈ BridgeOps.demoVocab3) (hr : ∀ t ∈ r, t ∈ BridgeOps.demoVocab3)
    (gap width : Int) (pct : Pct) (o : Options (List Int))
    (hls : o.lineSep = [] ∨ o.lineSep = [[0x0A]]) :
    Editor.insertTwoColumnsOpts cxA (.root toks.flatten o0.flat) pos l.flatten r.flatten gap width
        pct o.flat =
      (Editor.insertTwoColumnsOpts cxB (.root toks o0) pos l r gap width pct o).map Editor.flat :=
  insertTwoColumnsOpts_bridge BridgeOps.demoVocab3_stable BridgeOps.demoVocab3_sp
    BridgeOps.demoVocab3_hy BridgeOps.demoVocab3_spTail toks ht o0 pos l r hl hr gap width pct o
    (defaulted_lineSep_nl o hls ▸
      goodSep_rune BridgeOps.demoVocab3_stable BridgeOps.demoVocab3_nlOnly)

example (toks : List (List Int)) (ht : ∀ t ∈ toks, t ∈ BridgeOps.demoVocab3)
    (o0 : Options (List Int)) (pos : Int) (defs : List (List (List Int) × List (List Int)))
    (hd1 : ∀ d ∈ defs, ∀ t ∈ d.1, t ∈ BridgeOps.demoVocab3)
    (hd2 : ∀ d ∈ defs, ∀ t ∈ d.2, t ∈ BridgeOps.demoVocab3) (width : Int)
    (o : Options (List Int)) (hls : o.lineSep = [] ∨ o.lineSep = [[0x0A]])
    (hps : o.paraSep = []) :
    Editor.insertDefTableOpts cxA (.root toks.flatten o0.flat) pos
        (defs.map fun d => (d.1.flatten, d.2.flatten)) width o.flat =
      (Editor.insertDefTableOpts cxB (.root toks o0) pos defs width o).map Editor.flat :=
  insertDefTableOpts_bridge BridgeOps.demoVocab3_stable BridgeOps.demoVocab3_sp
    BridgeOps.demoVocab3_spTail toks ht o0 pos defs hd1 hd2 width o
    (defaulted_lineSep_nl o hls ▸
      goodSep_rune BridgeOps.demoVocab3_stable BridgeOps.demoVocab3_nlOnly)
    (by
      rw [Options.paraSep_withDefaults, hps, dParaSep_B]
      intro t ht
      simp only [List.isEmpty_nil, ↓reduceIte, List.mem_cons, List.not_mem_nil, or_false,
        or_self] at ht
      rw [ht]; simp)

/-- `demoVocab3` extended by the upper-case clusters `A B É` and the table characters `+ |` -/
def demoVocab4 : List (List Int) :=
  BridgeOps.demoVocab3 ++ [[0x41], [0x42], [0x45, 0x301], [0x2B], [0x7C]]

theorem demoVocab4_stable : VocabStable demoVocab4 = true :=
  VocabStable.mono demoWords_stable (by decide)

/-- the vocabulary is closed under upper-casing -/
theorem demoVocab4_upper : ∀ t ∈ demoVocab4, t.map upperRune ∈ demoVocab4 := by decide +kernel

/-- the table bridge and its C16 corollary on `demoVocab4`: any ragged data with cells over the
vocabulary, any width and position, headers and borders on or off, default character set, line
separator unset (or "\n"): the table inserted into the CODE-POINT text is rectangular in real
UAX #29 clusters -/
example (toks : List (List Int)) (ht : ∀ t ∈ toks, t ∈ demoVocab4)
    (o0 : Options (List Int)) (pos : Int) (data : List (List (List (List Int))))
    (hdata : ∀ row ∈ data, ∀ cell ∈ row, ∀ t ∈ cell, t ∈ demoVocab4) (width : Int)
    (o : Options (List Int)) (hls : o.lineSep = [] ∨ o.lineSep = [[0x0A]])
    (hcs : o.charset = []) :
    Editor.insertTableOpts cxA (.root toks.flatten o0.flat) pos (data.map (List.map List.flatten))
        width o.flat =
      (Editor.insertTableOpts cxB (.root toks o0) pos data width o).map Editor.flat ∧
    ∃ ls : List (List (List Int)),
      ls = makeTable cxB data width (o.withDefaults cxB).headers (o.withDefaults cxB).borders
        (o.withDefaults cxB).charset ∧
      ∀ line ∈ ls, clusters cxA line.flatten = line ∧
        (gLen cxA line.flatten : Int) = max width (tableMinWidth data o.borders) := by
  have hL : ∀ t ∈ (o.withDefaults cxB).lineSep, t ≠ [] := by
    rw [defaulted_lineSep_nl o hls]
    intro t ht
    rw [List.mem_singleton] at ht
    rw [ht]; simp
  have hc : ∀ t ∈ o.charset, t ∈ demoVocab4 := by rw [hcs]; exact over_nil
  have hcd := defaulted_charset_over o hc (V := demoVocab4) (by decide) (by decide) (by decide)
  refine ⟨insertTableOpts_bridge demoVocab4_stable (by decide) toks ht o0 pos data hdata width o
    hL hc hcd (fun _ => demoVocab4_upper), ?_⟩
  obtain ⟨ls, h1, _, h3⟩ := insertTableOpts_bridge_C16 demoVocab4_stable (by decide) toks ht o0 pos
    data hdata width o hL hc hcd (fun _ => demoVocab4_upper)
  exact ⟨ls, h1, h3⟩

/-- the C14 corollary on `demoVocab3` -/
example (toks : List (List Int)) (ht : ∀ t ∈ toks, t ∈ BridgeOps.demoVocab3)
    (pos : Int) (l r : List (List Int))
    (hl : ∀ t ∈ l, t ∈ BridgeOps.demoVocab3) (hr : ∀ t ∈ r, t ∈ BridgeOps.demoVocab3)
    (gap width : Int) (pct : Pct) (hne : ¬(l.isEmpty ∧ r.isEmpty)) (hg : 0 ≤ gap) :
    ∃ e, Editor.insertTwoColumnsOpts cxA (.root toks.flatten {}) pos l.flatten r.flatten gap width
        pct {} = .ok e ∧
      ∃ ls : List (List (List Int)),
        e.text = (toks.take (Spec.normPos toks.length pos).toNat ++
          (joinWith [[0x0A]] ls ++ [[0x0A]]) ++
          toks.drop (Spec.normPos toks.length pos).toNat).flatten ∧
        ∀ line ∈ ls, clusters cxA line.flatten = line ∧
          (gLen cxA line.flatten : Int) ≤ max width (gap + 4) := by
  have hS : GoodSep BridgeOps.demoVocab3 (({} : Options (List Int)).withDefaults cxB).lineSep :=
    default_lineSep_B ▸ goodSep_rune BridgeOps.demoVocab3_stable BridgeOps.demoVocab3_nlOnly
  obtain ⟨L, Rw, ls, _, _, _, h4, _, h6, _⟩ := insertTwoColumnsOpts_bridge_C14
    BridgeOps.demoVocab3_stable BridgeOps.demoVocab3_sp BridgeOps.demoVocab3_hy
    BridgeOps.demoVocab3_spTail toks ht {} pos l r hl hr gap width pct {} hS hne hg
  have hnt : (({} : Options (List Int)).withDefaults cxB).noTrailing = false :=
    withDefaults_noTrailing cxB _
  rw [flat_default] at h4
  refine ⟨_, h4, ls, ?_, h6⟩
  show (_ : List (List Int)).flatten = _
  rw [default_lineSep_B, hnt]
  unfold Block.join
  cases ls with
  | nil => rfl
  | cons a t => rfl

/-- **necessity of `hup`.**  U+0345 (combining ypogegrammeni, Extend) upper-cases to U+0399 (capital
iota, a base letter): the cluster `ᾳ` = U+03B1 U+0345 upper-cases to the TWO clusters `Α Ι`.  The
vocabulary below is stable and all other hypotheses of `insertTableOpts_bridge` hold, but with
headers on the code-point level pads the header cell to the width by counting two clusters, the
token level by counting one. -/
theorem hup_needed :
    VocabStable [[0x20], [0x2B], [0x7C], [0x2D], [0x3B1, 0x345], [0x0A]] = true ∧
    (Editor.insertTableOpts cxA (.root [] {}) 0
        (([[ [[0x3B1, 0x345]] ]] : List (List (List (List Int)))).map (List.map List.flatten)) 4
        ({ headers := true } : Options (List Int)).flat).toOption.map Editor.text =
      some [0x391, 0x399, 0x20, 0x20, 0x0A, 0x2D, 0x2D, 0x2D, 0x2D, 0x0A] ∧
    ((Editor.insertTableOpts cxB (.root [] {}) 0 [[ [[0x3B1, 0x345]] ]] 4
        ({ headers := true } : Options (List Int))).map Editor.flat).toOption.map Editor.text =
      some [0x391, 0x399, 0x20, 0x20, 0x20, 0x0A, 0x2D, 0x2D, 0x2D, 0x2D, 0x0A] := by
  decide +kernel

/-- **the given character set has to be over the vocabulary**, not only the defaulted one: with
the character set `a b e ◌́` (four tokens, the last two merge on code points) the token level
truncates to `a b e` — which is over the stable vocabulary `{a, b, e, …}` — while the code-point
level sees three clusters `a b é` and keeps all four code points -/
theorem charset_over_needed :
    (({ charset := [[0x61], [0x62], [0x65], [0x301]] } : Options (List Int)).withDefaults
        cxB).charset = [[0x61], [0x62], [0x65]] ∧
    (({ charset := [[0x61], [0x62], [0x65], [0x301]] } : Options (List Int)).flat.withDefaults
        cxA).charset = [0x61, 0x62, 0x65, 0x301] := by
  decide +kernel

end BridgeComposite

end RosedVerif
