/-
Property C03 at the level of the PUBLIC operations, on CODE POINTS: take two stable vocabularies
`V`, `V'` and a cluster-for-cluster substitution `g` from `V` into `V'` that keeps whitespace
clusters whitespace and the others non-whitespace, fixes the space, the hyphen and the tokens of
the line separator, and sends no other token of `V` onto a separator token (`SepFix`).  Then
`WrapOpts`, `AlignOpts`, `CollapseSpaceOpts` (non-paragraph mode) on the code points of a text and of
its substituted text (real UAX #29 segmentation on both) give results that are the same substitution
of one another (`…_natural`).

For each operation: the text it produces on cluster tokens in closed form (`wrapText`, `alignText`,
`collapseText`), the closed form on code points (`…_A_closed`, from the A→B bridges), that the closed
form commutes with the substitution (`…_map`) and stays over the vocabulary (`…_over`).
`natural_of_closed` is the step from these three to the statements of `Props/C03.lean`, which also
say that both results re-segment to the closed form. `LineCount` has its closed form here (`lineCount_A_closed`) and its statement in
`Props/C03.lean`.  The file opens with `strings.Split` / `Join` / `HasPrefix` / `HasSuffix` under a map
on atoms that confuses no separator atom with another atom of the text (`SepInj`), and with what the
substitution has to do with the line separator (`SepFix`).  At the end a concrete substitution and
the counterexample `hinv_needed`.
-/
import RosedVerif.Model.BridgeEditorParas
import RosedVerif.Spec.Naturality
namespace RosedVerif
set_option linter.unusedSectionVars false

namespace BridgeNatural
open BridgeWrap BridgeOps BridgeEditorOps BridgeEditorParas OpsStructure

section generic
variable {α β : Type} [DecidableEq α] [DecidableEq β] (g : α → β)

/-- `g` does not identify an atom of `S` with a different atom of `l` -/
def SepInj (S l : List α) : Prop := ∀ s ∈ S, ∀ t ∈ l, g s = g t → s = t

theorem SepInj.tail {g : α → β} {S : List α} {c : α} {l : List α} (h : SepInj g S (c :: l)) :
    SepInj g S l := fun s hs t ht => h s hs t (List.mem_cons_of_mem _ ht)

theorem beq_map_of_inj {a b : α} (h : g a = g b → a = b) : (g a == g b) = (a == b) := by
  by_cases e : a = b
  · subst e; simp
  · have : g a ≠ g b := fun e' => e (h e')
    rw [beq_eq_false_iff_ne.2 this, beq_eq_false_iff_ne.2 e]

theorem isPrefixOf_map : ∀ (S l : List α), SepInj g S l →
    (S.map g).isPrefixOf (l.map g) = S.isPrefixOf l
  | [], _, _ => by simp
  | _ :: _, [], _ => by simp
  | a :: S, b :: l, h => by
    have h1 : (g a == g b) = (a == b) :=
      beq_map_of_inj g (h a List.mem_cons_self b List.mem_cons_self)
    have h2 := isPrefixOf_map S l
      (fun s hs t ht => h s (List.mem_cons_of_mem _ hs) t (List.mem_cons_of_mem _ ht))
    simp only [List.map_cons, List.isPrefixOf_cons_cons, h1, h2]

theorem isSuffixOf_map (S l : List α) (h : SepInj g S l) :
    (S.map g).isSuffixOf (l.map g) = S.isSuffixOf l := by
  unfold List.isSuffixOf
  rw [← List.map_reverse, ← List.map_reverse]
  exact isPrefixOf_map g _ _
    (fun s hs t ht => h s (List.mem_reverse.1 hs) t (List.mem_reverse.1 ht))

theorem splitOnAux_map (S : List α) : ∀ (l : List α) (skip : Nat) (cur : List α), SepInj g S l →
    splitOnAux (S.map g) (l.map g) skip (cur.map g) =
      (splitOnAux S l skip cur).map (List.map g)
  | [], _, cur, _ => by
    simp only [List.map_nil, splitOnAux, List.map_cons, List.map_reverse]
  | c :: t, skip + 1, cur, h => by
    rw [List.map_cons, splitOnAux, splitOnAux]
    exact splitOnAux_map S t skip cur h.tail
  | c :: t, 0, cur, h => by
    have hp : (S.map g).isPrefixOf (g c :: t.map g) = S.isPrefixOf (c :: t) := by
      rw [← List.map_cons]; exact isPrefixOf_map g S (c :: t) h
    rw [List.map_cons, splitOnAux, splitOnAux, hp]
    split
    · have ih := splitOnAux_map S t (S.length - 1) [] h.tail
      rw [List.map_nil] at ih
      rw [List.length_map, ih, List.map_cons, List.map_reverse]
    · have ih := splitOnAux_map S t 0 (c :: cur) h.tail
      rw [List.map_cons] at ih
      exact ih

/-- `strings.Split` commutes with a map on atoms that does not confuse separator atoms with
different atoms of the text -/
theorem splitOn_map (l S : List α) (h : SepInj g S l) :
    splitOn (l.map g) (S.map g) = (splitOn l S).map (List.map g) := by
  unfold splitOn
  cases S with
  | nil =>
    simp only [List.map_nil, List.isEmpty_nil, if_true, List.map_map]
    rfl
  | cons a S =>
    simp only [List.map_cons, List.isEmpty_cons, Bool.false_eq_true, if_false]
    have := splitOnAux_map g (a :: S) l 0 [] h
    simpa only [List.map_cons, List.map_nil] using this

omit [DecidableEq α] [DecidableEq β] in
/-- `strings.Join` commutes with any map on atoms -/
theorem joinWith_map (sep : List α) : ∀ (ls : List (List α)),
    (joinWith sep ls).map g = joinWith (sep.map g) (ls.map (List.map g))
  | [] => rfl
  | [x] => by simp only [List.map_cons, List.map_nil, joinWith_singleton]
  | x :: y :: t => by
    have ih := joinWith_map sep (y :: t)
    rw [List.map_cons] at ih
    rw [List.map_cons, List.map_cons, joinWith_cons_cons, joinWith_cons_cons, List.map_append,
      List.map_append, ih]

omit [DecidableEq α] [DecidableEq β] in
theorem getLastD_map_isEmpty (ls : List (List α)) :
    ((ls.map (List.map g)).getLastD []).isEmpty = (ls.getLastD []).isEmpty := by
  rw [List.getLastD_eq_getLast?, List.getLastD_eq_getLast?, List.getLast?_map]
  cases ls.getLast? with
  | none => rfl
  | some x => cases x <;> rfl

/-- the lines a callback sees -/
theorem bareLines_map (l S : List α) (nt : Bool) (h : SepInj g S l) :
    Spec.bareLines (l.map g) (S.map g) nt = (Spec.bareLines l S nt).map (List.map g) := by
  unfold Spec.bareLines
  dsimp only
  rw [splitOn_map g l S h, getLastD_map_isEmpty]
  split
  · rw [List.map_dropLast]
  · rfl

theorem replaceAll_map (l S new : List α) (h : SepInj g S l) :
    replaceAll (l.map g) (S.map g) (new.map g) = (replaceAll l S new).map g := by
  unfold replaceAll
  rw [splitOn_map g l S h, joinWith_map]

omit [DecidableEq α] [DecidableEq β] in
theorem map_map_comm {f : List α → List α} {f' : List β → List β}
    (hf : ∀ l, f' (l.map g) = (f l).map g) (ls : List (List α)) :
    (ls.map (List.map g)).map f' = (ls.map f).map (List.map g) := by
  rw [List.map_map, List.map_map]
  exact List.map_congr_left fun l _ => hf l

end generic

theorem map_fixed {α : Type} {g : α → α} {l : List α} (h : ∀ t ∈ l, g t = t) : l.map g = l := by
  conv => rhs; rw [← List.map_id l]
  exact List.map_congr_left h

/-- what the substitution `g` must do with the tokens of the line separator `S`: fix them, and
send no other token of `V` onto one of them (`inv` follows from injectivity of `g` on `V ∪ S`; it
is weaker) -/
structure SepFix (V : List (List Int)) (g : List Int → List Int) (S : List (List Int)) : Prop where
  fix : ∀ s ∈ S, g s = s
  inv : ∀ t ∈ V, g t ∈ S → t ∈ S

section sepfix
variable {V : List (List Int)} {g : List Int → List Int} {S : List (List Int)}

theorem SepFix.map_eq (h : SepFix V g S) : S.map g = S := map_fixed h.fix

theorem SepFix.sepInj (h : SepFix V g S) {toks : List (List Int)} (ht : ∀ t ∈ toks, t ∈ V) :
    SepInj g S toks := by
  intro s hs t htm e
  rw [h.fix s hs] at e
  have hmem : t ∈ S := h.inv t (ht t htm) (e ▸ hs)
  rw [h.fix t hmem] at e
  exact e

theorem SepFix.splitOn (h : SepFix V g S) {toks : List (List Int)} (ht : ∀ t ∈ toks, t ∈ V) :
    splitOn (toks.map g) S = (splitOn toks S).map (List.map g) := by
  have := splitOn_map g toks S (h.sepInj ht)
  rwa [h.map_eq] at this

theorem SepFix.bareLines (h : SepFix V g S) {toks : List (List Int)} (ht : ∀ t ∈ toks, t ∈ V)
    (nt : Bool) :
    Spec.bareLines (toks.map g) S nt = (Spec.bareLines toks S nt).map (List.map g) := by
  have := bareLines_map g toks S nt (h.sepInj ht)
  rwa [h.map_eq] at this

theorem SepFix.isSuffixOf (h : SepFix V g S) {toks : List (List Int)} (ht : ∀ t ∈ toks, t ∈ V) :
    @List.isSuffixOf (List Int) instBEqOfDecidableEq S (toks.map g) =
      @List.isSuffixOf (List Int) instBEqOfDecidableEq S toks := by
  have := isSuffixOf_map g S toks (h.sepInj ht)
  rwa [h.map_eq] at this

theorem SepFix.replaceAll' (h : SepFix V g S) (hgsp : g [0x20] = [0x20]) {toks : List (List Int)}
    (ht : ∀ t ∈ toks, t ∈ V) :
    replaceAll' cxB (toks.map g) S = (replaceAll' cxB toks S).map g := by
  unfold RosedVerif.replaceAll'
  split
  · rfl
  · have := replaceAll_map g toks S [cxB.sp] (h.sepInj ht)
    rw [h.map_eq] at this
    rw [← this]
    show _ = replaceAll (toks.map g) S [g [0x20]]
    rw [hgsp]
    rfl

end sepfix

theorem over_map {V V' : List (List Int)} {g : List Int → List Int} (hg : ∀ t ∈ V, g t ∈ V')
    {toks : List (List Int)} (ht : ∀ t ∈ toks, t ∈ V) : ∀ t ∈ toks.map g, t ∈ V' := by
  intro t h
  obtain ⟨u, hu, rfl⟩ := List.mem_map.1 h
  exact hg u (ht u hu)

/-- the text `WrapOpts` (non-paragraph mode) produces on cluster tokens: the specification's greedy
lines joined by the separator, plus the separator again when the text ended with it -/
def wrapText (S toks : List (List Int)) (w : Int) : List (List Int) :=
  joinWith S (Spec.wrapLines tkB (max w 2).toNat (replaceAll' cxB toks S)) ++
    (if @List.isSuffixOf (List Int) instBEqOfDecidableEq S toks then S else [])

/-- the text `AlignOpts` (non-paragraph mode, a value in `Left..Center`) produces on cluster
tokens -/
def alignText (ed : Editor (List Int)) (align width : Int) (o : Options (List Int)) :
    List (List Int) :=
  joinWith (o.withDefaults cxB).lineSep
    ((inLines cxB ed o).map (specAlign align width) ++ trailing cxB ed o)

/-- the text `CollapseSpaceOpts` produces on cluster tokens -/
def collapseText (S toks : List (List Int)) : List (List Int) :=
  Spec.collapse tkB (replaceAll' cxB toks S)

section closed
variable {V : List (List Int)}

theorem wrapOpts_A_closed (hV : VocabStable V = true) (hsp : [0x20] ∈ V)
    (hspTail : ∀ t ∈ V, (0x20 : Int) ∉ t.tail) (toks : List (List Int)) (ht : ∀ t ∈ toks, t ∈ V)
    (w : Int) (o0 o : Options (List Int)) (hpp : o.preservePara = false)
    (hS : GoodSep V (o.withDefaults cxB).lineSep) :
    Editor.wrapOpts cxA (.root toks.flatten o0.flat) w o.flat =
      .ok (.root (wrapText (o.withDefaults cxB).lineSep toks w).flatten o0.flat) := by
  refine (wrapOpts_bridge_good hV hsp hspTail (.root toks o0) ht w o hpp hS).trans ?_
  rw [wrapOpts_B_closed _ w o hpp]
  rfl

theorem alignOpts_A_closed (hV : VocabStable V = true) (toks : List (List Int))
    (ht : ∀ t ∈ toks, t ∈ V) (align width : Int) (o0 o : Options (List Int))
    (hal : align = Gen.alignLeft ∨ align = Gen.alignRight ∨ align = Gen.alignCenter)
    (hpp : o.preservePara = false) (hS : GoodSep V (o.withDefaults cxB).lineSep) :
    Editor.alignOpts cxA (.root toks.flatten o0.flat) align width o.flat =
      .ok (.root (alignText (.root toks o0) align width o).flatten o0.flat) :=
  alignOpts_bridge_closed hV (.root toks o0) ht align width o hal hpp hS

theorem collapseSpaceOpts_A_closed (hV : VocabStable V = true) (hsp : [0x20] ∈ V)
    (hspTail : ∀ t ∈ V, (0x20 : Int) ∉ t.tail) (toks : List (List Int)) (ht : ∀ t ∈ toks, t ∈ V)
    (o0 o : Options (List Int)) (hS : GoodSep V (o.withDefaults cxB).lineSep) :
    Editor.collapseSpaceOpts cxA (.root toks.flatten o0.flat) o.flat =
      .ok (.root (collapseText (o.withDefaults cxB).lineSep toks).flatten o0.flat) := by
  refine (collapseSpaceOpts_bridge_good hV hsp hspTail (.root toks o0) ht o hS).trans ?_
  rw [collapseSpaceOpts_B_closed]
  rfl

theorem lineCount_A_closed (hV : VocabStable V = true) (toks : List (List Int))
    (ht : ∀ t ∈ toks, t ∈ V) (o0 : Options (List Int))
    (hS : GoodSep V (o0.withDefaults cxB).lineSep) :
    Editor.lineCount cxA (.root toks.flatten o0.flat) =
      (Spec.bareLines toks (o0.withDefaults cxB).lineSep o0.noTrailing).length := by
  unfold Editor.lineCount Editor.lines
  rw [linesSep_eq_bareLines]
  show (Spec.bareLines toks.flatten (o0.flat.withDefaults cxA).lineSep o0.noTrailing).length = _
  rw [lineSep_flat_gen o0 hS.tok_ne, bareLines_bridge hV hS toks ht, List.length_map]

end closed

section over
variable {V : List (List Int)} {S : List (List Int)}

theorem lines_map_over {f : List (List Int) → List (List Int)} {ls : List (List (List Int))}
    (hls : ∀ l ∈ ls, ∀ t ∈ l, t ∈ V) (hf : ∀ l, (∀ t ∈ l, t ∈ V) → ∀ t ∈ f l, t ∈ V) :
    ∀ l ∈ ls.map f, ∀ t ∈ l, t ∈ V := by
  intro l hl
  obtain ⟨l0, hl0, rfl⟩ := List.mem_map.1 hl
  exact hf l0 (hls l0 hl0)

theorem wrapText_over (hsp : [0x20] ∈ V) (hhy : [0x2D] ∈ V) (hSV : ∀ s ∈ S, s ∈ V)
    {toks : List (List Int)} (ht : ∀ t ∈ toks, t ∈ V) (w : Int) :
    ∀ t ∈ wrapText S toks w, t ∈ V :=
  over_append
    (LayoutSim.joinWith_forall hSV (wrapLines_spec_over hsp hhy _ _ (replaceAll'_over hsp toks ht S)))
    (LayoutSim.ite_nil_forall hSV _)

theorem collapseText_over (hsp : [0x20] ∈ V) {toks : List (List Int)} (ht : ∀ t ∈ toks, t ∈ V) :
    ∀ t ∈ collapseText S toks, t ∈ V :=
  BridgeAlign.over_of_mem_or_sp hsp (replaceAll'_over hsp toks ht S) (collapse_mem tkB _)

theorem alignText_over (hsp : [0x20] ∈ V) (ed : Editor (List Int)) (ht : ∀ t ∈ ed.text, t ∈ V)
    (align width : Int) (o : Options (List Int))
    (hSV : ∀ s ∈ (o.withDefaults cxB).lineSep, s ∈ V) :
    ∀ t ∈ alignText ed align width o, t ∈ V :=
  lineForm_over ed o hSV
    (lines_map_over (inLines_over ed ht o) fun _ hl => specAlign_over hsp align width hl)

end over

section natural
variable {V : List (List Int)} {g : List Int → List Int} {S : List (List Int)}

theorem wrapText_map (hmap : Spec.TokMap tkB tkB g) (h : SepFix V g S)
    {toks : List (List Int)} (ht : ∀ t ∈ toks, t ∈ V) (w : Int) :
    wrapText S (toks.map g) w = (wrapText S toks w).map g := by
  unfold wrapText
  rw [h.replaceAll' hmap.sp ht, Spec.wrapLines_map hmap, h.isSuffixOf ht, List.map_append,
    joinWith_map, h.map_eq]
  congr 1
  split
  · exact h.map_eq.symm
  · rfl

theorem collapseText_map (hmap : Spec.TokMap tkB tkB g) (h : SepFix V g S)
    {toks : List (List Int)} (ht : ∀ t ∈ toks, t ∈ V) :
    collapseText S (toks.map g) = (collapseText S toks).map g := by
  unfold collapseText
  rw [h.replaceAll' hmap.sp ht, Spec.collapse_map hmap]

theorem specAlign_map (hmap : Spec.TokMap tkB tkB g) (align w : Int) (l : List (List Int)) :
    specAlign align w (l.map g) = (specAlign align w l).map g := by
  unfold specAlign
  split
  · exact Spec.alignLeft_map hmap w l
  · split
    · exact Spec.alignRight_map hmap w l
    · exact Spec.alignCenter_map hmap w l

theorem inLines_map (o0 o : Options (List Int)) (h : SepFix V g (o.withDefaults cxB).lineSep)
    {toks : List (List Int)} (ht : ∀ t ∈ toks, t ∈ V) :
    inLines cxB (.root (toks.map g) o0) o = (inLines cxB (.root toks o0) o).map (List.map g) := by
  rw [inLines_eq, inLines_eq]
  exact h.bareLines ht _

theorem trailing_map (o0 o : Options (List Int)) (h : SepFix V g (o.withDefaults cxB).lineSep)
    {toks : List (List Int)} (ht : ∀ t ∈ toks, t ∈ V) :
    trailing cxB (.root (toks.map g) o0) o =
      (trailing cxB (.root toks o0) o).map (List.map g) := by
  have e1 := inLines_map o0 o h ht
  have e2 : (splitOn (Editor.root (toks.map g) o0).text (o.withDefaults cxB).lineSep).length =
      (splitOn (Editor.root toks o0).text (o.withDefaults cxB).lineSep).length := by
    show (splitOn (toks.map g) _).length = (splitOn toks _).length
    rw [h.splitOn ht, List.length_map]
  unfold trailing
  simp only [e1, e2, List.length_map]
  split <;> rfl

theorem lineForm_map (o0 o : Options (List Int)) (h : SepFix V g (o.withDefaults cxB).lineSep)
    {toks : List (List Int)} (ht : ∀ t ∈ toks, t ∈ V)
    {F : List (List (List Int)) → List (List (List Int))}
    (hF : ∀ ls, F (ls.map (List.map g)) = (F ls).map (List.map g)) :
    joinWith (o.withDefaults cxB).lineSep
        (F (inLines cxB (.root (toks.map g) o0) o) ++ trailing cxB (.root (toks.map g) o0) o) =
      (joinWith (o.withDefaults cxB).lineSep
        (F (inLines cxB (.root toks o0) o) ++ trailing cxB (.root toks o0) o)).map g := by
  rw [inLines_map o0 o h ht, trailing_map o0 o h ht, hF, ← List.map_append, joinWith_map, h.map_eq]

theorem alignText_map (hmap : Spec.TokMap tkB tkB g) (o0 o : Options (List Int))
    (h : SepFix V g (o.withDefaults cxB).lineSep) {toks : List (List Int)}
    (ht : ∀ t ∈ toks, t ∈ V) (align width : Int) :
    alignText (.root (toks.map g) o0) align width o =
      (alignText (.root toks o0) align width o).map g :=
  lineForm_map o0 o h ht (map_map_comm g (specAlign_map hmap align width))

/-- both cluster lists re-segment to themselves -/
theorem seg_pair {V V' : List (List Int)} (hV : VocabStable V = true)
    (hV' : VocabStable V' = true) {g : List Int → List Int} (hg : ∀ t ∈ V, g t ∈ V')
    {r : List (List Int)} (hov : ∀ t ∈ r, t ∈ V) :
    clusters cxA r.flatten = r ∧ clusters cxA (r.map g).flatten = r.map g :=
  ⟨clusters_flat_over hV hov, clusters_flat_over hV' (over_map hg hov)⟩

/-- two closed forms, the second the substitution of the first, the first over `V`: the two
results on code points segment into `r` and `r.map g` -/
theorem natural_of_closed {V V' : List (List Int)} (hV : VocabStable V = true)
    (hV' : VocabStable V' = true) {g : List Int → List Int} (hg : ∀ t ∈ V, g t ∈ V')
    {x y : R (Editor Int)} {o : Options Int} {r r' : List (List Int)}
    (h1 : x = .ok (.root r.flatten o)) (h2 : y = .ok (.root r'.flatten o)) (hr : r' = r.map g)
    (hov : ∀ t ∈ r, t ∈ V) :
    ∃ z : List (List Int), x = .ok (.root z.flatten o) ∧ y = .ok (.root (z.map g).flatten o) ∧
      clusters cxA z.flatten = z ∧ clusters cxA (z.map g).flatten = z.map g ∧ z = r :=
  ⟨r, h1, hr ▸ h2, (seg_pair hV hV' hg hov).1, (seg_pair hV hV' hg hov).2, rfl⟩

end natural
end BridgeNatural

open BridgeNatural BridgeWrap BridgeOps BridgeEditorOps OpsStructure

section statements
variable {V V' : List (List Int)}

/-- `Editor.WrapOpts` (non-paragraph mode) on code points commutes with the cluster-for-cluster
substitution `g`: same breaks, same hyphens, same separators.  `o0` are the options the editor
carries, `o` the call options.  `hinv` (no other token of `V` is sent onto a separator token) is
what `strings.Split` and `strings.HasSuffix` need under a non-injective `g`; it follows from
injectivity of `g` on `V ∪ sep` and is needed (`BridgeNatural.hinv_needed`).  The form that also
identifies `r` and `r.map g` as the cluster lists of the two results is
`Props.C03_wrapOpts_code_points`. -/
theorem wrapOpts_natural (hV : VocabStable V = true) (hsp : [0x20] ∈ V)
    (hspTail : ∀ t ∈ V, (0x20 : Int) ∉ t.tail)
    (hV' : VocabStable V' = true) (hsp' : [0x20] ∈ V') (hspTail' : ∀ t ∈ V', (0x20 : Int) ∉ t.tail)
    (g : List Int → List Int) (hg : ∀ t ∈ V, g t ∈ V')
    (hws : ∀ t, cxB.isSpace (g t) = cxB.isSpace t) (hgsp : g [0x20] = [0x20])
    (hghy : g [0x2D] = [0x2D])
    (toks : List (List Int)) (ht : ∀ t ∈ toks, t ∈ V) (w : Int) (o0 o : Options (List Int))
    (hpp : o.preservePara = false)
    (hS : GoodSep V (o.withDefaults cxB).lineSep) (hS' : GoodSep V' (o.withDefaults cxB).lineSep)
    (hfix : ∀ s ∈ (o.withDefaults cxB).lineSep, g s = s)
    (hinv : ∀ t ∈ V, g t ∈ (o.withDefaults cxB).lineSep → t ∈ (o.withDefaults cxB).lineSep) :
    ∃ r : List (List Int),
      Editor.wrapOpts cxA (.root toks.flatten o0.flat) w o.flat = .ok (.root r.flatten o0.flat) ∧
      Editor.wrapOpts cxA (.root (toks.map g).flatten o0.flat) w o.flat =
        .ok (.root (r.map g).flatten o0.flat) := by
  have hmap : Spec.TokMap tkB tkB g := ⟨hws, hgsp, hghy⟩
  refine ⟨_, wrapOpts_A_closed hV hsp hspTail toks ht w o0 o hpp hS, ?_⟩
  rw [← wrapText_map hmap ⟨hfix, hinv⟩ ht]
  exact wrapOpts_A_closed hV' hsp' hspTail' _ (over_map hg ht) w o0 o hpp hS'

/-- `Editor.AlignOpts`: every value of `align` (`Left`, `Right`, `Center`; for `None` and values
outside the range nothing happens on either side), non-paragraph mode -/
theorem alignOpts_natural (hV : VocabStable V = true) (hV' : VocabStable V' = true)
    (g : List Int → List Int) (hg : ∀ t ∈ V, g t ∈ V')
    (hws : ∀ t, cxB.isSpace (g t) = cxB.isSpace t) (hgsp : g [0x20] = [0x20])
    (hghy : g [0x2D] = [0x2D])
    (toks : List (List Int)) (ht : ∀ t ∈ toks, t ∈ V) (align width : Int)
    (o0 o : Options (List Int)) (hpp : o.preservePara = false)
    (hS : GoodSep V (o.withDefaults cxB).lineSep) (hS' : GoodSep V' (o.withDefaults cxB).lineSep)
    (hfix : ∀ s ∈ (o.withDefaults cxB).lineSep, g s = s)
    (hinv : ∀ t ∈ V, g t ∈ (o.withDefaults cxB).lineSep → t ∈ (o.withDefaults cxB).lineSep) :
    ∃ r : List (List Int),
      Editor.alignOpts cxA (.root toks.flatten o0.flat) align width o.flat =
        .ok (.root r.flatten o0.flat) ∧
      Editor.alignOpts cxA (.root (toks.map g).flatten o0.flat) align width o.flat =
        .ok (.root (r.map g).flatten o0.flat) := by
  have hmap : Spec.TokMap tkB tkB g := ⟨hws, hgsp, hghy⟩
  by_cases hal : align = Gen.alignLeft ∨ align = Gen.alignRight ∨ align = Gen.alignCenter
  · refine ⟨_, alignOpts_A_closed hV toks ht align width o0 o hal hpp hS, ?_⟩
    rw [← alignText_map hmap o0 o ⟨hfix, hinv⟩ ht]
    exact alignOpts_A_closed hV' _ (over_map hg ht) align width o0 o hal hpp hS'
  · exact ⟨toks, alignOpts_other cxA _ align width o.flat hal,
      alignOpts_other cxA _ align width o.flat hal⟩

theorem collapseSpaceOpts_natural (hV : VocabStable V = true) (hsp : [0x20] ∈ V)
    (hspTail : ∀ t ∈ V, (0x20 : Int) ∉ t.tail)
    (hV' : VocabStable V' = true) (hsp' : [0x20] ∈ V') (hspTail' : ∀ t ∈ V', (0x20 : Int) ∉ t.tail)
    (g : List Int → List Int) (hg : ∀ t ∈ V, g t ∈ V')
    (hws : ∀ t, cxB.isSpace (g t) = cxB.isSpace t) (hgsp : g [0x20] = [0x20])
    (hghy : g [0x2D] = [0x2D])
    (toks : List (List Int)) (ht : ∀ t ∈ toks, t ∈ V) (o0 o : Options (List Int))
    (hS : GoodSep V (o.withDefaults cxB).lineSep) (hS' : GoodSep V' (o.withDefaults cxB).lineSep)
    (hfix : ∀ s ∈ (o.withDefaults cxB).lineSep, g s = s)
    (hinv : ∀ t ∈ V, g t ∈ (o.withDefaults cxB).lineSep → t ∈ (o.withDefaults cxB).lineSep) :
    ∃ r : List (List Int),
      Editor.collapseSpaceOpts cxA (.root toks.flatten o0.flat) o.flat =
        .ok (.root r.flatten o0.flat) ∧
      Editor.collapseSpaceOpts cxA (.root (toks.map g).flatten o0.flat) o.flat =
        .ok (.root (r.map g).flatten o0.flat) := by
  have hmap : Spec.TokMap tkB tkB g := ⟨hws, hgsp, hghy⟩
  refine ⟨_, collapseSpaceOpts_A_closed hV hsp hspTail toks ht o0 o hS, ?_⟩
  rw [← collapseText_map hmap ⟨hfix, hinv⟩ ht]
  exact collapseSpaceOpts_A_closed hV' hsp' hspTail' _ (over_map hg ht) o0 o hS'

end statements

namespace BridgeNatural

/-- the target vocabulary: `é` precomposed, no flag -/
def demoVocabNFC : List (List Int) :=
  [[0x61], [0x62], [0x20], [0x2D], [0xE9], [0x9], [0x0A]]

theorem demoVocabNFC_stable : VocabStable demoVocabNFC = true :=
  VocabStable.mono demoWords_stable (by decide)

/-- a NON-injective substitution from `BridgeOps.demoVocab3` into `demoVocabNFC`: `e` + combining
acute ↦ precomposed `é` (two code points ↦ one), the flag 🇩🇪 ↦ `a` (so the flag and `a` are
identified), everything else fixed -/
def demoG (t : List Int) : List Int :=
  if t = [0x65, 0x301] then [0xE9] else if t = [0x1F1E9, 0x1F1EA] then [0x61] else t

theorem demoG_ws : ∀ t, cxB.isSpace (demoG t) = cxB.isSpace t := by
  intro t
  unfold demoG
  split
  · rename_i h; subst h; decide
  · split
    · rename_i h; subst h; decide
    · rfl

/-- what the statements ask of a line separator, for `demoVocab3`, `demoVocabNFC`, `demoG` and
the separator U+000A -/
theorem demo_sep {S : List (List Int)} (h : S = [[0x0A]]) :
    GoodSep BridgeOps.demoVocab3 S ∧ GoodSep demoVocabNFC S ∧
      (∀ s ∈ S, s ∈ BridgeOps.demoVocab3) ∧ (∀ s ∈ S, demoG s = s) ∧
      ∀ t ∈ BridgeOps.demoVocab3, demoG t ∈ S → t ∈ S := by
  subst h
  exact ⟨demo3_good_nl, goodSep_rune demoVocabNFC_stable (by decide), by decide, by decide,
    by decide⟩

theorem demoVocabNFC_spTail : ∀ t ∈ demoVocabNFC, (0x20 : Int) ∉ t.tail := by decide

/-- fully evaluated: "a é\n" (decomposed) and its image "a é\n" (precomposed), wrapped at 2 -/
example :
    (Editor.wrapOpts cxA (.root ([[0x61], [0x20], [0x65, 0x301], [0x0A]] : List (List Int)).flatten
      {}) 2 {}).map Editor.text = .ok [0x61, 0x0A, 0x65, 0x301, 0x0A] ∧
    (Editor.wrapOpts cxA (.root (([[0x61], [0x20], [0x65, 0x301], [0x0A]] :
      List (List Int)).map demoG).flatten {}) 2 {}).map Editor.text =
        .ok [0x61, 0x0A, 0xE9, 0x0A] :=
  ⟨of_okEq (by decide +kernel), of_okEq (by decide +kernel)⟩

/-- a stable vocabulary with two different whitespace controls: line feed and vertical tab -/
def cexVocab : List (List Int) := [[0x61], [0x20], [0x2D], [0x0A], [0x0B]]

/-- vertical tab ↦ line feed, everything else fixed: whitespace-preserving, fixes the space, the
hyphen and the separator token `"\n"`, but sends ANOTHER token onto the separator token -/
def cexG (t : List Int) : List Int := if t = [0x0B] then [0x0A] else t

theorem cexG_ws : ∀ t, cxB.isSpace (cexG t) = cxB.isSpace t := by
  intro t
  unfold cexG
  split
  · rename_i h; subst h; decide
  · rfl

theorem cexG_map_eq (r : List (List Int)) (h : (0x0B : Int) ∉ r.flatten) : r.map cexG = r :=
  map_fixed fun t ht =>
    if_neg fun (e : t = [0x0B]) => h (List.mem_flatten.2 ⟨t, ht, e ▸ List.mem_cons_self⟩)

/-- without `hinv` the statement `wrapOpts_natural` is FALSE: every other hypothesis of it holds
(`V' = V`, default options), yet "a\v" wraps to "a" while its image "a\n" wraps to "a\n" (the
trailing separator is kept), and no `r` fits both -/
theorem hinv_needed :
    VocabStable cexVocab = true ∧ [0x20] ∈ cexVocab ∧ (∀ t ∈ cexVocab, (0x20 : Int) ∉ t.tail) ∧
    (∀ t ∈ cexVocab, cexG t ∈ cexVocab) ∧ (∀ t, cxB.isSpace (cexG t) = cxB.isSpace t) ∧
    cexG [0x20] = [0x20] ∧ cexG [0x2D] = [0x2D] ∧
    GoodSep cexVocab (({} : Options (List Int)).withDefaults cxB).lineSep ∧
    (∀ s ∈ (({} : Options (List Int)).withDefaults cxB).lineSep, cexG s = s) ∧
    (∀ t ∈ ([[0x61], [0x0B]] : List (List Int)), t ∈ cexVocab) ∧
    ¬ ∃ r : List (List Int),
      Editor.wrapOpts cxA (.root ([[0x61], [0x0B]] : List (List Int)).flatten
        ({} : Options (List Int)).flat) 10 ({} : Options (List Int)).flat =
          .ok (.root r.flatten ({} : Options (List Int)).flat) ∧
      Editor.wrapOpts cxA (.root (([[0x61], [0x0B]] : List (List Int)).map cexG).flatten
        ({} : Options (List Int)).flat) 10 ({} : Options (List Int)).flat =
          .ok (.root (r.map cexG).flatten ({} : Options (List Int)).flat) := by
  have hst : VocabStable cexVocab = true := by decide +kernel
  refine ⟨hst, by decide, by decide, by decide, cexG_ws, rfl, rfl, ?_, ?_, by decide, ?_⟩
  · rw [default_lineSep_B]; exact goodSep_rune hst (by decide)
  · rw [default_lineSep_B]; decide
  · rintro ⟨r, h1, h2⟩
    have e1 : (Editor.wrapOpts cxA (.root ([[0x61], [0x0B]] : List (List Int)).flatten
        ({} : Options (List Int)).flat) 10 ({} : Options (List Int)).flat).map Editor.text =
        .ok [0x61] := of_okEq (by decide +kernel)
    have e2 : (Editor.wrapOpts cxA (.root (([[0x61], [0x0B]] : List (List Int)).map cexG).flatten
        ({} : Options (List Int)).flat) 10 ({} : Options (List Int)).flat).map Editor.text =
        .ok [0x61, 0x0A] := of_okEq (by decide +kernel)
    rw [h1] at e1
    rw [h2] at e2
    have f1 : r.flatten = [0x61] := Except.ok.inj e1
    have f2 : (r.map cexG).flatten = [0x61, 0x0A] := Except.ok.inj e2
    rw [cexG_map_eq r (by rw [f1]; decide), f1] at f2
    exact absurd f2 (by decide)

end BridgeNatural

end RosedVerif
