/-
Simulation of the line-block layout code (`tb.Block`, the paragraph loop and the paragraph
callbacks of `WrapOpts`, `JustifyOpts`, `AlignOpts`) along a homomorphism of texts; the table is in
`TableSim.lean`.

Two runs of the model are compared: one at a context `cx₁` over atoms `α`, one at `cx₂` over atoms
`β`, the first on the image under `φ : List β → List α` of the input of the second.  `Hom` lists what
`φ` has to satisfy on texts whose atoms satisfy `Q`; every traversal is then walked once, and proves
at the same time that the second run stays over `Q`.  The uses are `φ = List.flatten` (code points
against cluster tokens, `Q` = membership in a stable vocabulary: `BridgeComposite.homFlat`),
`φ = List.map g` (cluster tokens against substituted cluster tokens: `BridgeNatural2.homMap`) and
`φ = id`, where only the second half says something (`BridgeComposite.homId`).
-/
import RosedVerif.Model.BridgeStrings
import RosedVerif.Model.ParaLemmas
namespace RosedVerif
set_option linter.unusedSectionVars false

namespace LayoutSim

theorem getD_mem_or_nil {β : Type} (ls : List (List β)) (i : Nat) :
    ls.getD i [] ∈ ls ∨ ls.getD i [] = [] := by
  by_cases hi : i < ls.length
  · rw [List.getD_eq_getElem?_getD, List.getElem?_eq_getElem hi, Option.getD_some]
    exact Or.inl (List.getElem_mem hi)
  · rw [List.getD_eq_getElem?_getD, List.getElem?_eq_none (by omega), Option.getD_none]
    exact Or.inr rfl

theorem getD_forall {β : Type} {P : List β → Prop} {ls : List (List β)} (h0 : P [])
    (h : ∀ l ∈ ls, P l) (i : Nat) : P (ls.getD i []) := by
  rcases getD_mem_or_nil ls i with h' | h'
  · exact h _ h'
  · rw [h']; exact h0

theorem getD_forall_mem {β : Type} {Q : β → Prop} {ls : List (List β)}
    (h : ∀ l ∈ ls, ∀ x ∈ l, Q x) (i : Nat) : ∀ x ∈ ls.getD i [], Q x :=
  getD_forall (P := fun l => ∀ x ∈ l, Q x) (fun _ h => nomatch h) h i

theorem getD_map_nil {β γ : Type} (f : List β → List γ) (hf : f [] = []) (ls : List (List β))
    (i : Nat) : (ls.map f).getD i [] = f (ls.getD i []) := by
  rw [List.getD_eq_getElem?_getD, List.getD_eq_getElem?_getD, List.getElem?_map]
  cases ls[i]?
  · exact hf.symm
  · rfl

theorem ite_nil_forall {β : Type} {P : β → Prop} {l : List β} (h : ∀ t ∈ l, P t) (c : Prop)
    [Decidable c] : ∀ t ∈ (if c then l else []), P t := by
  split
  · exact h
  · exact fun _ h => nomatch h

theorem joinWith_forall {β : Type} {P : β → Prop} {S : List β} (hS : ∀ t ∈ S, P t)
    {ls : List (List β)} (hls : ∀ l ∈ ls, ∀ t ∈ l, P t) : ∀ t ∈ joinWith S ls, P t := by
  intro t h
  rcases BridgeOps.joinWith_mem _ _ t h with h | ⟨l, hl, h⟩
  · exact hS t h
  · exact hls l hl t h

theorem join_forall {β : Type} {P : β → Prop} {S : List β} (hS : ∀ t ∈ S, P t)
    {ls : List (List β)} (hls : ∀ l ∈ ls, ∀ t ∈ l, P t) (b : Bool) :
    ∀ t ∈ (Block.mk ls S b).join, P t := by
  unfold Block.join
  dsimp only
  have htr : ∀ t ∈ (if b = true then S else []), P t := by
    split
    · exact hS
    · exact fun t h => nomatch h
  split
  · exact htr
  · intro t h
    rcases List.mem_append.1 h with h | h
    · exact joinWith_forall hS hls t h
    · exact htr t h

theorem gRepeat_mem {β : Type} (s : List β) (n : Int) : ∀ t ∈ gRepeat s n, t ∈ s := by
  intro t ht
  unfold gRepeat at ht
  obtain ⟨l, hl, htl⟩ := List.mem_flatten.1 ht
  rw [List.eq_of_mem_replicate hl] at htl
  exact htl

theorem ite_rel {A B : Type} {r : A → B → Prop} (c : Prop) [Decidable c] {a a' : A} {b b' : B}
    (h : r a b) (h' : r a' b') : r (if c then a else a') (if c then b else b') := by
  split
  · exact h
  · exact h'

/-- two computations fail alike or give related results. Two-sided, unlike `BridgeAlign.Sim`
(success of the second run implies success of the first), which serves the loops that run on fuel:
their fuel differs on the two sides. Nothing here runs on fuel, and the loops enter as hypotheses
(`hwrap`, `hjust`) or through `Hom`, so both directions come at no extra work and `RRel.eq_map` turns
the result into the equation `x = y.map φ` in which the bridges are stated. -/
def RRel {A B : Type} (r : A → B → Prop) (x : R A) (y : R B) : Prop :=
  match x, y with
  | .ok a, .ok b => r a b
  | .error e, .error e' => e = e'
  | _, _ => False

theorem RRel.bind {A B C D : Type} {r : A → B → Prop} {q : C → D → Prop} {x : R A} {y : R B}
    {f : A → R C} {g : B → R D} (h : RRel r x y) (hf : ∀ a b, r a b → RRel q (f a) (g b)) :
    RRel q (x >>= f) (y >>= g) := by
  cases x with
  | error e =>
    cases y with
    | error e' => exact h
    | ok b => exact h.elim
  | ok a =>
    cases y with
    | error e' => exact h.elim
    | ok b => exact hf a b h

theorem RRel.pure {A B : Type} {r : A → B → Prop} {a : A} {b : B} (h : r a b) :
    RRel r (Pure.pure a : R A) (Pure.pure b : R B) := h

theorem RRel.eq_map {A B : Type} {φ : B → A} {x : R A} {y : R B}
    (h : RRel (fun a b => a = φ b) x y) : x = y.map φ := by
  cases x with
  | error e =>
    cases y with
    | error e' => exact congrArg Except.error h
    | ok b => exact h.elim
  | ok a =>
    cases y with
    | error e' => exact h.elim
    | ok b => exact congrArg Except.ok h

theorem RRel.of_eq_map {A B : Type} {φ : B → A} {P : B → Prop} {x : R A} {y : R B}
    (h : x = y.map φ) (hP : ∀ b, y = .ok b → P b) : RRel (fun a b => a = φ b ∧ P b) x y := by
  subst h
  cases y with
  | error e => exact rfl
  | ok b => exact ⟨rfl, hP b rfl⟩

theorem RRel.mapM {ι A B : Type} {φ : B → A} {P : B → Prop} (f : ι → R A) (g : ι → R B) :
    ∀ l : List ι, (∀ i ∈ l, RRel (fun a b => a = φ b ∧ P b) (f i) (g i)) →
      RRel (fun as bs => as = bs.map φ ∧ (∀ b ∈ bs, P b) ∧ bs.length = l.length)
        (l.mapM f) (l.mapM g)
  | [], _ => by
    rw [List.mapM_nil, List.mapM_nil]
    exact RRel.pure ⟨rfl, fun _ h => (nomatch h), rfl⟩
  | i :: l, h => by
    rw [List.mapM_cons, List.mapM_cons]
    refine RRel.bind (h i List.mem_cons_self) fun a b hab => ?_
    refine RRel.bind (RRel.mapM f g l fun j hj => h j (List.mem_cons_of_mem _ hj)) fun as bs hl => ?_
    exact RRel.pure ⟨by rw [hab.1, hl.1, List.map_cons], List.forall_mem_cons.2 ⟨hab.2, hl.2.1⟩,
      by rw [List.length_cons, List.length_cons, hl.2.2]⟩

variable {α β : Type} [DecidableEq α] [DecidableEq β]

/-- related texts -/
def TR (φ : List β → List α) (Q : β → Prop) (a : List α) (b : List β) : Prop :=
  a = φ b ∧ ∀ t ∈ b, Q t

/-- what the layout primitives at `cx₁` and `cx₂` must satisfy along `φ`, on texts over `Q`.
`nil`, `append`, `isEmpty`, `sp` serve `tb.Block` and the padding; `len` and `sub` the cuts
(`cut_sim`, the `modLine` steps of the Align callbacks); `leadingWs`, `trailingWs` the trimming of
AlignCenter's first and last line (`trimFirst`, `trimLast`). `left`, `right`, `center` are taken as
given, not derived from these: at `φ = List.flatten` they are the theorems of `BridgeAlign`, whose
proof (cluster boundaries of a stable vocabulary) is not available for an abstract `φ`. -/
structure Hom (cx₁ : Ctx α) (cx₂ : Ctx β) (φ : List β → List α) (Q : β → Prop) : Prop where
  nil : φ [] = []
  append : ∀ a b, φ (a ++ b) = φ a ++ φ b
  isEmpty : ∀ b, (∀ t ∈ b, Q t) → (φ b).isEmpty = b.isEmpty
  sp : φ [cx₂.sp] = [cx₁.sp]
  spQ : Q cx₂.sp
  len : ∀ b, (∀ t ∈ b, Q t) → gLen cx₁ (φ b) = gLen cx₂ b
  sub : ∀ b, (∀ t ∈ b, Q t) → ∀ x y, TR φ Q (gSub cx₁ (φ b) x y) (gSub cx₂ b x y)
  leadingWs : ∀ b, (∀ t ∈ b, Q t) → countLeadingWs cx₁ (φ b) = countLeadingWs cx₂ b
  trailingWs : ∀ b, (∀ t ∈ b, Q t) → countTrailingWs cx₁ (φ b) = countTrailingWs cx₂ b
  left : ∀ b, (∀ t ∈ b, Q t) → ∀ w, TR φ Q (alignLeft cx₁ (φ b) w) (alignLeft cx₂ b w)
  right : ∀ b, (∀ t ∈ b, Q t) → ∀ w, TR φ Q (alignRight cx₁ (φ b) w) (alignRight cx₂ b w)
  center : ∀ b, (∀ t ∈ b, Q t) → ∀ w, TR φ Q (alignCenter cx₁ (φ b) w) (alignCenter cx₂ b w)

/-- what `φ` must satisfy for a separator `S`: `strings.Split` at `φ S` sees the same pieces -/
structure SepHom (φ : List β → List α) (Q : β → Prop) (S : List β) : Prop where
  sepQ : ∀ t ∈ S, Q t
  split : ∀ b, (∀ t ∈ b, Q t) → splitOn (φ b) (φ S) = (splitOn b S).map φ

theorem some_beq_nil {γ : Type} [DecidableEq γ] (l : List γ) :
    ((some l : Option (List γ)) == some []) = l.isEmpty := by
  cases l <;> simp

section sim
variable {cx₁ : Ctx α} {cx₂ : Ctx β} {φ : List β → List α} {Q : β → Prop} {S : List β}

theorem Hom.join (H : Hom cx₁ cx₂ φ Q) (S : List β) : ∀ ls : List (List β),
    φ (joinWith S ls) = joinWith (φ S) (ls.map φ)
  | [] => H.nil
  | [x] => by simp only [List.map_cons, List.map_nil, joinWith_singleton]
  | x :: y :: t => by
    have ih := H.join S (y :: t)
    rw [List.map_cons] at ih
    rw [List.map_cons, List.map_cons, joinWith_cons_cons, joinWith_cons_cons, H.append, H.append,
      ih]

theorem Hom.getD (H : Hom cx₁ cx₂ φ Q) (ls : List (List β)) (i : Nat) :
    (ls.map φ).getD i [] = φ (ls.getD i []) :=
  getD_map_nil φ H.nil ls i

/-- related blocks with separator `S` -/
structure BR (φ : List β → List α) (Q : β → Prop) (S : List β) (a : Block α) (b : Block β) :
    Prop where
  lines : a.lines = b.lines.map φ
  sepA : a.sep = φ S
  sepB : b.sep = S
  trailing : a.trailing = b.trailing
  over : ∀ l ∈ b.lines, ∀ t ∈ l, Q t

theorem TR.nil (hnil : φ [] = []) : TR φ Q [] [] := ⟨hnil.symm, fun _ h => nomatch h⟩

theorem TR.append (H : Hom cx₁ cx₂ φ Q) {a c : List α} {b d : List β} (h1 : TR φ Q a b)
    (h2 : TR φ Q c d) : TR φ Q (a ++ c) (b ++ d) :=
  ⟨by rw [h1.1, h2.1, H.append], fun t h => (List.mem_append.1 h).elim (h1.2 t) (h2.2 t)⟩

/-- `strings.Repeat` -/
theorem TR.repeat (H : Hom cx₁ cx₂ φ Q) {s₁ : List α} {s₂ : List β} (h : TR φ Q s₁ s₂) (n : Int) :
    TR φ Q (gRepeat s₁ n) (gRepeat s₂ n) := by
  refine ⟨?_, fun t ht => h.2 t (gRepeat_mem _ _ t ht)⟩
  unfold gRepeat
  induction n.toNat with
  | zero => exact H.nil.symm
  | succ k ih => rw [List.replicate_succ, List.replicate_succ, List.flatten_cons,
      List.flatten_cons, H.append, ← h.1, ih]

theorem TR.single {s₁ : α} {s₂ : β} (hs : φ [s₂] = [s₁]) (hQ : Q s₂) : TR φ Q [s₁] [s₂] :=
  ⟨hs.symm, fun _ h => List.mem_singleton.1 h ▸ hQ⟩

theorem Hom.spTR (H : Hom cx₁ cx₂ φ Q) : TR φ Q [cx₁.sp] [cx₂.sp] := TR.single H.sp H.spQ

theorem Hom.spaces (H : Hom cx₁ cx₂ φ Q) (n : Int) :
    TR φ Q (gRepeat [cx₁.sp] n) (gRepeat [cx₂.sp] n) := H.spTR.repeat H n

theorem TR.gLen (H : Hom cx₁ cx₂ φ Q) {a : List α} {b : List β} (h : TR φ Q a b) :
    gLen cx₁ a = gLen cx₂ b := by rw [h.1, H.len b h.2]

theorem TR.gSub (H : Hom cx₁ cx₂ φ Q) {a : List α} {b : List β} (h : TR φ Q a b) (x y : Int) :
    TR φ Q (gSub cx₁ a x y) (gSub cx₂ b x y) := by
  rw [h.1]
  exact H.sub b h.2 x y

/-- related lists of lines -/
def LR (φ : List β → List α) (Q : β → Prop) (a : List (List α)) (b : List (List β)) : Prop :=
  a = b.map φ ∧ ∀ l ∈ b, ∀ t ∈ l, Q t

theorem LR.nil : LR φ Q [] [] := ⟨rfl, fun _ h => nomatch h⟩

theorem LR.single {a : List α} {b : List β} (h : TR φ Q a b) : LR φ Q [a] [b] :=
  ⟨congrArg (fun x => [x]) h.1, fun _ hl => List.mem_singleton.1 hl ▸ h.2⟩

theorem LR.append {a c : List (List α)} {b d : List (List β)} (h1 : LR φ Q a b)
    (h2 : LR φ Q c d) : LR φ Q (a ++ c) (b ++ d) :=
  ⟨by rw [h1.1, h2.1, List.map_append], fun l h => (List.mem_append.1 h).elim (h1.2 l) (h2.2 l)⟩

theorem LR.flatten_map {ι : Type} (f₁ : ι → List (List α)) (f₂ : ι → List (List β)) :
    ∀ l : List ι, (∀ i ∈ l, LR φ Q (f₁ i) (f₂ i)) → LR φ Q (l.map f₁).flatten (l.map f₂).flatten
  | [], _ => LR.nil
  | i :: l, h => (h i List.mem_cons_self).append
      (LR.flatten_map f₁ f₂ l fun j hj => h j (List.mem_cons_of_mem _ hj))

/-- `tb.New` -/
theorem blockNew_sim (H : Hom cx₁ cx₂ φ Q) (hS : SepHom φ Q S) {X : List β}
    (hX : ∀ t ∈ X, Q t) : BR φ Q S (Block.new (φ X) (φ S)) (Block.new X S) := by
  have hov : ∀ l ∈ splitOn X S, ∀ t ∈ l, Q t :=
    fun l hl t ht => hX t (BridgeOps.splitOn_mem X S l hl t ht)
  unfold Block.new
  rw [H.isEmpty X hX]
  refine ite_rel _ ⟨rfl, rfl, rfl, rfl, fun l hl => (by cases hl)⟩ ?_
  dsimp only
  rw [hS.split X hX, List.length_map, List.getLast?_map]
  have hc : (Option.map φ (splitOn X S).getLast? == some []) =
      ((splitOn X S).getLast? == some []) := by
    cases h : (splitOn X S).getLast? with
    | none => rfl
    | some x =>
      rw [Option.map_some, some_beq_nil, some_beq_nil,
        H.isEmpty x (hov x (List.mem_of_getLast? h))]
  rw [hc]
  exact ite_rel _ ⟨List.map_dropLast.symm, rfl, rfl, rfl,
    fun l hl => hov l (List.dropLast_subset _ hl)⟩ ⟨rfl, rfl, rfl, rfl, hov⟩

theorem BR.lines_length {a : Block α} {b : Block β} (h : BR φ Q S a b) :
    a.lines.length = b.lines.length := by rw [h.lines, List.length_map]

theorem BR.lines_isEmpty {a : Block α} {b : Block β} (h : BR φ Q S a b) :
    a.lines.isEmpty = b.lines.isEmpty := by rw [h.lines, List.isEmpty_map]

/-- `tb.Block.Join` -/
theorem BR.join (H : Hom cx₁ cx₂ φ Q) (hS : ∀ t ∈ S, Q t) {a : Block α} {b : Block β}
    (h : BR φ Q S a b) : TR φ Q a.join b.join := by
  obtain ⟨al, as, at'⟩ := a
  obtain ⟨bl, bs, bt⟩ := b
  obtain ⟨h1, h2, h3, h4, h5⟩ := h
  dsimp only at h1 h2 h3 h4 h5
  subst h1 h2 h3 h4
  refine ⟨?_, join_forall hS h5 at'⟩
  unfold Block.join
  dsimp only
  rw [List.isEmpty_map, ← H.join]
  simp only [apply_ite φ, H.append, H.nil]

/-- `tb.Block.Line` -/
theorem BR.line (H : Hom cx₁ cx₂ φ Q) {a : Block α} {b : Block β} (h : BR φ Q S a b)
    (pos : Int) : RRel (TR φ Q) (a.line pos) (b.line pos) := by
  unfold Block.line
  rw [h.lines_length]
  split
  · exact rfl
  · refine RRel.pure ⟨?_, fun t ht => ?_⟩
    · show a.lines.getD _ [] = φ (b.lines.getD _ [])
      rw [h.lines, H.getD]
    · exact getD_forall_mem h.over _ t ht

/-- `tb.Block.Set` -/
theorem BR.set {a : Block α} {b : Block β} (h : BR φ Q S a b) (pos : Int) {c : List α}
    {d : List β} (hc : TR φ Q c d) :
    RRel (fun a' b' => BR φ Q S a' b' ∧ b'.lines.length = b.lines.length)
      (a.set pos c) (b.set pos d) := by
  unfold Block.set
  rw [h.lines_length]
  split
  · exact rfl
  · refine RRel.pure ⟨⟨?_, h.sepA, h.sepB, h.trailing, fun l hl => ?_⟩,
      by simp only [List.length_set]⟩
    · show a.lines.set _ c = (b.lines.set _ d).map φ
      rw [h.lines, hc.1, List.map_set]
    · rcases List.mem_or_eq_of_mem_set hl with hl | hl
      · exact h.over l hl
      · rw [hl]
        exact hc.2

/-- `tb.Block.Apply` with a 1:1 callback that may fail -/
theorem BR.mapLinesM (H : Hom cx₁ cx₂ φ Q) {a : Block α} {b : Block β} (h : BR φ Q S a b)
    (f₁ : Nat → List α → R (List α)) (f₂ : Nat → List β → R (List β))
    (hf : ∀ i l, (∀ t ∈ l, Q t) → RRel (TR φ Q) (f₁ i (φ l)) (f₂ i l)) :
    RRel (fun a' b' => BR φ Q S a' b' ∧ b'.lines.length = b.lines.length)
      (a.mapLinesM f₁) (b.mapLinesM f₂) := by
  unfold Block.mapLinesM
  rw [h.lines_length]
  refine RRel.bind (RRel.mapM _ _ _ fun i _ => ?_) fun as bs hl =>
    RRel.pure ⟨⟨hl.1, h.sepA, h.sepB, h.trailing, hl.2.1⟩, by rw [hl.2.2, List.length_range]⟩
  rw [h.lines, H.getD]
  exact hf i _ (getD_forall_mem h.over i)

theorem BR.mapLines (H : Hom cx₁ cx₂ φ Q) {a : Block α} {b : Block β} (h : BR φ Q S a b)
    (f₁ : List α → List α) (f₂ : List β → List β)
    (hf : ∀ l, (∀ t ∈ l, Q t) → TR φ Q (f₁ (φ l)) (f₂ l)) :
    RRel (fun a' b' => BR φ Q S a' b' ∧ b'.lines.length = b.lines.length)
      (a.mapLinesM fun _ l => Pure.pure (f₁ l)) (b.mapLinesM fun _ l => Pure.pure (f₂ l)) :=
  h.mapLinesM H _ _ fun _ l hl => RRel.pure (hf l hl)

/-- the recurring step "if `c`, replace line `pos` by a function of itself", then a continuation
(the `do` notation copies the continuation into both branches) -/
theorem modLine (H : Hom cx₁ cx₂ φ Q) {C D : Type} {q : C → D → Prop} {bA : Block α}
    {bB : Block β} (h : BR φ Q S bA bB) (c : Prop) [Decidable c] (pos : Int)
    {F₁ : List α → List α} {F₂ : List β → List β}
    (hF : ∀ a b, TR φ Q a b → TR φ Q (F₁ a) (F₂ b))
    {k₁ : Block α → R C} {k₂ : Block β → R D}
    (hk : ∀ a b, BR φ Q S a b → b.lines.length = bB.lines.length → RRel q (k₁ a) (k₂ b)) :
    RRel q
      (if c then (bA.line pos >>= fun l => bA.set pos (F₁ l) >>= k₁) else (Pure.pure bA >>= k₁))
      (if c then (bB.line pos >>= fun l => bB.set pos (F₂ l) >>= k₂) else (Pure.pure bB >>= k₂)) := by
  refine ite_rel _ ?_ (hk _ _ h rfl)
  refine RRel.bind (h.line H pos) (fun a b hab => ?_)
  exact RRel.bind (h.set pos (hF a b hab)) (fun a' b' h' => hk a' b' h'.1 h'.2)

theorem alignParaLeft_sim (H : Hom cx₁ cx₂ φ Q) (hS : SepHom φ Q S) (width : Int)
    {para pre suf : List β} (hpara : ∀ t ∈ para, Q t) (hpre : ∀ t ∈ pre, Q t)
    (hsuf : ∀ t ∈ suf, Q t) :
    RRel (TR φ Q) (alignParaLeft cx₁ width (φ S) (φ para) (φ pre) (φ suf))
      (alignParaLeft cx₂ width S para pre suf) := by
  have hss := H.spaces (gLen cx₂ pre)
  have hse := H.spaces (gLen cx₂ suf)
  unfold alignParaLeft
  simp only [H.len pre hpre, H.len suf hsuf, hss.gLen H, hse.gLen H]
  have hbr : BR φ Q S (Block.new (φ para ++ gRepeat [cx₁.sp] (gLen cx₂ suf)) (φ S))
      (Block.new (para ++ gRepeat [cx₂.sp] (gLen cx₂ suf)) S) := by
    have h := TR.append H ⟨rfl, hpara⟩ hse
    rw [h.1]
    exact blockNew_sim H hS h.2
  -- from here on the two blocks and the paddings are variables, known only through `hbr`, `hss`, `hse`
  generalize Block.new (φ para ++ gRepeat [cx₁.sp] (gLen cx₂ suf)) (φ S) = blA at hbr ⊢
  generalize Block.new (para ++ gRepeat [cx₂.sp] (gLen cx₂ suf)) S = blB at hbr ⊢
  generalize gRepeat [cx₁.sp] (gLen cx₂ pre) = ssA at hss ⊢
  generalize gRepeat [cx₂.sp] (gLen cx₂ pre) = ssB at hss ⊢
  generalize gRepeat [cx₂.sp] (gLen cx₂ suf) = seB at hse ⊢
  rw [hbr.lines_isEmpty, hbr.lines_length]
  refine ite_rel _ (RRel.pure (hbr.join H hS.sepQ)) ?_
  refine RRel.bind (hbr.line H 0) (fun a b hab => ?_)
  refine RRel.bind (hbr.set 0 (hab.append H hss)) (fun bA1 bB1 h1 => ?_)
  refine RRel.bind (h1.1.mapLines H _ _ (fun l hl => H.left l hl width))
    (fun bA2 bB2 h2 => ?_)
  refine modLine H h2.1 _ 0 (fun a b hab => hab.gSub H _ _) (fun bA3 bB3 h3 _ => ?_)
  refine modLine H h3 _ _ (fun a b hab => hab.gSub H _ _) (fun bA4 bB4 h4 _ => ?_)
  exact RRel.pure (h4.join H hS.sepQ)

theorem alignParaRight_sim (H : Hom cx₁ cx₂ φ Q) (hS : SepHom φ Q S) (width : Int)
    {para pre suf : List β} (hpara : ∀ t ∈ para, Q t) (hpre : ∀ t ∈ pre, Q t)
    (hsuf : ∀ t ∈ suf, Q t) :
    RRel (TR φ Q) (alignParaRight cx₁ width (φ S) (φ para) (φ pre) (φ suf))
      (alignParaRight cx₂ width S para pre suf) := by
  have hss := H.spaces (gLen cx₂ pre)
  have hse := H.spaces (gLen cx₂ suf)
  unfold alignParaRight
  simp only [H.len pre hpre, H.len suf hsuf, hss.gLen H, hse.gLen H]
  have hbr : BR φ Q S (Block.new (gRepeat [cx₁.sp] (gLen cx₂ pre) ++ φ para) (φ S))
      (Block.new (gRepeat [cx₂.sp] (gLen cx₂ pre) ++ para) S) := by
    have h := TR.append H hss ⟨rfl, hpara⟩
    rw [h.1]
    exact blockNew_sim H hS h.2
  generalize Block.new (gRepeat [cx₁.sp] (gLen cx₂ pre) ++ φ para) (φ S) = blA at hbr ⊢
  generalize Block.new (gRepeat [cx₂.sp] (gLen cx₂ pre) ++ para) S = blB at hbr ⊢
  generalize gRepeat [cx₁.sp] (gLen cx₂ suf) = seA at hse ⊢
  generalize gRepeat [cx₂.sp] (gLen cx₂ suf) = seB at hse ⊢
  generalize gRepeat [cx₂.sp] (gLen cx₂ pre) = ssB at hss ⊢
  rw [hbr.lines_isEmpty, hbr.lines_length]
  refine ite_rel _ (RRel.pure (hbr.join H hS.sepQ)) ?_
  refine RRel.bind (hbr.line H _) (fun a b hab => ?_)
  refine RRel.bind (hbr.set _ (hse.append H hab)) (fun bA1 bB1 h1 => ?_)
  refine RRel.bind (h1.1.mapLines H _ _ (fun l hl => H.right l hl width))
    (fun bA2 bB2 h2 => ?_)
  have hF : ∀ (n : Int) (a : List α) (b : List β), TR φ Q a b →
      TR φ Q (gSub cx₁ a n (gLen cx₁ a)) (gSub cx₂ b n (gLen cx₂ b)) := by
    intro n a b hab
    rw [hab.gLen H]
    exact hab.gSub H _ _
  refine modLine H h2.1 _ 0 (hF _) (fun bA3 bB3 h3 _ => ?_)
  refine modLine H h3 _ _ (hF _) (fun bA4 bB4 h4 _ => ?_)
  exact RRel.pure (h4.join H hS.sepQ)

/-- what `alignParaCenter` does to the first line: cut `n` clusters of its leading blanks, and
what is missing from its trailing blanks -/
def trimFirst {γ : Type} [DecidableEq γ] (cx : Ctx γ) (n : Int) (first : List γ) : List γ :=
  if countLeadingWs cx first ≥ n then gSub cx first n (gLen cx first)
  else gSub cx first (countLeadingWs cx first) ((gLen cx first : Int) -
    (if n - countLeadingWs cx first > countTrailingWs cx first
      then countTrailingWs cx first else n - countLeadingWs cx first))

/-- … and to the last line -/
def trimLast {γ : Type} [DecidableEq γ] (cx : Ctx γ) (n : Int) (last : List γ) : List γ :=
  if countTrailingWs cx last ≥ n then gSub cx last 0 (-n)
  else gSub cx last
    (if n - countTrailingWs cx last > countLeadingWs cx last
      then countLeadingWs cx last else n - countTrailingWs cx last)
    ((gLen cx last : Int) - countTrailingWs cx last)

theorem trimFirst_sim (H : Hom cx₁ cx₂ φ Q) (n : Int) {a : List α} {b : List β}
    (h : TR φ Q a b) : TR φ Q (trimFirst cx₁ n a) (trimFirst cx₂ n b) := by
  unfold trimFirst
  rw [h.1, H.leadingWs b h.2, H.trailingWs b h.2, H.len b h.2]
  exact ite_rel _ (TR.gSub H ⟨rfl, h.2⟩ _ _) (TR.gSub H ⟨rfl, h.2⟩ _ _)

theorem trimLast_sim (H : Hom cx₁ cx₂ φ Q) (n : Int) {a : List α} {b : List β}
    (h : TR φ Q a b) : TR φ Q (trimLast cx₁ n a) (trimLast cx₂ n b) := by
  unfold trimLast
  rw [h.1, H.leadingWs b h.2, H.trailingWs b h.2, H.len b h.2]
  exact ite_rel _ (TR.gSub H ⟨rfl, h.2⟩ _ _) (TR.gSub H ⟨rfl, h.2⟩ _ _)

theorem alignParaCenter_sim (H : Hom cx₁ cx₂ φ Q) (hS : SepHom φ Q S) (width : Int)
    {para pre suf : List β} (hpara : ∀ t ∈ para, Q t) (hpre : ∀ t ∈ pre, Q t)
    (hsuf : ∀ t ∈ suf, Q t) :
    RRel (TR φ Q) (alignParaCenter cx₁ width (φ S) (φ para) (φ pre) (φ suf))
      (alignParaCenter cx₂ width S para pre suf) := by
  have hss := H.spaces (gLen cx₂ pre)
  have hse := H.spaces (gLen cx₂ suf)
  unfold alignParaCenter
  simp only [H.len pre hpre, H.len suf hsuf, hss.gLen H, hse.gLen H]
  have hbr : BR φ Q S (Block.new (φ para) (φ S)) (Block.new para S) := blockNew_sim H hS hpara
  generalize Block.new (φ para) (φ S) = blA at hbr ⊢
  generalize Block.new para S = blB at hbr ⊢
  generalize gLen cx₂ (gRepeat [cx₂.sp] (gLen cx₂ suf)) = se
  generalize gLen cx₂ (gRepeat [cx₂.sp] (gLen cx₂ pre)) = ss
  rw [hbr.lines_isEmpty]
  refine ite_rel _ (RRel.pure (hbr.join H hS.sepQ)) ?_
  refine RRel.bind (hbr.mapLines H _ _ (fun l hl => H.center l hl width))
    (fun bA2 bB2 h2 => ?_)
  refine modLine H h2.1 _ 0 (F₁ := trimFirst cx₁ ss) (F₂ := trimFirst cx₂ ss)
    (fun a b hab => trimFirst_sim H _ hab) (fun bA3 bB3 h3 _ => ?_)
  rw [h3.lines_length]
  refine modLine H h3 _ _ (F₁ := trimLast cx₁ se) (F₂ := trimLast cx₂ se)
    (fun a b hab => trimLast_sim H _ hab) (fun bA4 bB4 h4 _ => ?_)
  exact RRel.pure (h4.join H hS.sepQ)

/-- the paragraph callback of `AlignOpts` -/
def alignParaCb {γ : Type} [DecidableEq γ] (cx : Ctx γ) (align width : Int) (lineSep : List γ)
    (_ : Nat) (para pre suf : List γ) : R (List (List γ)) := do
  let p ←
    if align == Gen.alignLeft then alignParaLeft cx width lineSep para pre suf
    else if align == Gen.alignRight then alignParaRight cx width lineSep para pre suf
    else alignParaCenter cx width lineSep para pre suf
  pure [p]

theorem alignParaCb_sim (H : Hom cx₁ cx₂ φ Q) (hS : SepHom φ Q S) (align width : Int) (i : Nat)
    {para pre suf : List β} (hpara : ∀ t ∈ para, Q t) (hpre : ∀ t ∈ pre, Q t)
    (hsuf : ∀ t ∈ suf, Q t) :
    alignParaCb cx₁ align width (φ S) i (φ para) (φ pre) (φ suf) =
      (alignParaCb cx₂ align width S i para pre suf).map (List.map φ) := by
  refine RRel.eq_map ?_
  unfold alignParaCb
  dsimp only
  have hk : ∀ {x : R (List α)} {y : R (List β)}, RRel (TR φ Q) x y →
      RRel (fun a b => a = List.map φ b) (x >>= fun p => pure [p]) (y >>= fun p => pure [p]) :=
    fun h => RRel.bind h (fun a b hab => RRel.pure (by rw [hab.1]; rfl))
  exact ite_rel _ (hk (alignParaLeft_sim H hS width hpara hpre hsuf))
    (ite_rel _ (hk (alignParaRight_sim H hS width hpara hpre hsuf))
      (hk (alignParaCenter_sim H hS width hpara hpre hsuf)))

/-! `WrapOpts` and `JustifyOpts` in paragraph mode pad the paragraph with a placeholder letter in
place of the remains of the paragraph separator, lay it out, and cut the placeholders out again. -/

/-- the paragraph callback of `WrapOpts` (a paragraph that ends with the line separator keeps
it), with the letter `cx.phA` as placeholder. `Editor.wrapOpts` pads with
`cx.placeholder o.lineSep`, which is `cx.phA` only when that letter is not in the line separator
(`BridgeEditorParas.wrapOpts_para`). -/
def wrapParaCb {γ : Type} [DecidableEq γ] (cx : Ctx γ) (width : Int) (lineSep : List γ) (_ : Nat)
    (para pre suf : List γ) : R (List (List γ)) := do
  let sepStart := gRepeat [cx.phA] (gLen cx pre)
  let sepEnd := gRepeat [cx.phA] (gLen cx suf)
  let ls ← wrapLines cx (sepStart ++ para ++ sepEnd) width lineSep
  let text := (Block.mk ls lineSep false).join
  let ss : Int := gLen cx sepStart
  let se : Int := gLen cx sepEnd
  let text := if se > 0 then gSub cx text ss (-se) else gSub cx text ss (gLen cx text)
  pure [if lineSep.isSuffixOf para then text ++ lineSep else text]

/-- the paragraph callback of `JustifyOpts`, under the same condition on the placeholder
(`BridgeEditorParas.justifyOpts_para`) -/
def justifyParaCb {γ : Type} [DecidableEq γ] (cx : Ctx γ) (width : Int) (lineSep : List γ)
    (jl : Bool) (_ : Nat) (para pre suf : List γ) : R (List (List γ)) := do
  let sepStart := gRepeat [cx.phA] (gLen cx pre)
  let sepEnd := gRepeat [cx.phA] (gLen cx suf)
  let bl := Block.new (sepStart ++ para ++ sepEnd) lineSep
  let n := bl.lines.length
  let bl ← bl.mapLinesM fun idx line =>
    if !jl ∧ (idx : Int) == (n : Int) - 1 then pure line else justifyLine cx line width
  let text := bl.join
  let ss : Int := gLen cx sepStart
  let se : Int := gLen cx sepEnd
  pure [if se > 0 then gSub cx text ss (-se) else gSub cx text ss (gLen cx text)]

/-- the cut that removes the placeholders again -/
theorem cut_sim (H : Hom cx₁ cx₂ φ Q) {a : List α} {b : List β} (h : TR φ Q a b) (ss se : Int) :
    TR φ Q (if se > 0 then gSub cx₁ a ss (-se) else gSub cx₁ a ss (gLen cx₁ a))
      (if se > 0 then gSub cx₂ b ss (-se) else gSub cx₂ b ss (gLen cx₂ b)) := by
  rw [h.gLen H]
  exact ite_rel _ (h.gSub H _ _) (h.gSub H _ _)

theorem wrapParaCb_sim (H : Hom cx₁ cx₂ φ Q) (hS : ∀ t ∈ S, Q t)
    (hA : TR φ Q [cx₁.phA] [cx₂.phA])
    (hsuffix : ∀ b, (∀ t ∈ b, Q t) → (φ S).isSuffixOf (φ b) = S.isSuffixOf b)
    (hwrap : ∀ b, (∀ t ∈ b, Q t) → ∀ w,
      RRel (LR φ Q) (wrapLines cx₁ (φ b) w (φ S)) (wrapLines cx₂ b w S))
    (width : Int) (i : Nat) {para pre suf : List β} (hpara : ∀ t ∈ para, Q t)
    (hpre : ∀ t ∈ pre, Q t) (hsuf : ∀ t ∈ suf, Q t) :
    wrapParaCb cx₁ width (φ S) i (φ para) (φ pre) (φ suf) =
      (wrapParaCb cx₂ width S i para pre suf).map (List.map φ) := by
  refine RRel.eq_map ?_
  have hs := hA.repeat H (gLen cx₂ pre)
  have he := hA.repeat H (gLen cx₂ suf)
  have hX := (hs.append H ⟨rfl, hpara⟩).append H he
  unfold wrapParaCb
  dsimp only
  rw [H.len pre hpre, H.len suf hsuf, hX.1, hs.gLen H, he.gLen H, hsuffix para hpara]
  refine RRel.bind (hwrap _ hX.2 width) fun ls₁ ls₂ hl => RRel.pure ?_
  have hc := cut_sim H (BR.join H hS (a := ⟨ls₁, φ S, false⟩) (b := ⟨ls₂, S, false⟩)
    ⟨hl.1, rfl, rfl, rfl, hl.2⟩) (gLen cx₂ (gRepeat [cx₂.phA] (gLen cx₂ pre)))
      (gLen cx₂ (gRepeat [cx₂.phA] (gLen cx₂ suf)))
  rw [hc.1, List.map_singleton, ← H.append, ← apply_ite φ]

theorem justifyParaCb_sim (H : Hom cx₁ cx₂ φ Q) (hS : SepHom φ Q S)
    (hA : TR φ Q [cx₁.phA] [cx₂.phA])
    (hjust : ∀ b, (∀ t ∈ b, Q t) → ∀ w,
      RRel (TR φ Q) (justifyLine cx₁ (φ b) w) (justifyLine cx₂ b w))
    (width : Int) (jl : Bool) (i : Nat) {para pre suf : List β} (hpara : ∀ t ∈ para, Q t)
    (hpre : ∀ t ∈ pre, Q t) (hsuf : ∀ t ∈ suf, Q t) :
    justifyParaCb cx₁ width (φ S) jl i (φ para) (φ pre) (φ suf) =
      (justifyParaCb cx₂ width S jl i para pre suf).map (List.map φ) := by
  refine RRel.eq_map ?_
  have hs := hA.repeat H (gLen cx₂ pre)
  have he := hA.repeat H (gLen cx₂ suf)
  have hX := (hs.append H ⟨rfl, hpara⟩).append H he
  unfold justifyParaCb
  dsimp only
  rw [H.len pre hpre, H.len suf hsuf, hX.1, hs.gLen H, he.gLen H]
  have hbr := blockNew_sim H hS hX.2
  generalize Block.new (φ _) (φ S) = blA at hbr ⊢
  generalize Block.new _ S = blB at hbr ⊢
  rw [hbr.lines_length]
  refine RRel.bind (hbr.mapLinesM H _ _ fun idx l hl =>
    ite_rel _ (RRel.pure ⟨rfl, hl⟩) (hjust l hl width)) fun bA bB hb => RRel.pure ?_
  rw [(cut_sim H (hb.1.join H hS.sepQ) _ _).1]
  rfl

/-! The paragraph loop (rosed.go, applyGParagraphsOpts) only concatenates, drops a line separator
at the start of a paragraph and compares: of `φ` it uses `nil`, `append` and the prefix test. -/

/-- `φ` applied to the three texts of a call `(index, paragraph, prefix, suffix)` -/
def mapCall (φ : List β → List α) (c : Nat × List β × List β × List β) :
    Nat × List α × List α × List α :=
  (c.1, φ c.2.1, φ c.2.2.1, φ c.2.2.2)

theorem paraCalls_sim (hnil : φ [] = []) (happ : ∀ a b, φ (a ++ b) = φ a ++ φ b) {L suf pre : List β}
    (hL : ∀ t ∈ L, Q t)
    (hprefix : ∀ b, (∀ t ∈ b, Q t) → (φ L).isPrefixOf (φ b) = L.isPrefixOf b)
    (hsuf : ∀ t ∈ suf, Q t) (hpre : ∀ t ∈ pre, Q t) (ambig : Bool) :
    ∀ (rest : List (List β)) (idx : Nat) (cur : List β), (∀ t ∈ cur, Q t) →
      (∀ r ∈ rest, ∀ t ∈ r, Q t) →
      paraCalls (φ L) (φ suf) (φ pre) ambig idx (φ cur) (rest.map φ) =
          (paraCalls L suf pre ambig idx cur rest).map (mapCall φ) ∧
        ∀ c ∈ paraCalls L suf pre ambig idx cur rest,
          (∀ t ∈ c.2.1, Q t) ∧ (∀ t ∈ c.2.2.1, Q t) ∧ (∀ t ∈ c.2.2.2, Q t)
  | [], idx, cur, hc, _ => by
    simp only [paraCalls, List.map_nil, List.map_cons, mapCall, apply_ite φ, hnil,
      List.mem_singleton, forall_eq]
    exact ⟨trivial, hc, ite_nil_forall hpre _, fun _ h => nomatch h⟩
  | nxt :: rest, idx, cur, hc, hr => by
    have hn : ∀ t ∈ nxt, Q t := hr nxt List.mem_cons_self
    have hnext : (if (ambig && L.isPrefixOf nxt) = true then (φ nxt).drop (φ L).length else φ nxt) =
          φ (if (ambig && L.isPrefixOf nxt) = true then nxt.drop L.length else nxt) ∧
        ∀ t ∈ (if (ambig && L.isPrefixOf nxt) = true then nxt.drop L.length else nxt), Q t := by
      split
      · rename_i hs
        obtain ⟨r, rfl⟩ := List.isPrefixOf_iff_prefix.1 (Bool.and_eq_true_iff.1 hs).2
        rw [happ, List.drop_left, List.drop_left]
        exact ⟨rfl, fun t h => hn t (List.mem_append_right _ h)⟩
      · exact ⟨rfl, hn⟩
    obtain ⟨ih1, ih2⟩ := paraCalls_sim hnil happ hL hprefix hsuf hpre ambig rest (idx + 1) _
      hnext.2 fun r h => hr r (List.mem_cons_of_mem _ h)
    rw [apply_ite φ] at ih1
    simp only [List.map_cons, paraCalls, hprefix nxt hn, hnext.1, mapCall, apply_ite φ, happ,
      hnil, List.forall_mem_cons]
    refine ⟨by rw [ih1], ⟨?_, ite_nil_forall hpre _, hsuf⟩, ih2⟩
    split
    · exact fun t h => (List.mem_append.1 h).elim (hc t) (hL t)
    · exact hc

/-- the calls of `applyParasM` for options whose separators correspond along `φ` -/
theorem paraCallsOf_sim (hnil : φ [] = []) (happ : ∀ a b, φ (a ++ b) = φ a ++ φ b)
    {o₁ : Options α} {o₂ : Options β} (hL : SepHom φ Q o₂.lineSep) (hP : SepHom φ Q o₂.paraSep)
    (h1 : o₁.lineSep = φ o₂.lineSep) (h2 : o₁.paraSep = φ o₂.paraSep)
    (hamb : o₁.ambig = o₂.ambig)
    (hprefix : ∀ b, (∀ t ∈ b, Q t) →
      (φ o₂.lineSep).isPrefixOf (φ b) = o₂.lineSep.isPrefixOf b)
    {toks : List β} (ht : ∀ t ∈ toks, Q t) :
    paraCallsOf (φ toks) o₁ = (paraCallsOf toks o₂).map (mapCall φ) ∧
      ∀ c ∈ paraCallsOf toks o₂,
        (∀ t ∈ c.2.1, Q t) ∧ (∀ t ∈ c.2.2.1, Q t) ∧ (∀ t ∈ c.2.2.2, Q t) := by
  have hparts : ∀ l ∈ splitOn o₂.paraSep o₂.lineSep, ∀ t ∈ l, Q t :=
    fun l hl t h => hP.sepQ t (BridgeOps.splitOn_mem _ _ l hl t h)
  have hsuf : o₁.prevSuffix = φ o₂.prevSuffix ∧ ∀ t ∈ o₂.prevSuffix, Q t := by
    unfold Options.prevSuffix
    rw [h1, h2, hL.split _ hP.sepQ]
    cases h : splitOn o₂.paraSep o₂.lineSep with
    | nil => exact TR.nil hnil
    | cons x xs => exact ⟨rfl, hparts x (h ▸ List.mem_cons_self)⟩
  have hpre : o₁.nextPrefix = φ o₂.nextPrefix ∧ ∀ t ∈ o₂.nextPrefix, Q t := by
    unfold Options.nextPrefix
    rw [h1, h2, hL.split _ hP.sepQ, List.length_map]
    split
    · rw [List.getLastD_eq_getLast?, List.getLastD_eq_getLast?, List.getLast?_map]
      cases h : (splitOn o₂.paraSep o₂.lineSep).getLast? with
      | none => exact TR.nil hnil
      | some x => exact ⟨rfl, hparts x (List.mem_of_getLast? h)⟩
    · exact TR.nil hnil
  unfold paraCallsOf
  rw [h2, hP.split toks ht, hamb, hsuf.1, hpre.1, h1]
  cases hsp : splitOn toks o₂.paraSep with
  | nil => exact ⟨rfl, fun _ h => nomatch h⟩
  | cons p ps =>
    have hps : ∀ r ∈ p :: ps, ∀ t ∈ r, Q t :=
      fun r hr t h => ht t (BridgeOps.splitOn_mem toks _ r (hsp ▸ hr) t h)
    exact paraCalls_sim hnil happ hL.sepQ hprefix hsuf.2 hpre.2 _ ps 0 p
      (hps p List.mem_cons_self) fun r h => hps r (List.mem_cons_of_mem _ h)

end sim
end LayoutSim
end RosedVerif
