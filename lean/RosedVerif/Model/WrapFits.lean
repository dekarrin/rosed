/-
Wrap's width bound for ALL texts (`Ctx.WrapFits`), from sub-additivity of the cluster count, and with it the
totality of InsertTwoColumnsOpts.

`Ctx.WrapFits` is not a consequence of `Ctx.Sane` alone (`cxBad` of Totality.lean, `cxBad_not_wrapFits`).  It
does follow from two extra facts about the segmentation:
  * `Ctx.SubAdd`   — the cluster count of a concatenation is at most the sum of the counts;
  * `Ctx.SliceLen` — `Sub(st, en)` has at most `en' − st'` clusters (normalised indexes).
Both hold for instance A (code points + the real segmentation rule chain), and when every atom is
its own cluster.
-/
import RosedVerif.Model.Totality
import RosedVerif.Model.WrapRefine
import RosedVerif.Model.InstAFacts
import RosedVerif.Gem.SubAdditive
namespace RosedVerif
set_option linter.unusedSectionVars false

section generic
variable {α : Type} [DecidableEq α] {cx : Ctx α}

/-- wrapped lines are at most `width` clusters long.  NOT a consequence of `Ctx.Sane` (`cxBad_not_wrapFits`
below): an abstract segmentation may cluster a concatenation differently from its parts. -/
def Ctx.WrapFits (cx : Ctx α) : Prop :=
  ∀ (text : List α) (w : Int) (sep : List α) (r : List (List α)), 2 ≤ w →
    wrapLines cx text w sep = .ok r → ∀ l ∈ r, (gLen cx l : Int) ≤ w

/-- the cluster count is sub-additive under concatenation -/
def Ctx.SubAdd (cx : Ctx α) : Prop :=
  ∀ a b : List α, gLen cx (a ++ b) ≤ gLen cx a + gLen cx b

/-- a substring of clusters `[st, en)` has at most `en' − st'` clusters, where `(st', en')` are
the indexes normalised by `util.RangeToIndexes` -/
def Ctx.SliceLen (cx : Ctx α) : Prop :=
  ∀ (s : List α) (st en : Int),
    (gLen cx (gSub cx s st en) : Int) ≤
      (rangeToIndexes (gLen cx s) st en).2 - (rangeToIndexes (gLen cx s) st en).1

/-- a single atom is at most one cluster -/
theorem gLen_single (hs : cx.Sane) (a : α) : gLen cx [a] ≤ 1 := gLen_le hs [a]

/-- `line ++ [c] ++ word` has at most `|line| + 1 + |word|` clusters -/
theorem gLen_join_int (hs : cx.Sane) (hsub : cx.SubAdd) (a b : List α) (c : α) :
    (gLen cx (a ++ [c] ++ b) : Int) ≤ (gLen cx a : Int) + 1 + gLen cx b := by
  have h1 := hsub (a ++ [c]) b
  have h2 := hsub a [c]
  have h3 := gLen_single hs c
  omega

/-- the hyphenated head `Sub(0, width-1) ++ "-"` of an over-long word has at most `width`
clusters -/
theorem gLen_hyph_int (hs : cx.Sane) (hsub : cx.SubAdd) (hsl : cx.SliceLen) (line word : List α)
    (width : Int) (hw : 2 ≤ width) (hz : gLen cx line = 0) (hgt : (gLen cx word : Int) > width) :
    (gLen cx (line ++ gSub cx word 0 (width - 1) ++ [cx.hy]) : Int) ≤ width := by
  have h1 := hsub (line ++ gSub cx word 0 (width - 1)) [cx.hy]
  have h2 := hsub line (gSub cx word 0 (width - 1))
  have h3 := gLen_single hs cx.hy
  have h4 := hsl word 0 (width - 1)
  rw [rangeToIndexes_id _ 0 (width - 1) (Int.le_refl _) (by omega) (by omega)] at h4
  simp only at h4
  omega

theorem fits_snoc {β : Type} {P : β → Prop} {l : List β} {x : β} (hl : ∀ y ∈ l, P y) (hx : P x) :
    ∀ y ∈ l ++ [x], P y :=
  fun y hy => (List.mem_append.1 hy).elim (hl y) (fun h => List.mem_singleton.1 h ▸ hx)

theorem appendWord_fits_subAdd (hs : cx.Sane) (hsub : cx.SubAdd) (hsl : cx.SliceLen) (width : Int)
    (hw : 2 ≤ width) :
    ∀ (fuel : Nat) (lines : List (List α)) (curWord curLine : List α) (r : List (List α) × List α),
      (∀ l ∈ lines, (gLen cx l : Int) ≤ width) → (gLen cx curLine : Int) ≤ width →
      appendWord cx width fuel lines curWord curLine = .ok r →
      (∀ l ∈ r.1, (gLen cx l : Int) ≤ width) ∧ (gLen cx r.2 : Int) ≤ width := by
  have hnil : (gLen cx ([] : List α) : Int) ≤ width := by
    rw [gLen_nil hs]; omega
  intro fuel
  induction fuel with
  | zero =>
    intro _ _ _ _ _ _ h
    cases h
  | succ fuel ih =>
    intro lines curWord curLine r hl hc h
    have happ := hsub curLine curWord
    have hj := gLen_join_int hs hsub curLine curWord cx.sp
    rw [appendWord_succ hw] at h
    by_cases hword : gLen cx curWord = 0
    · rw [if_pos hword] at h
      cases h
      exact ⟨hl, hc⟩
    · rw [if_neg hword] at h
      by_cases hz : gLen cx curLine = 0
      · rw [if_pos hz] at h
        split at h
        · exact ih _ _ _ _ (fits_snoc hl (by omega)) hnil h
        · split at h
          · exact ih _ _ _ _
              (fits_snoc hl (gLen_hyph_int hs hsub hsl curLine curWord width hw hz ‹_›)) hnil h
          · exact ih _ _ _ _ hl (by omega) h
      · rw [if_neg hz] at h
        split at h
        · exact ih _ _ _ _ (fits_snoc hl (by omega)) hnil h
        · split at h
          · exact ih _ _ _ _ (fits_snoc hl hc) hnil h
          · exact ih _ _ _ _ hl (by omega) h

theorem wrapLoop_fits_subAdd (hs : cx.Sane) (hsub : cx.SubAdd) (hsl : cx.SliceLen) (width : Int)
    (hw : 2 ≤ width) :
    ∀ (cls lines : List (List α)) (curWord curLine : List α)
      (r : List (List α) × List α × List α),
      (∀ l ∈ lines, (gLen cx l : Int) ≤ width) → (gLen cx curLine : Int) ≤ width →
      wrapLoop cx width cls lines curWord curLine = .ok r →
      (∀ l ∈ r.1, (gLen cx l : Int) ≤ width) ∧ (gLen cx r.2.2 : Int) ≤ width
  | [], lines, curWord, curLine, r, hl, hc, h => by
    cases h
    exact ⟨hl, hc⟩
  | [] :: rest, _, _, _, _, _, _, h => by
    exact absurd h (by simp [wrapLoop, throw, throwThe, MonadExceptOf.throw])
  | (c :: t) :: rest, lines, curWord, curLine, r, hl, hc, h => by
    rw [wrapLoop] at h
    simp only at h
    split at h
    · obtain ⟨⟨l, cl⟩, ha, h'⟩ := bind_ok.1 h
      have := appendWord_fits_subAdd hs hsub hsl width hw _ _ _ _ _ hl hc ha
      exact wrapLoop_fits_subAdd hs hsub hsl width hw rest _ _ _ r this.1 this.2 h'
    · exact wrapLoop_fits_subAdd hs hsub hsl width hw rest _ _ _ r hl hc h

/-- in a sane context whose cluster count is sub-additive and whose `Sub` respects the
cluster-index distance, wrapped lines never exceed the width -/
theorem wrapFits_of_subAdd (hs : cx.Sane) (hsub : cx.SubAdd) (hsl : cx.SliceLen) :
    cx.WrapFits := by
  intro text w sep r hw h
  have hnil : (gLen cx ([] : List α) : Int) ≤ w := by
    rw [gLen_nil hs]; omega
  unfold wrapLines at h
  simp only at h
  rw [if_neg (by omega)] at h
  obtain ⟨t, _, h⟩ := bind_ok.1 h
  split at h
  · cases h
    intro l hl
    rw [List.mem_singleton] at hl
    subst hl
    exact hnil
  · obtain ⟨⟨lines, cw, cl⟩, h1, h⟩ := bind_ok.1 h
    have f1 := wrapLoop_fits_subAdd hs hsub hsl w hw _ _ _ _ _ (fun l hl => by simp at hl) hnil h1
    simp only at h f1
    have fin : ∀ (p : List (List α) × List α), (∀ l ∈ p.1, (gLen cx l : Int) ≤ w) →
        (gLen cx p.2 : Int) ≤ w →
        ∀ l ∈ (if (!p.2.isEmpty) = true then p.1 ++ [p.2] else p.1), (gLen cx l : Int) ≤ w := by
      intro p h1 h2
      split
      · exact fits_snoc h1 h2
      · exact h1
    split at h
    · obtain ⟨p, h2, h⟩ := bind_ok.1 h
      have f2 := appendWord_fits_subAdd hs hsub hsl w hw _ _ _ _ _ f1.1 f1.2 h2
      cases h
      exact fin p f2.1 f2.2
    · cases h
      exact fin (lines, cl) f1.1 f1.2

theorem twoColBody_total (hs : cx.Sane) (hfit : cx.WrapFits) (ed : Editor α) (pos : Int)
    (leftText rightText : List α) (msb leftW rightW : Int) (o : Options α)
    (hmsb : 0 ≤ msb) (hL : 2 ≤ leftW) :
    ∃ r, twoColBody cx ed pos leftText rightText msb leftW rightW o = .ok r := by
  unfold twoColBody
  simp only
  refine bind_total (wrapLines_total hs _ _ _) (fun lb hlb => ?_)
  refine bind_total (wrapLines_total hs _ _ _) (fun rb _ => ?_)
  have hmax := (foldl_maxLen_le_iff cx leftW lb 0).2 ⟨by omega, hfit _ _ _ _ hL hlb⟩
  refine bind_total (combineColumns_total cx lb rb _ (by omega)) (fun c _ => ?_)
  exact insert_total hs _ _ _

/-- `InsertTwoColumnsOpts` is total for every value of `minSpaceBetween` (a negative one is taken
as 0), provided wrapped lines fit their width (`Ctx.WrapFits`) -/
theorem insertTwoColumnsOpts_total (hs : cx.Sane) (hfit : cx.WrapFits) (ed : Editor α)
    (pos : Int) (leftText rightText : List α) (msb width : Int) (pct : Pct) (o : Options α) :
    ∃ r, ed.insertTwoColumnsOpts cx pos leftText rightText msb width pct o = .ok r := by
  by_cases hne : leftText.isEmpty ∧ rightText.isEmpty
  · unfold Editor.insertTwoColumnsOpts
    rw [if_pos hne]
    exact ⟨_, rfl⟩
  · obtain ⟨L, Rw, hL, _, h⟩ := insertTwoColumnsOpts_eq cx ed pos leftText rightText msb width pct o hne
    rw [h]
    exact twoColBody_total hs hfit _ _ _ _ _ _ _ _ (by omega) hL

end generic

/-! ## `Ctx.Sane` alone gives neither `Ctx.WrapFits` nor totality of InsertTwoColumnsOpts (counterexample) -/

/-- two one-cluster words joined by a space become a 7-cluster line of "width 3" -/
theorem cxBad_wrap : wrapLines cxBad [1, 1, 1, 0, 1, 1, 1] 3 [10] = .ok [[1, 1, 1, 0, 1, 1, 1]] := by
  rfl

theorem cxBad_not_wrapFits : ¬ cxBad.WrapFits := by
  intro h
  have := h _ 3 _ _ (by omega) cxBad_wrap [1, 1, 1, 0, 1, 1, 1] (by simp)
  revert this
  decide

/-- `insertTwoColumnsOpts_total` is false for `Ctx.Sane` alone: `minSpaceBetween = 0`, width 8, 3/8 for the left
column panics in `strings.Repeat` (negative count) -/
theorem cxBad_twoColumns :
    (Editor.root [] {}).insertTwoColumnsOpts cxBad 0 [1, 1, 1, 0, 1, 1, 1] [2] 0 8 ⟨false, 3, 3⟩ {}
      = .error .repeatNeg := by
  rfl

section triv
open WrapRefine
variable {α : Type} [DecidableEq α] (cx : Ctx α)

theorem subAdd_of_triv (htriv : ∀ s, cx.ends s = List.range' 1 s.length) : cx.SubAdd :=
  fun a b => by simp only [gLen_triv cx htriv, List.length_append, Nat.le_refl]

theorem sliceLen_of_triv (htriv : ∀ s, cx.ends s = List.range' 1 s.length) : cx.SliceLen := by
  intro s st en
  rw [gLen_triv cx htriv s]
  have hb := rangeToIndexes_bounds s.length st en (by omega)
  generalize hp : rangeToIndexes s.length st en = p at hb
  rw [gLen_triv cx htriv, gSub_triv_of_rti cx htriv s st en p.1 p.2 hp hb.1 hb.2.1 hb.2.2]
  simp only [List.length_take, List.length_drop]
  omega

/-- at cluster level (every atom its own cluster) two-column layout is total outright -/
theorem insertTwoColumnsOpts_total_triv (htriv : ∀ s, cx.ends s = List.range' 1 s.length)
    (hb : ∀ a, 0 < cx.blen a) (ed : Editor α)
    (pos : Int) (leftText rightText : List α) (msb width : Int) (pct : Pct) (o : Options α) :
    ∃ r, ed.insertTwoColumnsOpts cx pos leftText rightText msb width pct o = .ok r :=
  have hs := sane_of_triv cx htriv hb
  insertTwoColumnsOpts_total hs
    (wrapFits_of_subAdd hs (subAdd_of_triv cx htriv) (sliceLen_of_triv cx htriv)) ed pos
    leftText rightText msb width pct o

end triv

theorem cxA_subAdd : cxA.SubAdd := fun a b => splitRunes_length_append_le a b

theorem cxA_sliceLen_aux (s : List Int) (x y : Int)
    (hb : 0 ≤ x ∧ x ≤ y ∧ y ≤ ((splitRunes s).length : Int)) :
    ((splitRunes (if (x == y) = true then []
      else sliceRunes s (if x > 0 then (splitRunes s).getD (x.toNat - 1) 0 else 0)
        ((splitRunes s).getD (y.toNat - 1) 0))).length : Int) ≤ y - x := by
  split
  · rw [splitRunes_nil]
    simp only [List.length_nil, Int.natCast_zero]
    omega
  · rename_i hne
    have hne : x ≠ y := by simpa using hne
    rw [splitRunes_slice s x y hb.1 (by omega) hb.2.2]
    simp only [List.length_map, List.length_take, List.length_drop]
    omega

theorem cxA_sliceLen : cxA.SliceLen := by
  intro s st en
  unfold gSub gLen
  simp only [cxA_ends]
  exact cxA_sliceLen_aux s _ _ (rangeToIndexes_bounds (splitRunes s).length st en (by omega))

/-- wrapped lines never exceed the width, for every code-point text -/
theorem cxA_wrapFits : cxA.WrapFits := wrapFits_of_subAdd cxA_Sane cxA_subAdd cxA_sliceLen

theorem wrapLines_clamp {α : Type} [DecidableEq α] (cx : Ctx α) (text : List α) (w : Int)
    (sep : List α) : wrapLines cx text w sep = wrapLines cx text (max w 2) sep := by
  by_cases h : w < 2
  · rw [wrapLines_lt_two cx text w sep h, show max w 2 = 2 by omega]
  · rw [show max w 2 = w by omega]

/-- C06 clause 1 for ALL code-point texts: every wrapped line has at most `max w 2` clusters -/
theorem wrapLines_width_all (text : List Int) (w : Int) (sep : List Int) (r : List (List Int))
    (h : wrapLines cxA text w sep = .ok r) : ∀ l ∈ r, (gLen cxA l : Int) ≤ max w 2 := by
  rw [wrapLines_clamp] at h
  exact cxA_wrapFits text (max w 2) sep r (by omega) h

/-- `InsertTwoColumnsOpts` is total on instance A for EVERY value of the minimum distance (the code takes a
negative one as 0; finding D17) -/
theorem insertTwoColumnsOpts_total_A_any (ed : Editor Int) (pos : Int) (l r : List Int)
    (gap width : Int) (pct : Pct) (o : Options Int) :
    ∃ x, ed.insertTwoColumnsOpts cxA pos l r gap width pct o = .ok x :=
  insertTwoColumnsOpts_total cxA_Sane cxA_wrapFits ed pos l r gap width pct o

theorem insertTwoColumnsOpts_total_A (ed : Editor Int) (pos : Int) (l r : List Int)
    (gap width : Int) (pct : Pct) (o : Options Int) (hg : 0 ≤ gap) :
    ∃ x, ed.insertTwoColumnsOpts cxA pos l r gap width pct o = .ok x :=
  insertTwoColumnsOpts_total_A_any ed pos l r gap width pct o

end RosedVerif
