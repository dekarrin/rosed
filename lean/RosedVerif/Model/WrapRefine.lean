/-
Refinement: the model of manip.Wrap (transliterated Go loops with fuel) computes the greedy-wrap
specification `Spec.wrapLines` when every atom is its own cluster (trivial segmentation).
-/
import RosedVerif.Model.AppendWord
import RosedVerif.Model.OptionsLemmas
import RosedVerif.Spec.WrapLemmas
import RosedVerif.Spec.AlignLemmas
namespace RosedVerif.WrapRefine

section
variable {α : Type} (cx : Ctx α)

/-- the `Spec.Toks` view of a context -/
def toks (cx : Ctx α) : Spec.Toks α := ⟨cx.isSpace, cx.sp, cx.hy⟩

@[simp] theorem toks_ws : (toks cx).ws = cx.isSpace := rfl
@[simp] theorem toks_sp : (toks cx).sp = cx.sp := rfl
@[simp] theorem toks_hy : (toks cx).hy = cx.hy := rfl

/-- what one pass of the CollapseSpace cluster loop does to an atom -/
def spaceMap (c : α) : α := if cx.isSpace c then cx.sp else c

theorem spaceMap_eq_sp (hsp : cx.isSpace cx.sp = true) (c : α) :
    spaceMap cx c = cx.sp ↔ cx.isSpace c = true := by
  unfold spaceMap
  split
  · simp [*]
  · rename_i h
    constructor
    · intro e; rw [e] at h; exact absurd hsp h
    · intro e; exact absurd e h

theorem getD_range'_one (n k : Nat) (h : k < n) : (List.range' 1 n).getD k 0 = k + 1 := by
  rw [List.getD_eq_getElem?_getD, List.getElem?_range' h]; simp; omega

theorem clusterSpan_triv (n k : Nat) (h : k < n) :
    clusterSpan (List.range' 1 n) k = (k, k + 1) := by
  unfold clusterSpan
  rw [getD_range'_one n k h]
  by_cases hk : k = 0
  · subst hk; simp
  · rw [if_pos (by omega), getD_range'_one n (k - 1) (by omega)]
    congr 1; omega

theorem gCharAt_triv_append (htriv : ∀ s, cx.ends s = List.range' 1 s.length)
    (a : List α) (c : α) (b : List α) :
    gCharAt cx (a ++ c :: b) (a.length : Int) = .ok [c] := by
  unfold gCharAt
  simp only [htriv, List.length_range', List.length_append, List.length_cons]
  rw [if_neg (by omega)]
  simp only [Int.toNat_natCast]
  rw [clusterSpan_triv _ _ (by omega)]
  simp [sliceRunes, pure, Except.pure]

theorem gSetCharAt_triv_append (htriv : ∀ s, cx.ends s = List.range' 1 s.length)
    (a : List α) (c : α) (b : List α) (r : List α) (hr : r ≠ []) :
    gSetCharAt cx (a ++ c :: b) (a.length : Int) r = .ok (a ++ r ++ b) := by
  unfold gSetCharAt
  have : r.isEmpty = false := by cases r with
    | nil => exact absurd rfl hr
    | cons _ _ => rfl
  simp only [this, htriv, List.length_range', List.length_append, List.length_cons]
  rw [if_neg (by simp), if_neg (by omega)]
  simp only [Int.toNat_natCast]
  rw [clusterSpan_triv _ _ (by omega)]
  simp [pure, Except.pure]

/-- `gSub` for arbitrary (possibly negative / out of range) arguments, in terms of the
normalised range -/
theorem _root_.RosedVerif.gSub_triv_of_rti (htriv : ∀ s, cx.ends s = List.range' 1 s.length) (s : List α)
    (a b st en : Int) (h : rangeToIndexes s.length a b = (st, en))
    (h0 : 0 ≤ st) (h1 : st ≤ en) (h2 : en ≤ s.length) :
    gSub cx s a b = (s.drop st.toNat).take (en.toNat - st.toNat) := by
  have e : gSub cx s a b = gSub cx s st en := by
    unfold gSub
    simp only [htriv, List.length_range', h, rangeToIndexes_id _ _ _ h0 h1 h2]
  rw [e, gSub_triv_int cx htriv s st en h0 h1 h2]

theorem clustersFrom_triv (s : List α) (n prev : Nat) (h : prev + n = s.length) :
    clustersFrom s prev (List.range' (prev + 1) n) = (s.drop prev).map fun c => [c] := by
  induction n generalizing prev with
  | zero =>
    have : s.drop prev = [] := List.drop_eq_nil_of_le (by omega)
    simp [clustersFrom, this]
  | succ n ih =>
    have hlt : prev < s.length := by omega
    rw [List.range'_succ, clustersFrom, ih (prev + 1) (by omega)]
    rw [List.drop_eq_getElem_cons hlt]
    simp only [List.map_cons, sliceRunes, List.cons.injEq, and_true]
    rw [List.drop_eq_getElem_cons hlt, show prev + 1 - prev = 1 by omega]
    rfl

theorem clusters_triv (htriv : ∀ s, cx.ends s = List.range' 1 s.length) (s : List α) :
    clusters cx s = s.map fun c => [c] := by
  unfold clusters
  rw [htriv]
  simpa using clustersFrom_triv s s.length 0 (by simp)

end

section
variable {α : Type} [DecidableEq α] (cx : Ctx α)

omit [DecidableEq α] in
theorem setSpacesLoop_triv (htriv : ∀ s, cx.ends s = List.range' 1 s.length) :
    ∀ (fuel : Nat) (a b : List α), b.length < fuel →
      setSpacesLoop cx fuel (a ++ b) a.length = .ok (a ++ b.map (spaceMap cx)) := by
  intro fuel
  induction fuel with
  | zero => intro a b h; omega
  | succ fuel ih =>
    intro a b h
    cases b with
    | nil =>
      unfold setSpacesLoop
      simp only [gLen_triv cx htriv, List.append_nil, Nat.lt_irrefl, ↓reduceIte, List.map_nil]
      rfl
    | cons c b =>
      unfold setSpacesLoop
      simp only [gLen_triv cx htriv, List.length_append, List.length_cons]
      rw [if_pos (by omega), gCharAt_triv_append cx htriv]
      simp only [bind, Except.bind]
      have key := ih (a ++ [spaceMap cx c]) b (by simpa using h)
      simp only [List.length_append, List.length_cons, List.length_nil, List.append_assoc,
        List.cons_append, List.nil_append] at key
      cases hc : cx.isSpace c with
      | true =>
        rw [if_pos rfl, gSetCharAt_triv_append cx htriv _ _ _ _ (by simp)]
        simp only [spaceMap, hc, ↓reduceIte] at key
        simp only [List.append_assoc, List.cons_append, List.nil_append, key, List.map_cons,
          spaceMap, hc, ↓reduceIte]
      | false =>
        rw [if_neg (by simp)]
        simp only [spaceMap, hc, Bool.false_eq_true, ↓reduceIte] at key
        simp only [pure, Except.pure, key, List.map_cons, spaceMap, hc, Bool.false_eq_true,
          ↓reduceIte]

theorem collapseRuns_map (hsp : cx.isSpace cx.sp = true) (text : List α) :
    collapseRuns cx (text.map (spaceMap cx)) = Spec.collapse (toks cx) text := by
  fun_induction Spec.collapse (toks cx) text with
  | case1 => rfl
  | case2 c => rfl
  | case3 c d t h ih =>
    rw [← ih, List.map_cons, List.map_cons, collapseRuns, if_pos]
    simpa only [spaceMap_eq_sp cx hsp, Bool.and_eq_true, toks_ws] using h
  | case4 c d t h ih =>
    rw [← ih, List.map_cons, List.map_cons, collapseRuns, if_neg]
    · rfl
    · simpa only [spaceMap_eq_sp cx hsp, Bool.and_eq_true, toks_ws] using h

end

/-! ### facts about the specification (`Spec.fill`, `Spec.pieces`) -/
section
variable {α : Type} (tk : Spec.Toks α)
open Spec

theorem fill_nil_cons (w : Nat) (u : List α) (us : List (List α)) :
    fill tk w (u :: us) [] = fill tk w us u := by
  simp [fill]

theorem fill_flush {w : Nat} (p : List α) (us : List (List α)) (cur : List α) (hne : cur ≠ [])
    (h : w < cur.length + 1 + p.length) :
    fill tk w (p :: us) cur = cur :: fill tk w (p :: us) [] := by
  have he : cur.isEmpty = false := by simpa [List.isEmpty_iff] using hne
  rw [fill_nil_cons, fill, if_neg (by simp [he]), if_neg (by omega)]

theorem fill_full {w : Nat} (us : List (List α)) (cur : List α) (hne : cur ≠ [])
    (h : w ≤ cur.length) : fill tk w us cur = cur :: fill tk w us [] := by
  have he : cur.isEmpty = false := by simpa [List.isEmpty_iff] using hne
  cases us with
  | nil => simp [fill, he]
  | cons u us => exact fill_flush tk u us cur hne (by omega)

theorem fill_fit {w : Nat} (p : List α) (us : List (List α)) (cur : List α) (hne : cur ≠ [])
    (h : cur.length + 1 + p.length ≤ w) :
    fill tk w (p :: us) cur = fill tk w us (cur ++ [tk.sp] ++ p) := by
  have he : cur.isEmpty = false := by simpa [List.isEmpty_iff] using hne
  rw [fill, if_neg (by simp [he]), if_pos h]

/-- the greedy filler, started on the line `cl`, closes the lines `L` over the units `us` and is
left with the line `cur`, whatever units follow -/
def Fills (w : Nat) (us : List (List α)) (cl : List α) (L : List (List α)) (cur : List α) : Prop :=
  ∀ rest, L ++ fill tk w rest cur = fill tk w (us ++ rest) cl

section
variable {tk} {w : Nat}

theorem Fills.nil (cl : List α) : Fills tk w [] cl [] cl := fun _ => rfl

theorem Fills.trans {us₁ us₂ L₁ L₂ : List (List α)} {cl c₁ c₂ : List α}
    (h₁ : Fills tk w us₁ cl L₁ c₁) (h₂ : Fills tk w us₂ c₁ L₂ c₂) :
    Fills tk w (us₁ ++ us₂) cl (L₁ ++ L₂) c₂ := fun rest => by
  rw [List.append_assoc, h₂ rest, h₁, List.append_assoc]

theorem Fills.start (u : List α) : Fills tk w [u] [] [] u :=
  fun rest => (fill_nil_cons tk w u rest).symm

theorem Fills.fit {cl : List α} (u : List α) (hne : cl ≠ []) (h : cl.length + 1 + u.length ≤ w) :
    Fills tk w [u] cl [] (cl ++ [tk.sp] ++ u) :=
  fun rest => (fill_fit tk u rest cl hne h).symm

theorem Fills.full {cl : List α} (hne : cl ≠ []) (h : w ≤ cl.length) : Fills tk w [] cl [cl] [] :=
  fun rest => (fill_full tk rest cl hne h).symm

/-- a line that the next unit does not fit on is closed before that unit is placed -/
theorem Fills.flush {cl u : List α} {us L : List (List α)} {c : List α} (hne : cl ≠ [])
    (h : w < cl.length + 1 + u.length) (hf : Fills tk w (u :: us) [] L c) :
    Fills tk w (u :: us) cl (cl :: L) c := fun rest => by
  rw [List.cons_append, hf rest]
  exact (fill_flush tk u (us ++ rest) cl hne h).symm

/-- with nothing following, the line left over is closed if it is non-empty -/
theorem Fills.done {us L : List (List α)} {cl cur : List α} (h : Fills tk w us cl L cur) :
    (if (!cur.isEmpty) = true then L ++ [cur] else L) = fill tk w us cl := by
  have := h []
  rw [List.append_nil] at this
  rw [← this, fill]
  cases cur <;> simp

end

theorem pieces_fuel {w : Nat} (hw : 2 ≤ w) (f g : Nat) (word : List α) (hf : word.length ≤ f)
    (hg : word.length ≤ g) : pieces tk w f word = pieces tk w g word := by
  fun_induction pieces tk w f word generalizing g with
  | case1 word => rw [pieces_single tk word _ (by omega)]
  | case2 f word h => rw [pieces_single tk word _ h]
  | case3 f word h ih =>
    cases g with
    | zero => omega
    | succ g =>
      rw [pieces, if_neg h,
        ih g (by simp only [List.length_drop]; omega) (by simp only [List.length_drop]; omega)]

theorem pieces_long {w : Nat} (hw : 2 ≤ w) (word : List α) (h : w < word.length) :
    pieces tk w word.length word =
      (word.take (w - 1) ++ [tk.hy]) ::
        pieces tk w (word.drop (w - 1)).length (word.drop (w - 1)) := by
  rw [pieces_fuel tk hw word.length (word.length + 1) word (by omega) (by omega), pieces,
    if_neg (by omega),
    pieces_fuel tk hw word.length _ (word.drop (w - 1)) (by simp only [List.length_drop]; omega)
      (Nat.le_refl _)]

theorem wordsAux_ws_cons (cur : List α) (c : α) (t : List α) (h : tk.ws c = true) :
    wordsAux tk cur (c :: t) = (if cur.isEmpty then [] else [cur.reverse]) ++ wordsAux tk [] t := by
  rw [wordsAux, if_pos h]
  split <;> rfl

theorem wordsAux_collapse (hsp : tk.ws tk.sp = true) (l cur : List α) :
    wordsAux tk cur (collapse tk l) = wordsAux tk cur l := by
  fun_induction collapse tk l generalizing cur with
  | case1 => rfl
  | case2 c =>
    by_cases hc : tk.ws c = true
    · rw [if_pos hc, wordsAux_ws_cons tk _ _ _ hsp, wordsAux_ws_cons tk _ _ _ hc]
    · rw [if_neg hc]
  | case3 c d t h ih =>
    rw [Bool.and_eq_true] at h
    rw [ih, wordsAux_ws_cons tk _ _ _ h.1, wordsAux_ws_cons tk _ _ _ h.2,
      wordsAux_ws_cons tk _ _ _ h.2]
    rfl
  | case4 c d t h ih =>
    by_cases hc : tk.ws c = true
    · rw [if_pos hc, wordsAux_ws_cons tk _ _ _ hsp, ih, wordsAux_ws_cons tk _ _ _ hc]
    · rw [if_neg hc, wordsAux, if_neg hc, ih, wordsAux.eq_2 tk cur c, if_neg hc]

theorem words_collapse (hsp : tk.ws tk.sp = true) (l : List α) :
    words tk (collapse tk l) = words tk l := wordsAux_collapse tk hsp l []

theorem collapse_mem_ws (l : List α) (c : α) : c ∈ collapse tk l → tk.ws c = true → c = tk.sp :=
  collapse_only_sp' tk l c

theorem collapse_eq_nil (l : List α) : collapse tk l = [] ↔ l = [] := by
  fun_induction collapse tk l <;> simp [*]

end

section
variable {α : Type} [DecidableEq α] (cx : Ctx α)
open Spec

omit [DecidableEq α] in
theorem appendWord_succ_triv (htriv : ∀ s, cx.ends s = List.range' 1 s.length)
    (w : Nat) (hw : 2 ≤ w) (fuel : Nat) (lines : List (List α)) (word line : List α) :
    appendWord cx (w : Int) (fuel + 1) lines word line =
      if word = [] then .ok (lines, line)
      else if line = [] then
        if word.length = w then appendWord cx w fuel (lines ++ [word]) [] []
        else if w < word.length then
          appendWord cx w fuel (lines ++ [word.take (w - 1) ++ [cx.hy]]) (word.drop (w - 1)) []
        else appendWord cx w fuel lines [] word
      else
        if line.length + 1 + word.length = w then
          appendWord cx w fuel (lines ++ [line ++ [cx.sp] ++ word]) [] []
        else if w < line.length + 1 + word.length then
          appendWord cx w fuel (lines ++ [line]) word []
        else appendWord cx w fuel lines [] (line ++ [cx.sp] ++ word) := by
  rw [appendWord_succ (by omega)]
  simp only [gLen_triv cx htriv, List.length_eq_zero_iff, Int.natCast_inj, Int.ofNat_lt]
  by_cases hl : line = []
  · subst hl
    simp only [if_true, List.nil_append]
    by_cases h2 : w < word.length
    · have e : ((w : Int) - 1).toNat = w - 1 := by omega
      rw [gSub_triv_int cx htriv _ 0 _ (Int.le_refl 0) (by omega) (by omega),
        gSub_triv_int cx htriv _ _ _ (by omega) (by omega) (Int.le_refl _), e, Int.toNat_zero,
        List.drop_zero, Nat.sub_zero, Int.toNat_natCast,
        List.take_of_length_le (l := word.drop (w - 1)) (by simp)]
    · simp only [if_neg h2]
  · simp only [if_neg hl]

omit [DecidableEq α] in
theorem appendWord_nil (htriv : ∀ s, cx.ends s = List.range' 1 s.length)
    (w : Nat) (hw : 2 ≤ w) (fuel : Nat) (lines : List (List α)) (line : List α) :
    appendWord cx (w : Int) (fuel + 1) lines [] line = .ok (lines, line) := by
  rw [appendWord_succ_triv cx htriv w hw, if_pos rfl]

omit [DecidableEq α] in
/-- `appendWord` runs the greedy filler over the pieces of the word.  The fuel covers one round
for closing a non-empty line, one per piece and a last one on the empty word. -/
theorem appendWord_fills (htriv : ∀ s, cx.ends s = List.range' 1 s.length)
    (w : Nat) (hw : 2 ≤ w) :
    ∀ (fuel : Nat) (lines : List (List α)) (word line : List α), word ≠ [] →
      word.length + 2 + (if line = [] then 0 else 1) ≤ fuel →
      ∃ (L : List (List α)) (cur' : List α),
        appendWord cx (w : Int) fuel lines word line = .ok (lines ++ L, cur') ∧
        cur'.length < w ∧
        Fills (toks cx) w (pieces (toks cx) w word.length word) line L cur' := by
  intro fuel
  induction fuel with
  | zero => intro lines word line _ h; omega
  | succ fuel ih =>
    intro lines word line hword hfuel
    have hwl : 0 < word.length := List.length_pos_iff.2 hword
    obtain ⟨fuel, rfl⟩ : ∃ f', fuel = f' + 1 := ⟨fuel - 1, by split at hfuel <;> omega⟩
    have hnil := appendWord_nil cx htriv w hw fuel
    have h0 : ([] : List α).length < w := Nat.lt_of_lt_of_le Nat.zero_lt_two hw
    rw [appendWord_succ_triv cx htriv w hw, if_neg hword]
    by_cases hline : line = []
    · subst hline
      rw [if_pos rfl] at hfuel ⊢
      by_cases h1 : word.length = w
      · rw [if_pos h1, hnil, pieces_single _ word _ (Nat.le_of_eq h1)]
        exact ⟨[word], [], rfl, h0, (Fills.start word).trans (.full hword (by omega))⟩
      · rw [if_neg h1]
        by_cases h2 : w < word.length
        · rw [if_pos h2, pieces_long _ hw word h2]
          have hd : (word.drop (w - 1)).length = word.length - (w - 1) := List.length_drop
          obtain ⟨L, cur', he, hc, hf⟩ := ih (lines ++ [word.take (w - 1) ++ [cx.hy]])
            (word.drop (w - 1)) [] (List.ne_nil_of_length_pos (by omega)) (by rw [if_pos rfl]; omega)
          refine ⟨(word.take (w - 1) ++ [cx.hy]) :: L, cur', by rw [he, List.append_assoc]; rfl,
            hc, ?_⟩
          exact ((Fills.start _).trans (.full (by simp) (by simp; omega))).trans hf
        · rw [if_neg h2, hnil, pieces_single _ word _ (Nat.le_of_not_lt h2)]
          exact ⟨[], word, by rw [List.append_nil], by omega, .start word⟩
    · rw [if_neg hline] at hfuel ⊢
      by_cases h1 : line.length + 1 + word.length = w
      · rw [if_pos h1, hnil, pieces_single _ word _ (by omega)]
        exact ⟨[line ++ [cx.sp] ++ word], [], rfl, h0,
          (Fills.fit word hline (by omega)).trans (.full (by simp) (by simp; omega))⟩
      · rw [if_neg h1]
        by_cases h2 : w < line.length + 1 + word.length
        · rw [if_pos h2]
          obtain ⟨L, cur', he, hc, hf⟩ := ih (lines ++ [line]) word [] hword
            (by rw [if_pos rfl]; omega)
          refine ⟨line :: L, cur', by rw [he, List.append_assoc]; rfl, hc, ?_⟩
          by_cases hs : word.length ≤ w
          · rw [pieces_single _ word _ hs] at hf ⊢
            exact hf.flush hline h2
          · rw [pieces_long _ hw word (Nat.lt_of_not_le hs)] at hf ⊢
            exact hf.flush hline (by simp; omega)
        · rw [if_neg h2, hnil, pieces_single _ word _ (by omega)]
          exact ⟨[], line ++ [cx.sp] ++ word, by rw [List.append_nil], by simp; omega,
            .fit word hline (by omega)⟩

/-- the units of a list of words -/
abbrev unitsOf (tk : Toks α) (w : Nat) (ws : List (List α)) : List (List α) :=
  ws.flatMap fun wd => pieces tk w wd.length wd

omit [DecidableEq α] in
/-- emitting the word collected so far, if there is one -/
theorem appendWord_flush (htriv : ∀ s, cx.ends s = List.range' 1 s.length) (w : Nat) (hw : 2 ≤ w)
    (lines : List (List α)) (cw cl : List α) :
    ∃ (L : List (List α)) (cur' : List α),
      appendWord cx (w : Int) (2 * cw.length + 2) lines cw cl = .ok (lines ++ L, cur') ∧
      Fills (toks cx) w (unitsOf (toks cx) w (wordsAux (toks cx) cw.reverse [])) cl L cur' := by
  by_cases hcw : cw = []
  · subst hcw
    exact ⟨[], cl, by rw [List.append_nil]; exact appendWord_nil cx htriv w hw 1 lines cl, .nil cl⟩
  · obtain ⟨L, cur', h1, _, h3⟩ := appendWord_fills cx htriv w hw (2 * cw.length + 2) lines cw cl
      hcw (by have := List.length_pos_iff.2 hcw; split <;> omega)
    refine ⟨L, cur', h1, ?_⟩
    rw [wordsAux, if_neg (by simpa using hcw), List.reverse_reverse, unitsOf, List.flatMap_cons,
      List.flatMap_nil, List.append_nil]
    exact h3

omit [DecidableEq α] in
theorem appendWord_if_nonempty (htriv : ∀ s, cx.ends s = List.range' 1 s.length) (w : Nat)
    (hw : 2 ≤ w) (lines : List (List α)) (cw cl : List α) :
    (if (!cw.isEmpty) = true then appendWord cx (w : Int) (2 * cw.length + 2) lines cw cl
      else pure (lines, cl)) = appendWord cx (w : Int) (2 * cw.length + 2) lines cw cl := by
  cases cw with
  | nil => exact (appendWord_nil cx htriv w hw 1 lines cl).symm
  | cons _ _ => rfl

/-- the loop over the atoms of a collapsed text, followed by emitting the last word, runs the
greedy filler over the units of the text; `cw` is the word being collected -/
theorem wrapLoop_spec (htriv : ∀ s, cx.ends s = List.range' 1 s.length)
    (hsp : cx.isSpace cx.sp = true) (w : Nat) (hw : 2 ≤ w) :
    ∀ (t : List α), (∀ c ∈ t, cx.isSpace c = true → c = cx.sp) →
      ∀ (lines : List (List α)) (cw cl : List α),
      ∃ (lines' : List (List α)) (cw' cl' : List α),
        wrapLoop cx (w : Int) (t.map fun c => [c]) lines cw cl = .ok (lines', cw', cl') ∧
        ∃ (L : List (List α)) (cur' : List α),
          appendWord cx (w : Int) (2 * cw'.length + 2) lines' cw' cl' = .ok (lines ++ L, cur') ∧
          Fills (toks cx) w (unitsOf (toks cx) w (wordsAux (toks cx) cw.reverse t)) cl L cur' := by
  intro t
  induction t with
  | nil => exact fun _ lines cw cl => ⟨lines, cw, cl, rfl, appendWord_flush cx htriv w hw lines cw cl⟩
  | cons c t ih =>
    intro hall lines cw cl
    have hall' : ∀ d ∈ t, cx.isSpace d = true → d = cx.sp :=
      fun d hd => hall d (List.mem_cons_of_mem _ hd)
    rw [List.map_cons, wrapLoop]
    by_cases hc : c = cx.sp
    · have hws : (toks cx).ws c = true := by rw [hc]; exact hsp
      obtain ⟨L1, cur1, a1, a3⟩ := appendWord_flush cx htriv w hw lines cw cl
      obtain ⟨lines', cw', cl', h1, L, cur', h2, h3⟩ := ih hall' (lines ++ L1) [] cur1
      simp only [if_pos hc, a1]
      refine ⟨lines', cw', cl', h1, L1 ++ L, cur', by rw [h2, List.append_assoc], ?_⟩
      rw [wordsAux_ws_cons _ _ _ _ hws, unitsOf, List.flatMap_append]
      exact a3.trans h3
    · have hws : ¬ (toks cx).ws c = true := fun h => hc (hall c List.mem_cons_self h)
      obtain ⟨lines', cw', cl', h1, L, cur', h2, h3⟩ := ih hall' lines (cw ++ [c]) cl
      simp only [if_neg hc]
      refine ⟨lines', cw', cl', h1, L, cur', h2, ?_⟩
      rw [wordsAux.eq_2 _ cw.reverse c t, if_neg hws]
      simpa using h3

/-- the separator pre-pass of CollapseSpace / Wrap -/
def _root_.RosedVerif.replaceAll' (cx : Ctx α) (text sep : List α) : List α :=
  if sep.isEmpty then text else replaceAll text sep [cx.sp]

theorem _root_.RosedVerif.collapseSpace_triv_all (htriv : ∀ s, cx.ends s = List.range' 1 s.length)
    (hsp : cx.isSpace cx.sp = true) (text sep : List α) :
    collapseSpace cx text sep =
      .ok (Spec.collapse ⟨cx.isSpace, cx.sp, cx.hy⟩ (replaceAll' cx text sep)) := by
  unfold collapseSpace
  have := setSpacesLoop_triv cx htriv ((replaceAll' cx text sep).length + 1) []
    (replaceAll' cx text sep) (by omega)
  simp only [List.nil_append, List.length_nil] at this
  unfold replaceAll' at this ⊢
  simp only [this, bind, Except.bind, collapseRuns_map cx hsp]
  rfl

/-- CollapseSpace (no separator) is `Spec.collapse`. -/
theorem _root_.RosedVerif.collapseSpace_triv (htriv : ∀ s, cx.ends s = List.range' 1 s.length)
    (hsp : cx.isSpace cx.sp = true) (text : List α) :
    collapseSpace cx text [] = .ok (Spec.collapse ⟨cx.isSpace, cx.sp, cx.hy⟩ text) :=
  collapseSpace_triv_all cx htriv hsp text []

/-- CollapseSpace with a non-empty separator (matched at atom level by `replaceAll`). -/
theorem _root_.RosedVerif.collapseSpace_triv_sep (htriv : ∀ s, cx.ends s = List.range' 1 s.length)
    (hsp : cx.isSpace cx.sp = true) (text sep : List α) (hsep : sep ≠ []) :
    collapseSpace cx text sep =
      .ok (Spec.collapse ⟨cx.isSpace, cx.sp, cx.hy⟩ (replaceAll text sep [cx.sp])) := by
  have h := collapseSpace_triv_all cx htriv hsp text sep
  rwa [replaceAll', if_neg (by simpa using hsep)] at h

/-- For trivial segmentation the transliterated Go algorithm IS the greedy specification. -/
theorem _root_.RosedVerif.wrapLines_triv (htriv : ∀ s, cx.ends s = List.range' 1 s.length)
    (hsp : cx.isSpace cx.sp = true) (text : List α) (w : Int) (sep : List α) :
    RosedVerif.wrapLines cx text w sep =
      .ok (Spec.wrapLines ⟨cx.isSpace, cx.sp, cx.hy⟩ (max w 2).toNat (replaceAll' cx text sep)) := by
  have hW : (if w < 2 then 2 else w) = (((max w 2).toNat : Nat) : Int) := by
    split <;> omega
  have hw2 : 2 ≤ (max w 2).toNat := by omega
  generalize (max w 2).toNat = W at hW hw2
  have hcs : collapseSpace cx text sep = .ok (collapse (toks cx) (replaceAll' cx text sep)) :=
    collapseSpace_triv_all cx htriv hsp text sep
  unfold RosedVerif.wrapLines
  simp only [hW, hcs, bind, Except.bind]
  generalize replaceAll' cx text sep = l
  show _ = Except.ok (Spec.wrapLines (toks cx) W l)
  by_cases hl : l = []
  · subst hl
    rfl
  · have hcl : collapse (toks cx) l ≠ [] := fun h => hl ((collapse_eq_nil (toks cx) l).1 h)
    obtain ⟨lines', cw', cl', h1, L, cur', h2, h3⟩ :=
      wrapLoop_spec cx htriv hsp W hw2 (collapse (toks cx) l)
        (collapse_mem_ws (toks cx) l) [] [] []
    rw [if_neg (by simpa using hcl), clusters_triv cx htriv, h1]
    simp only
    rw [wrapLines_eq_fill_units _ _ _ hl, units, ← words_collapse (toks cx) hsp l]
    have key := congrArg (Except.ok (ε := Err)) h3.done
    have h2' := (appendWord_if_nonempty cx htriv W hw2 lines' cw' cl').trans h2
    -- the `do` block repeats its continuation in both branches of the `if`
    split at h2' <;> rename_i hc
    · rw [if_pos hc, h2']; exact key
    · rw [if_neg hc, h2']; exact key

end
end RosedVerif.WrapRefine
