/-
The two updates of an editor (`withText`, `withOpts`), and byte offsets.  A text is cut at atom level,
`s = bf ++ sel ++ af`; Go's `s[a:b]` and `s[:a] + t + s[b:]` are evaluated at the byte offsets `a = |bf|`,
`b = |bf ++ sel|` of such a cut (`byteSlice_parts`, `spliceBytes_parts`, and their `Editor` forms).  Cuts given by two
ordered atom positions (`take`/`drop`) are instances; `spliceBytes` also accepts `b < a`, which no cut describes.
-/
import RosedVerif.Model.Editor
namespace RosedVerif

section
variable {α : Type}

@[simp] theorem Editor.withText_opts (ed : Editor α) (t : List α) : (ed.withText t).opts = ed.opts := by
  cases ed <;> rfl
@[simp] theorem Editor.withText_text (ed : Editor α) (t : List α) : (ed.withText t).text = t := by
  cases ed <;> rfl
@[simp] theorem Editor.withOpts_text (ed : Editor α) (o : Options α) : (ed.withOpts o).text = ed.text := by
  cases ed <;> rfl
@[simp] theorem Editor.withOpts_opts (ed : Editor α) (o : Options α) : (ed.withOpts o).opts = o := by
  cases ed <;> rfl
theorem Editor.withText_self (ed : Editor α) : ed.withText ed.text = ed := by
  cases ed <;> rfl
theorem Editor.withOpts_self (ed : Editor α) : ed.withOpts ed.opts = ed := by
  cases ed <;> rfl
theorem Editor.withText_withText (ed : Editor α) (s t : List α) :
    (ed.withText s).withText t = ed.withText t := by
  cases ed <;> rfl
theorem Editor.withOpts_withOpts (ed : Editor α) (o o' : Options α) :
    (ed.withOpts o).withOpts o' = ed.withOpts o' := by
  cases ed <;> rfl
theorem Editor.withText_withOpts (ed : Editor α) (o : Options α) (t : List α) :
    (ed.withOpts o).withText t = (ed.withText t).withOpts o := by
  cases ed <;> rfl
theorem Editor.withOpts_withText_withOpts (ed : Editor α) (o : Options α) (t : List α) :
    ((ed.withOpts o).withText t).withOpts ed.opts = ed.withText t := by
  rw [Editor.withText_withOpts, Editor.withOpts_withOpts, ← Editor.withText_opts ed t,
    Editor.withOpts_self]

theorem take_eq_take_append (s : List α) {i j : Nat} (hij : i ≤ j) :
    s.take j = s.take i ++ (s.drop i).take (j - i) := by
  rw [← List.take_add, Nat.add_sub_cancel' hij]

theorem flatten_take_split (L : List (List α)) {a b : Nat} (hab : a ≤ b) :
    (L.take b).flatten = (L.take a).flatten ++ ((L.drop a).take (b - a)).flatten := by
  rw [← List.flatten_append, ← take_eq_take_append L hab]

theorem flatten_take_drop (L : List (List α)) (b : Nat) :
    L.flatten = (L.take b).flatten ++ (L.drop b).flatten := by
  rw [← List.flatten_append, List.take_append_drop]

variable (cx : Ctx α)

theorem byteLen_foldl (s : List α) (k : Nat) :
    s.foldl (fun n c => n + cx.blen c) k = k + byteLen cx s := by
  unfold byteLen
  induction s generalizing k with
  | nil => rfl
  | cons c t ih => rw [List.foldl_cons, List.foldl_cons, ih, ih (0 + cx.blen c)]; omega

@[simp] theorem byteLen_nil : byteLen cx ([] : List α) = 0 := rfl

theorem byteLen_append (a b : List α) : byteLen cx (a ++ b) = byteLen cx a + byteLen cx b := by
  show (a ++ b).foldl _ 0 = _
  rw [List.foldl_append, byteLen_foldl]
  rfl

theorem byteLen_cons (c : α) (t : List α) : byteLen cx (c :: t) = cx.blen c + byteLen cx t := by
  rw [← List.singleton_append, byteLen_append]
  show 0 + cx.blen c + _ = _
  rw [Nat.zero_add]

theorem byteOff_eq (t : List α) (k : Nat) : byteOff cx t k = byteLen cx (t.take k) := rfl

/-- the byte offset of the end of the first `k` pieces of a text -/
theorem byteOff_flatten_take {ps : List (List α)} {t : List α} (hfl : ps.flatten = t) (k : Nat) :
    byteOff cx t ((ps.take k).flatten).length = byteLen cx (ps.take k).flatten := by
  subst hfl
  rw [byteOff_eq, flatten_take_drop ps k, List.take_left]

variable {cx}

theorem length_le_byteLen {s : List α} (hpos : ∀ a ∈ s, 0 < cx.blen a) :
    s.length ≤ byteLen cx s := by
  induction s with
  | nil => exact Nat.le_refl _
  | cons c t ih =>
    have := hpos c List.mem_cons_self
    have := ih fun a ha => hpos a (List.mem_cons_of_mem c ha)
    rw [List.length_cons, byteLen_cons]
    omega

theorem eq_nil_of_byteLen_eq_zero {s : List α} (hpos : ∀ a ∈ s, 0 < cx.blen a)
    (h : byteLen cx s = 0) : s = [] :=
  List.eq_nil_of_length_eq_zero (Nat.le_zero.1 (h ▸ length_le_byteLen hpos))

theorem atomsForBytes_zero (s : List α) : atomsForBytes cx s 0 = some 0 := by
  cases s <;> rfl

theorem atomsForBytes_cons {c : α} (hc : 0 < cx.blen c) (t : List α) (m : Nat)
    (hm : cx.blen c ≤ m) :
    atomsForBytes cx (c :: t) m = (atomsForBytes cx t (m - cx.blen c)).map (· + 1) := by
  cases m with
  | zero => omega
  | succ m => rw [atomsForBytes, if_pos ⟨hm, hc⟩]

/-- the byte length of a prefix is a rune boundary, and it is the boundary after that prefix -/
theorem atomsForBytes_prefix (p q : List α) (hpos : ∀ a ∈ p, 0 < cx.blen a) :
    atomsForBytes cx (p ++ q) (byteLen cx p) = some p.length := by
  induction p with
  | nil => exact atomsForBytes_zero q
  | cons c t ih =>
    rw [List.cons_append, byteLen_cons,
      atomsForBytes_cons (hpos c List.mem_cons_self) _ _ (Nat.le_add_right _ _),
      Nat.add_sub_cancel_left, ih fun a ha => hpos a (List.mem_cons_of_mem c ha)]
    rfl

/-! The cut lemmas ask for a positive byte length of the atoms of the text only: the cluster-token
context `cxB` gives the ill-formed empty token the length 0, and they are used there on texts
without it. -/

/-- Go's `s[a:b]` at the byte offsets of a cut `s = bf ++ sel ++ af` -/
theorem byteSlice_parts (bf sel af : List α) (hpos : ∀ a ∈ bf ++ sel ++ af, 0 < cx.blen a) :
    byteSlice cx (bf ++ sel ++ af) (byteLen cx bf) (byteLen cx (bf ++ sel)) = .ok sel := by
  have hpos' : ∀ a ∈ bf ++ sel, 0 < cx.blen a := fun a ha => hpos a (List.mem_append_left af ha)
  have h1 := atomsForBytes_prefix bf (sel ++ af) fun a ha => hpos' a (List.mem_append_left sel ha)
  have h2 := atomsForBytes_prefix (bf ++ sel) af hpos'
  rw [← List.append_assoc] at h1
  unfold byteSlice
  simp only [byteLen_append, Int.toNat_natCast] at h2 ⊢
  rw [if_neg (by omega)]
  by_cases hz : byteLen cx sel = 0
  · rw [if_pos (by rw [beq_iff_eq]; omega),
      eq_nil_of_byteLen_eq_zero (fun a ha => hpos' a (List.mem_append_right bf ha)) hz]
    rfl
  · rw [if_neg (by rw [beq_iff_eq]; omega), h1, h2]
    show Except.ok (((bf ++ sel ++ af).drop bf.length).take ((bf ++ sel).length - bf.length)) = _
    rw [List.append_assoc, List.drop_left, List.length_append, Nat.add_sub_cancel_left,
      List.take_left]

/-- Go's `s[:a] + t + s[b:]` at the byte offsets of a cut `s = bf ++ sel ++ af` -/
theorem spliceBytes_parts (bf sel af t : List α) (hpos : ∀ a ∈ bf ++ sel ++ af, 0 < cx.blen a) :
    spliceBytes cx (bf ++ sel ++ af) (byteLen cx bf) (byteLen cx (bf ++ sel)) t =
      .ok (bf ++ t ++ af) := by
  have hpos' : ∀ a ∈ bf ++ sel, 0 < cx.blen a := fun a ha => hpos a (List.mem_append_left af ha)
  have h1 := atomsForBytes_prefix bf (sel ++ af) fun a ha => hpos' a (List.mem_append_left sel ha)
  have h2 := atomsForBytes_prefix (bf ++ sel) af hpos'
  rw [← List.append_assoc] at h1
  unfold spliceBytes
  simp only [byteLen_append, Int.toNat_natCast] at h2 ⊢
  rw [if_neg (by omega), h1, h2]
  show Except.ok ((bf ++ sel ++ af).take bf.length ++ t ++ (bf ++ sel ++ af).drop (bf ++ sel).length) = _
  rw [List.drop_left, List.append_assoc bf, List.take_left]

theorem Editor.subEd_parts (ed : Editor α) (hpos : ∀ a ∈ ed.text, 0 < cx.blen a)
    {bf sel af : List α} (ht : ed.text = bf ++ sel ++ af) :
    ed.subEd cx (byteLen cx bf) (byteLen cx (bf ++ sel)) =
      .ok (.sub sel ed.opts ed (byteLen cx bf) (byteLen cx (bf ++ sel))) := by
  unfold Editor.subEd
  rw [ht] at hpos ⊢
  rw [byteSlice_parts bf sel af hpos]
  rfl

/-- committing a sub-editor cut at `[|bf|, |bf ++ sel|)` replaces `sel` by the sub-editor's text -/
theorem Editor.commit_parts (t : List α) (o : Options α) (parent : Editor α)
    (hpos : ∀ a ∈ parent.text, 0 < cx.blen a) {bf sel af : List α}
    (ht : parent.text = bf ++ sel ++ af) :
    (Editor.sub t o parent (byteLen cx bf) (byteLen cx (bf ++ sel))).commit cx =
      .ok (parent.withText (bf ++ t ++ af)) := by
  show (do pure (parent.withText (← spliceBytes cx parent.text (byteLen cx bf)
    (byteLen cx (bf ++ sel)) t)) : R (Editor α)) = _
  rw [ht] at hpos ⊢
  rw [spliceBytes_parts bf sel af t hpos]
  rfl

/-! the cut at two atom positions `i ≤ j` -/

theorem take_append_mid_append_drop (s : List α) {i j : Nat} (hij : i ≤ j) :
    s.take i ++ (s.drop i).take (j - i) ++ s.drop j = s := by
  rw [← take_eq_take_append s hij, List.take_append_drop]

variable (cx) in
theorem byteSlice_take_drop_l (hb : ∀ a, 0 < cx.blen a) (t : List α) (i j : Nat) (hij : i ≤ j) :
    byteSlice cx t (byteLen cx (t.take i)) (byteLen cx (t.take j)) = .ok ((t.drop i).take (j - i)) := by
  have h := byteSlice_parts (t.take i) ((t.drop i).take (j - i)) (t.drop j) fun a _ => hb a
  rwa [take_append_mid_append_drop t hij, ← take_eq_take_append t hij] at h

theorem byteSlice_take_drop (hpos : ∀ a, 0 < cx.blen a) (s : List α) (i j : Nat) (hij : i ≤ j)
    (_hj : j ≤ s.length) :
    byteSlice cx s (byteLen cx (s.take i)) (byteLen cx (s.take j)) =
      .ok ((s.drop i).take (j - i)) :=
  byteSlice_take_drop_l cx hpos s i j hij

/-- committing a sub-editor cut at `[i, j)` replaces exactly that range of the parent's text (the
statement of property C05) -/
theorem Editor.commit_sub (t : List α) (o : Options α) (parent : Editor α)
    (hpos : ∀ a ∈ parent.text, 0 < cx.blen a) (i j : Nat) (hij : i ≤ j)
    (_hj : j ≤ parent.text.length) :
    (Editor.sub t o parent (byteLen cx (parent.text.take i))
        (byteLen cx (parent.text.take j))).commit cx =
      .ok (parent.withText (parent.text.take i ++ t ++ parent.text.drop j)) := by
  have h := Editor.commit_parts t o parent hpos (take_append_mid_append_drop parent.text hij).symm
  rwa [← take_eq_take_append _ hij] at h

end
end RosedVerif
