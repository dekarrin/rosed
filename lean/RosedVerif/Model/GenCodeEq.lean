/-
Equality of every definition regenerated from the Go source with the hand-written model: the value-level functions of
Gen/Code.lean (harness/gofn.go; modules `GenEq/Core` … `JustifyOpts`) and the pointer-level functions of package
internal/gem in Gen/GemCode.lean (harness/goheap.go; modules `GenEq/Gem*`, against layer H).  Both files are written
anew on every run.  One theorem `<name>_regenerated` per function; each starts with
`first | exact absurd h (by decide) | …` so that it also checks when the translator refused the function (the stub then
carries `<name>_extracted = false`).  This module only collects the `GenEq` modules; a check builds the modules of its
own functions (checklib/props.py).
-/
import RosedVerif.Model.GenEq.Core
import RosedVerif.Model.GenEq.Block
import RosedVerif.Model.GenEq.Align
import RosedVerif.Model.GenEq.Options
import RosedVerif.Model.GenEq.Collapse
import RosedVerif.Model.GenEq.Wrap
import RosedVerif.Model.GenEq.Justify
import RosedVerif.Model.GenEq.Combine
import RosedVerif.Model.GenEq.Table
import RosedVerif.Model.GenEq.Chars
import RosedVerif.Model.GenEq.Lines
import RosedVerif.Model.GenEq.Commit
import RosedVerif.Model.GenEq.Edit
import RosedVerif.Model.GenEq.Apply
import RosedVerif.Model.GenEq.Paras
import RosedVerif.Model.GenEq.AffixPlaceholder
import RosedVerif.Model.GenEq.WrapOpts
import RosedVerif.Model.GenEq.IndentOpts
import RosedVerif.Model.GenEq.InsertTable
import RosedVerif.Model.GenEq.BlockOps
import RosedVerif.Model.GenEq.TwoCol
import RosedVerif.Model.GenEq.DefTable
import RosedVerif.Model.GenEq.AlignOpts
import RosedVerif.Model.GenEq.JustifyOpts
import RosedVerif.Model.GenEq.GemSplit
import RosedVerif.Model.GenEq.Gem
import RosedVerif.Model.GenEq.GemOps
import RosedVerif.Model.GenEq.GemInv
import RosedVerif.Model.GenEq.GemRev
