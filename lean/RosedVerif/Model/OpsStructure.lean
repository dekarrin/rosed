/-
Align, Justify and Wrap outside paragraph mode, in closed form on the editor's line list
(`inLines`, plus the empty line `trailing` when the last line is terminated).  Align and Justify
give one output line per input line, in order; Justify leaves the last line alone unless
`JustifyLastLine` is set; Wrap gives the wrapped lines of the whole text; all three keep the
trailing separator.  The closed forms hold for every separator.  Counting the lines of the
result again (`splitOn_replaced` and what follows from it) needs a separator without a proper border
(`Unbordered`: every one-atom separator, "\r\n", …); the examples at the end show that this cannot
be dropped.
-/
import RosedVerif.Model.Totality2
import RosedVerif.Model.ListSums
namespace RosedVerif
namespace OpsStructure
variable {α : Type} [DecidableEq α] (cx : Ctx α)

theorem mapM_ok_of_forall {β γ : Type} (f : β → R γ) (g : β → γ) (l : List β)
    (h : ∀ x ∈ l, f x = .ok (g x)) : l.mapM f = .ok (l.map g) :=
  mapM_ok_map f g l h

/-- the input lines an `XOpts` operation sees -/
def inLines (ed : Editor α) (o : Options α) : List (List α) :=
  (ed.withOpts (o.withDefaults cx)).linesSep (o.withDefaults cx).lineSep

/-- the extra empty line appended when `linesSep` dropped a final empty piece: the last line of the
text is terminated (default policy).  For a separator without a proper border and a non-empty text
this is "the text ends in the separator" (`trailing_eq_of_unbordered`). -/
def trailing (ed : Editor α) (o : Options α) : List (List α) :=
  if !(o.withDefaults cx).noTrailing ∧
      (inLines cx ed o).length < (splitOn ed.text (o.withDefaults cx).lineSep).length then [[]] else []

omit [DecidableEq α] in
/-- `withDefaults` fills each field on its own, and only the charset may change a second time -/
theorem withDefaults_withDefaults (o : Options α) :
    ∃ cs, (o.withDefaults cx).withDefaults cx = { o.withDefaults cx with charset := cs } := by
  rw [withDefaults_eq cx (o.withDefaults cx), sepDefaults_withDefaults]
  split
  · split <;> exact ⟨_, rfl⟩
  · exact ⟨_, rfl⟩

omit [DecidableEq α] in
theorem withDefaults_setFlags (o : Options α) (pp nt : Bool) :
    ({ o with preservePara := pp, noTrailing := nt } : Options α).withDefaults cx =
      { o.withDefaults cx with preservePara := pp, noTrailing := nt } := by
  rw [withDefaults_eq, withDefaults_eq]
  split
  · split <;> rfl
  · rfl

omit [DecidableEq α] in
theorem withDefaults_lineSep_idem (o : Options α) :
    ((o.withDefaults cx).withDefaults cx).lineSep = (o.withDefaults cx).lineSep := by
  obtain ⟨cs, h⟩ := withDefaults_withDefaults cx o
  rw [h]

/-- the empty piece that `Spec.bareLines` hides: `[[]]` when the last line of `t` is terminated
(default policy), else `[]` -/
def trailingPieces (t sep : List α) (nt : Bool) : List (List α) :=
  if !nt ∧ (Spec.bareLines t sep nt).length < (splitOn t sep).length then [[]] else []

theorem inLines_eq (ed : Editor α) (o : Options α) :
    inLines cx ed o =
      Spec.bareLines ed.text (o.withDefaults cx).lineSep (o.withDefaults cx).noTrailing := by
  unfold inLines
  rw [linesSep_eq_bareLines, Editor.withOpts_text, Editor.withOpts_opts]

theorem trailing_eq (ed : Editor α) (o : Options α) :
    trailing cx ed o =
      trailingPieces ed.text (o.withDefaults cx).lineSep (o.withDefaults cx).noTrailing := by
  unfold trailing
  rw [inLines_eq]
  rfl

theorem inLines_withDefaults (ed : Editor α) (o : Options α) :
    inLines cx ed (o.withDefaults cx) = inLines cx ed o := by
  rw [inLines_eq, inLines_eq, withDefaults_lineSep_idem, withDefaults_noTrailing]

theorem trailing_withDefaults (ed : Editor α) (o : Options α) :
    trailing cx ed (o.withDefaults cx) = trailing cx ed o := by
  rw [trailing_eq, trailing_eq, withDefaults_lineSep_idem, withDefaults_noTrailing]

theorem flatten_map_range_getD_map {β γ : Type} (l : List β) (d : β) (f : β → γ) :
    ((List.range l.length).map fun i => [f (l.getD i d)]).flatten = l.map f := by
  have := flatten_map_range_getD (l.map f) (f d)
  rw [List.length_map] at this
  rw [← this]
  congr 2
  funext i
  simp only [List.getD_eq_getElem?_getD, List.getElem?_map]
  cases l[i]? <;> rfl


theorem isPrefixOf_append_long (sep u X : List α) (h : sep.length ≤ u.length) :
    sep.isPrefixOf (u ++ X) = sep.isPrefixOf u := by
  rw [Bool.eq_iff_iff, List.isPrefixOf_iff_prefix, List.isPrefixOf_iff_prefix]
  constructor
  · intro hp
    exact List.prefix_of_prefix_length_le hp (List.prefix_append u X) h
  · intro hp
    exact hp.trans (List.prefix_append u X)

theorem indexOf_sep_append (sep X : List α) (hsep : sep ≠ []) : indexOf sep (sep ++ X) = some 0 := by
  cases sep with
  | nil => exact absurd rfl hsep
  | cons a s =>
    rw [List.cons_append, indexOf_cons, if_pos]
    rw [← List.cons_append, List.isPrefixOf_iff_prefix]
    exact List.prefix_append _ _

/-- whether the leftmost occurrence of `sep` in `p ++ sep ++ X` is the one after `p` does not
depend on `X` -/
theorem indexOf_append_sep_congr (sep : List α) (hsep : sep ≠ []) (X Y : List α) :
    ∀ p : List α, indexOf sep (p ++ sep ++ X) = some p.length →
      indexOf sep (p ++ sep ++ Y) = some p.length
  | [], _ => by
    rw [List.nil_append]; exact indexOf_sep_append sep Y hsep
  | c :: p, h => by
    rw [List.cons_append, List.cons_append, indexOf_cons] at h
    rw [List.cons_append, List.cons_append, indexOf_cons]
    have hl : sep.length ≤ (c :: (p ++ sep)).length := by
      simp only [List.length_cons, List.length_append]; omega
    have e1 : ∀ Z, sep.isPrefixOf (c :: (p ++ sep ++ Z)) = sep.isPrefixOf (c :: (p ++ sep)) := by
      intro Z
      rw [← List.cons_append]
      exact isPrefixOf_append_long sep _ Z hl
    rw [e1] at h ⊢
    split at h
    · simp only [List.length_cons, Option.some.injEq] at h; omega
    · rename_i hp
      rw [if_neg hp]
      rw [Option.map_eq_some_iff] at h
      obtain ⟨j, hj, hj'⟩ := h
      simp only [List.length_cons, Nat.add_right_cancel_iff] at hj'
      subst hj'
      rw [indexOf_append_sep_congr sep hsep X Y p hj]
      rfl

/-- the leftmost occurrence of `sep` in `p ++ sep` is the final one -/
def SepFree (sep p : List α) : Prop := indexOf sep (p ++ sep) = some p.length

theorem SepFree.indexOf_append {sep p : List α} (h : SepFree sep p) (hsep : sep ≠ []) (X : List α) :
    indexOf sep (p ++ sep ++ X) = some p.length :=
  indexOf_append_sep_congr sep hsep [] X p (by rw [List.append_nil]; exact h)

theorem sepFree_of_indexOf_append {sep p X : List α} (hsep : sep ≠ [])
    (h : indexOf sep (p ++ sep ++ X) = some p.length) : SepFree sep p := by
  have := indexOf_append_sep_congr sep hsep X [] p h
  rwa [List.append_nil] at this

theorem SepFree.splitOn_append {sep p : List α} (h : SepFree sep p) (hsep : sep ≠ []) (X : List α) :
    splitOn (p ++ sep ++ X) sep = p :: splitOn X sep := by
  rw [splitOn_of_indexOf_some sep hsep _ p.length (h.indexOf_append hsep X)]
  congr 1
  · rw [List.append_assoc, List.take_left]
  · rw [← List.length_append, List.drop_left]

theorem sepFree_nil (sep : List α) (hsep : sep ≠ []) : SepFree sep [] := by
  have := indexOf_sep_append sep [] hsep
  rwa [List.append_nil] at this

/-- the piece before the leftmost separator -/
theorem sepFree_take {sep t : List α} {i : Nat} (hsep : sep ≠ []) (hi : indexOf sep t = some i) :
    SepFree sep (t.take i) := by
  obtain ⟨hdec, hle⟩ := indexOf_some_spec sep t i hi
  have hlen : (t.take i).length = i := by rw [List.length_take]; omega
  apply sepFree_of_indexOf_append hsep (X := t.drop (i + sep.length))
  rw [← hdec, hlen]
  exact hi

/-- an unbordered separator cannot straddle the end of a piece that does not contain it -/
theorem sepFree_of_unbordered {sep : List α} (hsep : sep ≠ []) (hu : Unbordered sep) :
    ∀ p : List α, indexOf sep p = none → SepFree sep p
  | [], _ => sepFree_nil sep hsep
  | c :: p, h => by
    rw [indexOf_cons] at h
    split at h
    · exact absurd h (by simp)
    · rename_i hp
      rw [Option.map_eq_none_iff] at h
      have ih := sepFree_of_unbordered hsep hu p h
      unfold SepFree at ih ⊢
      rw [List.cons_append, indexOf_cons, ih]
      rw [if_neg]
      · rfl
      · intro hq
        rw [← List.cons_append] at hq
        by_cases hl : sep.length ≤ (c :: p).length
        · rw [isPrefixOf_append_long sep _ _ hl] at hq
          exact hp hq
        · obtain ⟨r, hr⟩ := List.isPrefixOf_iff_prefix.mp hq
          have hlen : (c :: p).length < sep.length := by omega
          have h1 := congrArg (List.drop (c :: p).length) hr
          rw [List.drop_left, List.drop_append_of_le_length (by omega)] at h1
          have h2 := congrArg (List.take (sep.length - (c :: p).length)) h1
          rw [List.take_left' (by simp only [List.length_drop])] at h2
          apply hu (sep.length - (c :: p).length) (by omega)
            (by simp only [List.length_cons] at hlen ⊢; omega)
          rw [← h2]
          congr 1
          omega

/-- splitting a join gives the pieces back, when no piece followed by a separator contains an
earlier occurrence of the separator -/
theorem splitOn_joinWith (sep : List α) (hsep : sep ≠ []) :
    ∀ parts : List (List α), parts ≠ [] → (∀ p ∈ parts.dropLast, SepFree sep p) →
      indexOf sep (parts.getLastD []) = none → splitOn (joinWith sep parts) sep = parts
  | [], h, _, _ => absurd rfl h
  | [x], _, _, hl => by
    rw [joinWith_singleton]
    exact splitOn_of_indexOf_none sep hsep x hl
  | x :: y :: t, _, hf, hl => by
    rw [joinWith_cons_cons]
    have hx : SepFree sep x := hf x (by simp [List.dropLast])
    rw [hx.splitOn_append hsep]
    congr 1
    apply splitOn_joinWith sep hsep (y :: t) (by simp)
    · intro p hp
      apply hf
      simp only [List.dropLast_cons_cons, List.mem_cons]
      exact Or.inr hp
    · simpa [List.getLastD] using hl

/-- the pieces of `strings.Split`: no piece followed by the separator contains an earlier
occurrence, and the last piece does not contain the separator -/
theorem splitOn_pieces (sep : List α) (hsep : sep ≠ []) :
    ∀ (n : Nat) (t : List α), t.length ≤ n →
      (∀ p ∈ (splitOn t sep).dropLast, SepFree sep p) ∧
        indexOf sep ((splitOn t sep).getLastD []) = none
  | 0, t, hn => by
    have : t = [] := List.length_eq_zero_iff.1 (by omega)
    subst this
    rw [splitOn_nil sep hsep]
    exact ⟨fun p hp => by simp at hp, indexOf_nil_of_ne_nil sep hsep⟩
  | n + 1, t, hn => by
    cases hi : indexOf sep t with
    | none =>
      rw [splitOn_of_indexOf_none sep hsep t hi]
      exact ⟨fun p hp => by simp at hp, hi⟩
    | some i =>
      obtain ⟨-, hle⟩ := indexOf_some_spec sep t i hi
      have hpos := List.length_pos_iff.mpr hsep
      obtain ⟨ih1, ih2⟩ := splitOn_pieces sep hsep n (t.drop (i + sep.length)) (by
        rw [List.length_drop]; omega)
      have hne := splitOn_ne_nil' (t.drop (i + sep.length)) sep hsep
      rw [splitOn_of_indexOf_some sep hsep t i hi]
      generalize splitOn (t.drop (i + sep.length)) sep = rest at *
      cases rest with
      | nil => exact absurd rfl hne
      | cons y u =>
        refine ⟨?_, by simpa [List.getLastD] using ih2⟩
        intro p hp
        rw [List.dropLast_cons_cons, List.mem_cons] at hp
        rcases hp with rfl | hp
        · exact sepFree_take hsep hi
        · exact ih1 p hp

/-- the text up to and including the `k`-th separator splits into the first `k` pieces and an
empty piece -/
theorem splitOn_take_terminated (sep : List α) (hsep : sep ≠ []) (k : Nat) (t : List α)
    (hk : k < (splitOn t sep).length) :
    splitOn (((splitOn t sep).take k).map (· ++ sep)).flatten sep = (splitOn t sep).take k ++ [[]] := by
  have h := splitOn_joinWith sep hsep ((splitOn t sep).take k ++ [[]]) (by simp) ?_ ?_
  · rwa [joinWith_append_singleton, List.append_nil] at h
  · intro p hp
    rw [List.dropLast_concat] at hp
    apply (splitOn_pieces sep hsep t.length t (Nat.le_refl _)).1
    rw [List.dropLast_eq_take]
    exact List.take_subset_take_left _ (by omega) hp
  · rw [List.getLastD_concat]
    exact indexOf_nil_of_ne_nil sep hsep

end OpsStructure
open OpsStructure
variable {α : Type} [DecidableEq α] (cx : Ctx α)

theorem applyOptsM_structure (ed : Editor α) (op : Nat → List α → R (List (List α)))
    (o : Options α) (outs : Nat → List (List α))
    (h : ∀ i, i < (inLines cx ed o).length → op i ((inLines cx ed o).getD i []) = .ok (outs i)) :
    ed.applyOptsM cx op o = .ok (ed.withText (joinWith (o.withDefaults cx).lineSep
      (((List.range (inLines cx ed o).length).map outs).flatten ++ trailing cx ed o))) := by
  unfold Editor.applyOptsM
  dsimp only
  have hm := mapM_ok_map (fun i => op i ((inLines cx ed o).getD i [])) outs
    (List.range (inLines cx ed o).length) (fun i hi => h i (List.mem_range.1 hi))
  unfold inLines at hm
  rw [hm]
  unfold trailing inLines
  show Except.ok _ = _
  split <;> simp only [List.append_nil]

/-- `applyOptsM` reads only the line separator and the trailing policy of its options, and these
are stable under a second `withDefaults` (no idempotence assumption on the charset is needed) -/
theorem applyOptsM_withDefaults (ed : Editor α) (op : Nat → List α → R (List (List α)))
    (o : Options α) : ed.applyOptsM cx op (o.withDefaults cx) = ed.applyOptsM cx op o := by
  unfold Editor.applyOptsM
  simp only [linesSep_eq_bareLines, Editor.withOpts_text, Editor.withOpts_opts,
    withDefaults_lineSep_idem, withDefaults_noTrailing]

theorem applyOptsM_map (ed : Editor α) (f : List α → R (List α)) (g : List α → List α)
    (o : Options α) (h : ∀ l ∈ inLines cx ed o, f l = .ok (g l)) :
    ed.applyOptsM cx (fun _ l => do pure [← f l]) o =
      .ok (ed.withText (joinWith (o.withDefaults cx).lineSep
        ((inLines cx ed o).map g ++ trailing cx ed o))) := by
  rw [applyOptsM_structure cx ed _ o (fun i => [g ((inLines cx ed o).getD i [])]),
    flatten_map_range_getD_map]
  intro i hi
  rw [h _ (getD_mem_of_lt _ [] i hi)]
  rfl

theorem applyOpts_map (ed : Editor α) (g : List α → List α) (o : Options α) :
    ed.applyOpts cx (fun _ l => [g l]) o =
      .ok (ed.withText (joinWith (o.withDefaults cx).lineSep
        ((inLines cx ed o).map g ++ trailing cx ed o))) := by
  unfold Editor.applyOpts
  rw [applyOptsM_structure cx ed _ o (fun i => [g ((inLines cx ed o).getD i [])]),
    flatten_map_range_getD_map]
  intro i _
  rfl

/-- the line function selected by the raw alignment value (for a value in 1..3) -/
def OpsStructure.alignFn (align : Int) (l : List α) (width : Int) : List α :=
  if align == Gen.alignLeft then alignLeft cx l width
  else if align == Gen.alignRight then alignRight cx l width
  else alignCenter cx l width

/-- `AlignOpts` with `None` or a value outside `Left..Center` returns the receiver unchanged
(whatever the options, also in paragraph mode) -/
theorem alignOpts_none (ed : Editor α) (align width : Int) (o : Options α)
    (hal : align = Gen.alignNone ∨
      (align ≠ Gen.alignLeft ∧ align ≠ Gen.alignRight ∧ align ≠ Gen.alignCenter)) :
    ed.alignOpts cx align width o = .ok ed := by
  unfold Editor.alignOpts
  rw [if_pos]
  · rfl
  · simpa only [beq_iff_eq, bne_iff_ne] using hal

/-- `AlignOpts`, non-paragraph mode: every input line is replaced by its aligned form, in order;
one trailing empty line is appended exactly when the input's last line is terminated (`trailing`:
the final empty piece of the split was dropped) -/
theorem alignOpts_structure (ed : Editor α) (align width : Int) (o : Options α)
    (hal : align = Gen.alignLeft ∨ align = Gen.alignRight ∨ align = Gen.alignCenter)
    (hpp : (o.withDefaults cx).preservePara = false) :
    ed.alignOpts cx align width o =
      .ok (ed.withText (joinWith (o.withDefaults cx).lineSep
        ((inLines cx ed o).map (fun l => alignFn cx align l width) ++ trailing cx ed o))) := by
  unfold Editor.alignOpts
  rw [if_neg]
  · dsimp only
    rw [hpp]
    simp only [Bool.false_eq_true, if_false]
    have hcb : (fun (_ : Nat) (line : List α) =>
        if align == Gen.alignLeft then [alignLeft cx line width]
        else if align == Gen.alignRight then [alignRight cx line width]
        else [alignCenter cx line width]) = fun _ l => [alignFn cx align l width] := by
      funext _ l
      unfold alignFn
      split
      · rfl
      · split <;> rfl
    rw [hcb, applyOpts_map, inLines_withDefaults, trailing_withDefaults, withDefaults_lineSep_idem]
  · simp only [beq_iff_eq, bne_iff_ne, ne_eq]
    rcases hal with h | h | h <;> subst h <;> decide

theorem alignOpts_left (ed : Editor α) (width : Int) (o : Options α)
    (hpp : (o.withDefaults cx).preservePara = false) :
    ed.alignOpts cx Gen.alignLeft width o =
      .ok (ed.withText (joinWith (o.withDefaults cx).lineSep
        ((inLines cx ed o).map (fun l => alignLeft cx l width) ++ trailing cx ed o))) :=
  alignOpts_structure cx ed _ width o (.inl rfl) hpp

theorem alignOpts_right (ed : Editor α) (width : Int) (o : Options α)
    (hpp : (o.withDefaults cx).preservePara = false) :
    ed.alignOpts cx Gen.alignRight width o =
      .ok (ed.withText (joinWith (o.withDefaults cx).lineSep
        ((inLines cx ed o).map (fun l => alignRight cx l width) ++ trailing cx ed o))) :=
  alignOpts_structure cx ed _ width o (.inr (.inl rfl)) hpp

theorem alignOpts_center (ed : Editor α) (width : Int) (o : Options α)
    (hpp : (o.withDefaults cx).preservePara = false) :
    ed.alignOpts cx Gen.alignCenter width o =
      .ok (ed.withText (joinWith (o.withDefaults cx).lineSep
        ((inLines cx ed o).map (fun l => alignCenter cx l width) ++ trailing cx ed o))) :=
  alignOpts_structure cx ed _ width o (.inr (.inr rfl)) hpp

theorem OpsStructure.max_two (width : Int) : (if width < 2 then 2 else width) = max width 2 := by
  rw [Int.max_def]; split <;> omega

/-- `WrapOpts`, non-paragraph mode: the wrapped lines joined by the separator, plus one more
separator exactly when the input ended in one -/
theorem wrapOpts_structure (ed : Editor α) (width : Int) (o : Options α) (lines' : List (List α))
    (hpp : (o.withDefaults cx).preservePara = false)
    (hw : wrapLines cx ed.text (max width 2) (o.withDefaults cx).lineSep = .ok lines') :
    ed.wrapOpts cx width o =
      .ok (ed.withText (joinWith (o.withDefaults cx).lineSep lines' ++
        (if (o.withDefaults cx).lineSep.isSuffixOf ed.text then (o.withDefaults cx).lineSep
         else []))) := by
  unfold Editor.wrapOpts
  dsimp only
  rw [hpp, max_two]
  simp only [Bool.false_eq_true, if_false]
  rw [hw]
  show Except.ok _ = _
  rw [Block.join_eq]
  split <;> simp only [Bool.false_eq_true, if_false, List.append_nil]

/-- `JustifyOpts`, non-paragraph mode, `JustifyLastLine` set: every input line is replaced by its
justification, in order; one trailing empty line is appended exactly when the input's last line is
terminated (`trailing`) -/
theorem justifyOpts_all (ed : Editor α) (width : Int) (o : Options α) (J : List α → List α)
    (hpp : (o.withDefaults cx).preservePara = false)
    (hjl : (o.withDefaults cx).justifyLast = true)
    (hJ : ∀ l ∈ inLines cx ed o, justifyLine cx l width = .ok (J l)) :
    ed.justifyOpts cx width o =
      .ok (ed.withText (joinWith (o.withDefaults cx).lineSep
        ((inLines cx ed o).map J ++ trailing cx ed o))) := by
  unfold Editor.justifyOpts
  dsimp only
  rw [hpp, hjl]
  simp only [Bool.false_eq_true, if_false, Bool.not_true, pure_bind]
  rw [applyOptsM_withDefaults, applyOptsM_map cx ed _ J o hJ]
  rfl

namespace OpsStructure

/-- the lines before the last one, each with its terminator -/
def headText (sep : List α) (ls : List (List α)) : List α := ((ls.dropLast).map (· ++ sep)).flatten

theorem normRange_zero_neg_one (n : Nat) :
    Spec.normRange (n : Int) 0 (-1) = (0, ((n - 1 : Nat) : Int)) := by
  have e1 : ((-1 : Int) == Gen.endSentinel) = false := by decide
  rw [normRange_zero _ _ (Int.natCast_nonneg n)]
  congr 1
  simp only [Spec.normPos, Spec.normPosRaw, e1, Bool.false_eq_true, if_false,
    show ((-1 : Int) < 0) from by decide, if_true]
  split
  · omega
  · split <;> omega

theorem bareLines_dropLast (t sep : List α) (nt : Bool) (hsep : sep ≠ []) :
    (Spec.bareLines t sep nt).dropLast =
        (splitOn t sep).take ((Spec.linePieces t sep nt).length - 1) ∧
      (Spec.linePieces t sep nt).length - 1 < (splitOn t sep).length := by
  have hne := splitOn_ne_nil' t sep hsep
  rw [Spec.linePieces_length' t sep nt hsep]
  unfold Spec.bareLines
  generalize splitOn t sep = parts at *
  have hpos : 0 < parts.length := List.length_pos_iff.mpr hne
  simp only
  split
  · simp only [List.dropLast_eq_take, List.take_take, List.length_take]
    refine ⟨?_, by omega⟩
    congr 1
    omega
  · simp only [List.dropLast_eq_take]
    exact ⟨trivial, by omega⟩

/-- `LinesTo(-1)`: everything before the last line, and what is left over -/
theorem selectLines_to_last (t sep : List α) (nt : Bool) (hsep : sep ≠ []) :
    Spec.selectLines t sep nt 0 (-1) =
        ([], headText sep (Spec.bareLines t sep nt),
          t.drop (headText sep (Spec.bareLines t sep nt)).length) ∧
      t = headText sep (Spec.bareLines t sep nt) ++
        t.drop (headText sep (Spec.bareLines t sep nt)).length := by
  have hfl := Spec.linePieces_flatten t sep nt hsep
  obtain ⟨hdl, hk⟩ := bareLines_dropLast t sep nt hsep
  have htk := linePieces_take t sep nt ((Spec.linePieces t sep nt).length - 1) (by omega)
  have hhead : headText sep (Spec.bareLines t sep nt) =
      ((Spec.linePieces t sep nt).take ((Spec.linePieces t sep nt).length - 1)).flatten := by
    unfold headText; rw [hdl, htk]
  rw [hhead]
  unfold Spec.selectLines
  dsimp only
  rw [normRange_zero_neg_one]
  generalize Spec.linePieces t sep nt = ps at *
  have hsplit : t = (ps.take (ps.length - 1)).flatten ++ (ps.drop (ps.length - 1)).flatten := by
    rw [← List.flatten_append, List.take_append_drop, hfl]
  have hdrop : t.drop ((ps.take (ps.length - 1)).flatten).length =
      (ps.drop (ps.length - 1)).flatten := by
    conv => lhs; rw [hsplit, List.drop_left]
  simp only [Int.toNat_natCast, Int.toNat_zero, List.take_zero, List.drop_zero, Spec.joinL,
    Int.sub_zero, List.flatten_nil, hdrop]
  exact ⟨trivial, hsplit⟩

/-- the pieces of the head text: the lines before the last one, plus an empty piece -/
theorem splitOn_headText (t sep : List α) (nt : Bool) (hsep : sep ≠ []) :
    splitOn (headText sep (Spec.bareLines t sep nt)) sep =
      (Spec.bareLines t sep nt).dropLast ++ [[]] := by
  obtain ⟨hdl, hk⟩ := bareLines_dropLast t sep nt hsep
  unfold headText
  rw [hdl]
  exact splitOn_take_terminated sep hsep _ t hk

/-- … and its lines: the default policy hides the empty piece again -/
theorem bareLines_headText (t sep : List α) (nt : Bool) (hsep : sep ≠ []) :
    Spec.bareLines (headText sep (Spec.bareLines t sep nt)) sep nt =
      if nt then (Spec.bareLines t sep nt).dropLast ++ [[]]
      else (Spec.bareLines t sep nt).dropLast := by
  have hsp := splitOn_headText t sep nt hsep
  generalize Spec.bareLines t sep nt = ls at *
  unfold Spec.bareLines
  rw [hsp]
  cases nt <;> simp

theorem isSuffixOf_flatten_terminated (sep : List α) (L : List (List α)) (hL : L ≠ []) :
    sep.isSuffixOf ((L.map (· ++ sep)).flatten) = true := by
  rw [List.isSuffixOf_iff_suffix, eq_dropLast_append_getLastD L [] hL, List.map_append,
    List.flatten_append]
  simp only [List.map_cons, List.map_nil, List.flatten_cons, List.flatten_nil, List.append_nil]
  rw [← List.append_assoc]
  exact List.suffix_append _ _

end OpsStructure

/-- the callback of Justify on the head text (an editor `e` holding the lines before the last of
`ed`, each terminated): these lines are justified, the terminators stay.  Under
`NoTrailingLineSeparators` the head text has one more, empty, line, which `hnil` covers. -/
theorem OpsStructure.applyOptsM_headText (e ed : Editor α) (width : Int) (o : Options α)
    (J : List α → List α) (hsep : (o.withDefaults cx).lineSep ≠ [])
    (he : e.text = headText (o.withDefaults cx).lineSep (inLines cx ed o))
    (hJ : ∀ l ∈ (inLines cx ed o).dropLast, justifyLine cx l width = .ok (J l))
    (hnil : (o.withDefaults cx).noTrailing = true → justifyLine cx [] width = .ok []) :
    e.applyOptsM cx (fun _ line => do pure [← justifyLine cx line width]) o =
      .ok (e.withText (((inLines cx ed o).dropLast.map
        (fun l => J l ++ (o.withDefaults cx).lineSep)).flatten)) := by
  have hin : inLines cx e o = if (o.withDefaults cx).noTrailing then
      (inLines cx ed o).dropLast ++ [[]] else (inLines cx ed o).dropLast := by
    rw [inLines_eq, he, inLines_eq, bareLines_headText _ _ _ hsep]
  have hall : inLines cx e o ++ trailing cx e o = (inLines cx ed o).dropLast ++ [[]] := by
    rw [trailing_eq, inLines_eq, he, inLines_eq]
    exact (Spec.bareLines_append_trailing _ _ _).trans (splitOn_headText _ _ _ hsep)
  generalize (inLines cx ed o).dropLast = L at *
  cases hnt : (o.withDefaults cx).noTrailing with
  | false =>
    rw [hnt, if_neg Bool.false_ne_true] at hin
    rw [hin] at hall
    rw [applyOptsM_map cx e _ J o (by rw [hin]; exact hJ), hin, List.append_cancel_left hall,
      joinWith_append_singleton, List.append_nil, List.map_map]
    rfl
  | true =>
    rw [hnt, if_pos rfl] at hin
    rw [hin] at hall
    -- `J` need not send the hidden empty line to itself, the callback does
    let J' : List α → List α := fun l => if l = [] then [] else J l
    have hJ' : ∀ l ∈ L, J' l = J l := by
      intro l hl
      by_cases h0 : l = []
      · subst h0
        exact Except.ok.inj ((hnil hnt).symm.trans (hJ [] hl))
      · simp only [J', if_neg h0]
    have hcb : ∀ l ∈ inLines cx e o, justifyLine cx l width = .ok (J' l) := by
      intro l hl
      rw [hin, List.mem_append, List.mem_singleton] at hl
      rcases hl with hl | rfl
      · rw [hJ' l hl]; exact hJ l hl
      · exact hnil hnt
    have htr : trailing cx e o = [] :=
      List.append_cancel_left (hall.trans (List.append_nil _).symm)
    have hnil' : [[]].map J' = [[]] := rfl
    rw [applyOptsM_map cx e _ J' o hcb, hin, htr, List.append_nil, List.map_append,
      List.map_congr_left hJ', hnil', joinWith_append_singleton, List.append_nil, List.map_map]
    rfl

/-- `JustifyOpts`, non-paragraph mode, `JustifyLastLine` not set (the default): every line before
the last is replaced by its justification; the last line and whatever follows it are exactly the
characters of the input after the head; the result carries the receiver's options (it is the
receiver with a new text).  Holds for every editor (root or sub-editor). -/
theorem justifyOpts_notLast (hd : cx.dLineSep ≠ []) (ed : Editor α)
    (hb : ∀ a ∈ ed.text, 0 < cx.blen a) (width : Int) (o : Options α) (J : List α → List α)
    (hpp : (o.withDefaults cx).preservePara = false)
    (hjl : (o.withDefaults cx).justifyLast = false)
    (hJ : ∀ l ∈ (inLines cx ed o).dropLast, justifyLine cx l width = .ok (J l))
    (hnil : (o.withDefaults cx).noTrailing = true → justifyLine cx [] width = .ok []) :
    ed.justifyOpts cx width o =
        .ok (ed.withText
          ((((inLines cx ed o).dropLast).map (fun l => J l ++ (o.withDefaults cx).lineSep)).flatten ++
            ed.text.drop (headText (o.withDefaults cx).lineSep (inLines cx ed o)).length)) ∧
      ed.text = headText (o.withDefaults cx).lineSep (inLines cx ed o) ++
        ed.text.drop (headText (o.withDefaults cx).lineSep (inLines cx ed o)).length := by
  have hsep := withDefaults_lineSep_ne_nil cx hd o
  obtain ⟨hsel, htext⟩ := selectLines_to_last ed.text (o.withDefaults cx).lineSep
    (o.withDefaults cx).noTrailing hsep
  rw [← inLines_eq] at hsel htext
  refine ⟨?_, htext⟩
  have hb' : ∀ a ∈ (ed.withOpts (o.withDefaults cx)).text, 0 < cx.blen a := by
    rwa [Editor.withOpts_text]
  unfold Editor.justifyOpts
  dsimp only
  rw [hpp, hjl]
  simp only [Bool.false_eq_true, if_false, Bool.not_false, if_true]
  unfold Editor.linesTo
  rw [linesSel_eq_spec cx hd _ hb']
  simp only [Editor.withOpts_text, Editor.withOpts_opts, withDefaults_lineSep_idem, hsel]
  rw [ok_bind, applyOptsM_withDefaults, applyOptsM_headText cx _ ed width o J hsep rfl hJ hnil,
    ok_bind]
  generalize headText (o.withDefaults cx).lineSep (inLines cx ed o) = H at *
  generalize ((inLines cx ed o).dropLast.map (fun l => J l ++ (o.withDefaults cx).lineSep)).flatten
    = T'
  -- the head sub-editor, with its new text, is committed into the receiver
  have htk : (ed.withOpts (o.withDefaults cx)).text.take H.length = H := by
    rw [Editor.withOpts_text, htext, List.take_left]
  have hlen : H.length ≤ (ed.withOpts (o.withDefaults cx)).text.length := by
    rw [Editor.withOpts_text, htext, List.length_append]
    omega
  have hc := Editor.commit_sub (cx := cx) T' (o.withDefaults cx)
    (ed.withOpts (o.withDefaults cx)) hb' 0 H.length (Nat.zero_le _) hlen
  rw [htk, List.take_zero] at hc
  have hwt : ∀ a b : Int, (Editor.sub H (o.withDefaults cx) (ed.withOpts (o.withDefaults cx))
      a b).withText T' = Editor.sub T' (o.withDefaults cx) (ed.withOpts (o.withDefaults cx)) a b :=
    fun _ _ => rfl
  rw [hwt, List.nil_append, hc, ok_bind, Editor.withOpts_text, List.nil_append]
  show Except.ok _ = _
  rw [Editor.withOpts_withText_withOpts]

/-! ## line count and line contents of the result (unbordered separators)

List level: `t` is the text, `sep` the separator, `nt` the trailing-separator policy. -/

namespace OpsStructure

theorem getLastD_mem {β : Type} (l : List β) (d : β) (h : l ≠ []) : l.getLastD d ∈ l := by
  have := eq_dropLast_append_getLastD l d h
  generalize l.getLastD d = x at this
  rw [this]
  simp only [List.mem_append, List.mem_singleton, or_true]

section pieces
variable {t sep : List α} {nt : Bool}

theorem trailingPieces_mem : ∀ p ∈ trailingPieces t sep nt, p = [] := by
  intro p hp
  unfold trailingPieces at hp
  split at hp
  · exact List.mem_singleton.1 hp
  · cases hp

/-- **one output line per input line**, list form: if the lines are replaced by as many strings
that do not contain the (unbordered) separator, `strings.Split` of the new text gives these
strings, in order, plus the trailing empty piece -/
theorem splitOn_replaced_pieces (ls' : List (List α)) (hsep : sep ≠ []) (hu : Unbordered sep)
    (hlen : ls'.length = (Spec.bareLines t sep nt).length)
    (hfree : ∀ p ∈ ls', indexOf sep p = none) :
    splitOn (joinWith sep (ls' ++ trailingPieces t sep nt)) sep =
      ls' ++ trailingPieces t sep nt := by
  have hne : ls' ++ trailingPieces t sep nt ≠ [] := by
    intro h0
    have h1 := congrArg List.length h0
    have h2 := congrArg List.length (Spec.bareLines_append_trailing t sep nt)
    have h3 := List.length_pos_iff.mpr (splitOn_ne_nil' t sep hsep)
    simp only [List.length_append, List.length_nil] at h1 h2
    unfold trailingPieces at h1
    omega
  have hnone : ∀ p ∈ ls' ++ trailingPieces t sep nt, indexOf sep p = none := by
    intro p hp
    rcases List.mem_append.1 hp with hp | hp
    · exact hfree p hp
    · rw [trailingPieces_mem p hp]; exact indexOf_nil_of_ne_nil sep hsep
  apply splitOn_joinWith sep hsep _ hne
  · intro p hp
    exact sepFree_of_unbordered hsep hu p (hnone p (List.dropLast_subset _ hp))
  · exact hnone _ (getLastD_mem _ _ hne)

/-- … hence the new text has as many pieces as the old one, piece `i` is the replacement of line
`i`, and the lines are the first pieces of the old text -/
theorem pieces_replaced (ls' : List (List α)) (hsep : sep ≠ []) (hu : Unbordered sep)
    (hlen : ls'.length = (Spec.bareLines t sep nt).length)
    (hfree : ∀ p ∈ ls', indexOf sep p = none) :
    (splitOn (joinWith sep (ls' ++ trailingPieces t sep nt)) sep).length = (splitOn t sep).length ∧
    ∀ i, i < (Spec.bareLines t sep nt).length →
      (splitOn (joinWith sep (ls' ++ trailingPieces t sep nt)) sep).getD i [] = ls'.getD i [] ∧
      (splitOn t sep).getD i [] = (Spec.bareLines t sep nt).getD i [] := by
  rw [splitOn_replaced_pieces ls' hsep hu hlen hfree, ← Spec.bareLines_append_trailing t sep nt]
  refine ⟨by simp only [List.length_append, hlen]; rfl, fun i hi => ?_⟩
  simp only [List.getD_eq_getElem?_getD]
  rw [List.getElem?_append_left (by rw [hlen]; exact hi), List.getElem?_append_left hi]
  exact ⟨rfl, rfl⟩

/-- … for a 1:1 callback `g` -/
theorem pieces_mapped (g : List α → List α) (hsep : sep ≠ []) (hu : Unbordered sep)
    (hfree : ∀ l ∈ Spec.bareLines t sep nt, indexOf sep (g l) = none) :
    (splitOn (joinWith sep ((Spec.bareLines t sep nt).map g ++ trailingPieces t sep nt)) sep).length =
      (splitOn t sep).length ∧
    ∀ i, i < (Spec.bareLines t sep nt).length →
      (splitOn (joinWith sep ((Spec.bareLines t sep nt).map g ++ trailingPieces t sep nt))
        sep).getD i [] = g ((Spec.bareLines t sep nt).getD i []) ∧
      (splitOn t sep).getD i [] = (Spec.bareLines t sep nt).getD i [] := by
  obtain ⟨h1, h2⟩ := pieces_replaced (nt := nt) _ hsep hu (List.length_map g)
    (List.forall_mem_map.2 hfree)
  exact ⟨h1, fun i hi => ⟨(h2 i hi).1.trans (getD_map_of_lt g _ [] [] i hi), (h2 i hi).2⟩⟩

/-- the line list of the new text is the image of the old one — provided a non-empty LAST line is
not mapped to the empty string (an empty last piece is not counted as a line under the default
policy) -/
theorem bareLines_mapped (g : List α → List α) (hsep : sep ≠ []) (hu : Unbordered sep)
    (hfree : ∀ l ∈ Spec.bareLines t sep nt, indexOf sep (g l) = none)
    (hne : ∀ l ∈ Spec.bareLines t sep nt, l ≠ [] → g l ≠ []) :
    Spec.bareLines (joinWith sep ((Spec.bareLines t sep nt).map g ++ trailingPieces t sep nt))
      sep nt = (Spec.bareLines t sep nt).map g := by
  have hsm := splitOn_replaced_pieces (nt := nt) _ hsep hu (List.length_map g)
    (List.forall_mem_map.2 hfree)
  have hlt := Spec.bareLines_length_lt_iff t sep nt
  have hat := Spec.bareLines_append_trailing t sep nt
  have hpne := splitOn_ne_nil' t sep hsep
  unfold trailingPieces at hsm ⊢
  generalize Spec.bareLines t sep nt = ls at *
  unfold Spec.bareLines
  rw [hsm]
  by_cases htr : (!nt) = true ∧ ls.length < (splitOn t sep).length
  · rw [if_pos htr]
    simp [htr.1]
  · rw [if_neg htr, List.append_nil] at hat ⊢
    cases nt with
    | true => simp
    | false =>
      -- the last piece of the input is a non-empty line, and so is its image
      have hlne : ls ≠ [] := hat ▸ hpne
      have hlast : ls.getLastD [] ≠ [] := fun h0 => htr ⟨rfl, hlt.2 ⟨rfl, hat ▸ h0, hpne⟩⟩
      have hgl : (ls.map g).getLastD [] = g (ls.getLastD []) := by
        have := eq_dropLast_append_getLastD ls [] hlne
        generalize ls.getLastD [] = x at this
        rw [this]
        simp
      rw [if_neg]
      simp only [Bool.not_false, Bool.true_and, List.isEmpty_iff, hgl]
      exact hne _ (getLastD_mem ls [] hlne) hlast

end pieces

/-- the lines a callback sees plus the trailing empty line are exactly the pieces of
`strings.Split` (any separator: `trailing` is by definition "`linesSep` dropped a piece") -/
theorem inLines_append_trailing (ed : Editor α) (o : Options α) :
    inLines cx ed o ++ trailing cx ed o = splitOn ed.text (o.withDefaults cx).lineSep := by
  rw [trailing_eq, inLines_eq]
  exact Spec.bareLines_append_trailing ed.text _ _

theorem trailing_mem (ed : Editor α) (o : Options α) : ∀ p ∈ trailing cx ed o, p = [] := by
  rw [trailing_eq]
  exact trailingPieces_mem

/-- for a separator without a proper border and a non-empty text, the last line is terminated
exactly when the text ends in the separator -/
theorem trailing_eq_of_unbordered (ed : Editor α) (o : Options α)
    (hsep : (o.withDefaults cx).lineSep ≠ []) (hu : Unbordered (o.withDefaults cx).lineSep)
    (ht : ed.text ≠ []) :
    trailing cx ed o =
      if !(o.withDefaults cx).noTrailing ∧ (o.withDefaults cx).lineSep.isSuffixOf ed.text
      then [[]] else [] := by
  rw [trailing_eq]
  unfold trailingPieces
  have h1 := Spec.bareLines_length_lt_iff' ed.text _ (o.withDefaults cx).noTrailing hsep
  have h2 := isSuffixOf_iff_getLastD_nil ed.text _ hsep hu ht
  by_cases hc : (!(o.withDefaults cx).noTrailing) = true ∧
      (o.withDefaults cx).lineSep.isSuffixOf ed.text = true
  · rw [if_pos hc, if_pos ⟨hc.1, h1.2 ⟨by simpa using hc.1, h2.1 hc.2⟩⟩]
  · rw [if_neg hc, if_neg (fun h => hc ⟨h.1, h2.2 (h1.1 h.2).2⟩)]

theorem text_eq_joinWith (ed : Editor α) (o : Options α)
    (hsep : (o.withDefaults cx).lineSep ≠ []) :
    ed.text = joinWith (o.withDefaults cx).lineSep (inLines cx ed o ++ trailing cx ed o) := by
  rw [inLines_append_trailing cx ed o]
  exact (joinWith_splitOn _ _ hsep).symm

theorem splitOn_replaced (ed : Editor α) (o : Options α) (ls' : List (List α))
    (hsep : (o.withDefaults cx).lineSep ≠ []) (hu : Unbordered (o.withDefaults cx).lineSep)
    (hlen : ls'.length = (inLines cx ed o).length)
    (hfree : ∀ p ∈ ls', indexOf (o.withDefaults cx).lineSep p = none) :
    splitOn (joinWith (o.withDefaults cx).lineSep (ls' ++ trailing cx ed o))
        (o.withDefaults cx).lineSep = ls' ++ trailing cx ed o := by
  rw [inLines_eq] at hlen
  rw [trailing_eq]
  exact splitOn_replaced_pieces ls' hsep hu hlen hfree

end OpsStructure

theorem alignOpts_lines (ed : Editor α) (align width : Int) (o : Options α)
    (hal : align = Gen.alignLeft ∨ align = Gen.alignRight ∨ align = Gen.alignCenter)
    (hpp : (o.withDefaults cx).preservePara = false)
    (hsep : (o.withDefaults cx).lineSep ≠ []) (hu : Unbordered (o.withDefaults cx).lineSep)
    (hfree : ∀ l ∈ inLines cx ed o,
      indexOf (o.withDefaults cx).lineSep (alignFn cx align l width) = none) :
    ∃ r, ed.alignOpts cx align width o = .ok r ∧ r.opts = ed.opts ∧
      (splitOn r.text (o.withDefaults cx).lineSep).length =
        (splitOn ed.text (o.withDefaults cx).lineSep).length ∧
      ∀ i, i < (inLines cx ed o).length →
        (splitOn r.text (o.withDefaults cx).lineSep).getD i [] =
          alignFn cx align ((inLines cx ed o).getD i []) width ∧
        (splitOn ed.text (o.withDefaults cx).lineSep).getD i [] = (inLines cx ed o).getD i [] := by
  refine ⟨_, alignOpts_structure cx ed align width o hal hpp, Editor.withText_opts _ _, ?_⟩
  rw [inLines_eq] at hfree
  rw [Editor.withText_text, trailing_eq, inLines_eq]
  exact pieces_mapped _ hsep hu hfree

theorem alignOpts_inLines (ed : Editor α) (align width : Int) (o : Options α)
    (hal : align = Gen.alignLeft ∨ align = Gen.alignRight ∨ align = Gen.alignCenter)
    (hpp : (o.withDefaults cx).preservePara = false)
    (hsep : (o.withDefaults cx).lineSep ≠ []) (hu : Unbordered (o.withDefaults cx).lineSep)
    (hfree : ∀ l ∈ inLines cx ed o,
      indexOf (o.withDefaults cx).lineSep (alignFn cx align l width) = none)
    (hne : ∀ l ∈ inLines cx ed o, l ≠ [] → alignFn cx align l width ≠ []) :
    ∃ r, ed.alignOpts cx align width o = .ok r ∧
      inLines cx r o = (inLines cx ed o).map (fun l => alignFn cx align l width) := by
  refine ⟨_, alignOpts_structure cx ed align width o hal hpp, ?_⟩
  rw [inLines_eq] at hfree hne
  rw [inLines_eq, Editor.withText_text, trailing_eq, inLines_eq]
  exact bareLines_mapped _ hsep hu hfree hne

theorem justifyOpts_all_lines (ed : Editor α) (width : Int) (o : Options α) (J : List α → List α)
    (hpp : (o.withDefaults cx).preservePara = false)
    (hjl : (o.withDefaults cx).justifyLast = true)
    (hJ : ∀ l ∈ inLines cx ed o, justifyLine cx l width = .ok (J l))
    (hsep : (o.withDefaults cx).lineSep ≠ []) (hu : Unbordered (o.withDefaults cx).lineSep)
    (hfree : ∀ l ∈ inLines cx ed o, indexOf (o.withDefaults cx).lineSep (J l) = none) :
    ∃ r, ed.justifyOpts cx width o = .ok r ∧ r.opts = ed.opts ∧
      (splitOn r.text (o.withDefaults cx).lineSep).length =
        (splitOn ed.text (o.withDefaults cx).lineSep).length ∧
      ∀ i, i < (inLines cx ed o).length →
        (splitOn r.text (o.withDefaults cx).lineSep).getD i [] = J ((inLines cx ed o).getD i []) ∧
        (splitOn ed.text (o.withDefaults cx).lineSep).getD i [] = (inLines cx ed o).getD i [] := by
  refine ⟨_, justifyOpts_all cx ed width o J hpp hjl hJ, Editor.withText_opts _ _, ?_⟩
  rw [inLines_eq] at hfree
  rw [Editor.withText_text, trailing_eq, inLines_eq]
  exact pieces_mapped _ hsep hu hfree

namespace OpsStructure

/-- the lines with every line but the last replaced by its image under `g` -/
def mapInit (g : List α → List α) (ls : List (List α)) : List (List α) :=
  ls.dropLast.map g ++ ls.drop (ls.length - 1)

omit [DecidableEq α] in
theorem mapInit_length (g : List α → List α) (ls : List (List α)) :
    (mapInit g ls).length = ls.length := by
  unfold mapInit
  simp only [List.length_append, List.length_map, List.length_dropLast, List.length_drop]
  omega

omit [DecidableEq α] in
theorem dropLast_append_drop (ls : List (List α)) :
    ls.dropLast ++ ls.drop (ls.length - 1) = ls := by
  rw [List.dropLast_eq_take, List.take_append_drop]

omit [DecidableEq α] in
/-- replacing the lines before the last in a join: what follows the head text stays -/
theorem joinWith_mapInit (sep : List α) (J : List α → List α) (ls tr : List (List α))
    (rest : List α) (h : headText sep ls ++ rest = joinWith sep (ls ++ tr)) :
    (ls.dropLast.map (fun l => J l ++ sep)).flatten ++ rest =
      joinWith sep (mapInit J ls ++ tr) := by
  unfold mapInit
  unfold headText at h
  by_cases hB : ls.drop (ls.length - 1) ++ tr = []
  · obtain ⟨hB1, rfl⟩ := List.append_eq_nil_iff.1 hB
    have hl : ls = [] := by
      have := congrArg List.length hB1
      simp only [List.length_drop, List.length_nil] at this
      exact List.length_eq_zero_iff.1 (by omega)
    subst hl
    exact h
  · rw [← dropLast_append_drop ls, List.append_assoc, joinWith_append sep _ _ hB,
      dropLast_append_drop] at h
    rw [List.append_assoc, joinWith_append sep _ _ hB, List.map_map]
    congr 1
    exact List.append_cancel_left h

end OpsStructure

/-- `JustifyOpts`, non-paragraph mode, `JustifyLastLine` not set, any separator: the closed
form — all lines but the last are justified, the last line is kept as it is, and the trailing
separator is kept -/
theorem justifyOpts_notLast_closed (hd : cx.dLineSep ≠ []) (ed : Editor α)
    (hb : ∀ a ∈ ed.text, 0 < cx.blen a) (width : Int) (o : Options α) (J : List α → List α)
    (hpp : (o.withDefaults cx).preservePara = false)
    (hjl : (o.withDefaults cx).justifyLast = false)
    (hJ : ∀ l ∈ (inLines cx ed o).dropLast, justifyLine cx l width = .ok (J l))
    (hnil : (o.withDefaults cx).noTrailing = true → justifyLine cx [] width = .ok []) :
    ed.justifyOpts cx width o =
      .ok (ed.withText (joinWith (o.withDefaults cx).lineSep
        (mapInit J (inLines cx ed o) ++ trailing cx ed o))) := by
  obtain ⟨h1, h2⟩ := justifyOpts_notLast cx hd ed hb width o J hpp hjl hJ hnil
  rw [h1, joinWith_mapInit _ J _ (trailing cx ed o) _
    (h2.symm.trans (text_eq_joinWith cx ed o (withDefaults_lineSep_ne_nil cx hd o)))]

namespace OpsStructure

theorem indexOf_append_of_some (sep : List α) (X : List α) :
    ∀ (p : List α) (i : Nat), indexOf sep p = some i → indexOf sep (p ++ X) = some i
  | [], i, h => by
    unfold indexOf at h
    split at h
    · rename_i he
      have : sep = [] := by simpa using he
      subst this
      cases X with
      | nil => exact h
      | cons c t =>
        have : i = 0 := by simpa using h.symm
        subst this
        rfl
    · exact absurd h (by simp)
  | c :: p, i, h => by
    obtain ⟨-, hle⟩ := indexOf_some_spec sep (c :: p) i h
    rw [indexOf_cons] at h
    rw [List.cons_append, indexOf_cons, ← List.cons_append,
      isPrefixOf_append_long sep (c :: p) X (by omega)]
    split at h
    · rename_i hp; rw [if_pos hp]; exact h
    · rename_i hp
      rw [if_neg hp]
      rw [Option.map_eq_some_iff] at h
      obtain ⟨j, hj, rfl⟩ := h
      rw [indexOf_append_of_some sep X p j hj]
      rfl

theorem SepFree.indexOf_none {sep p : List α} (hsep : sep ≠ []) (h : SepFree sep p) :
    indexOf sep p = none := by
  cases hi : indexOf sep p with
  | none => rfl
  | some i =>
    obtain ⟨-, hle⟩ := indexOf_some_spec sep p i hi
    have := indexOf_append_of_some sep sep p i hi
    unfold SepFree at h
    rw [h] at this
    have hpos := List.length_pos_iff.mpr hsep
    simp only [Option.some.injEq] at this
    omega

theorem splitOn_piece_free (sep : List α) (hsep : sep ≠ []) (t : List α) :
    ∀ p ∈ splitOn t sep, indexOf sep p = none := by
  intro p hp
  obtain ⟨h1, h2⟩ := splitOn_pieces sep hsep t.length t (Nat.le_refl _)
  have hne := splitOn_ne_nil' t sep hsep
  rw [eq_dropLast_append_getLastD _ [] hne, List.mem_append, List.mem_singleton] at hp
  rcases hp with hp | rfl
  · exact (h1 p hp).indexOf_none hsep
  · exact h2

/-- no line contains the separator -/
theorem bareLines_free {t sep : List α} {nt : Bool} (hsep : sep ≠ []) :
    ∀ l ∈ Spec.bareLines t sep nt, indexOf sep l = none := by
  intro l hl
  unfold Spec.bareLines at hl
  dsimp only at hl
  apply splitOn_piece_free _ hsep t
  split at hl
  · exact List.dropLast_subset _ hl
  · exact hl

theorem inLines_free (ed : Editor α) (o : Options α) (hsep : (o.withDefaults cx).lineSep ≠ []) :
    ∀ l ∈ inLines cx ed o, indexOf (o.withDefaults cx).lineSep l = none := by
  rw [inLines_eq]
  exact bareLines_free hsep

omit [DecidableEq α] in
theorem mapInit_getD (g : List α → List α) (ls : List (List α)) (i : Nat) (hi : i < ls.length) :
    (mapInit g ls).getD i [] = if i + 1 < ls.length then g (ls.getD i []) else ls.getD i [] := by
  unfold mapInit
  simp only [List.getD_eq_getElem?_getD]
  split
  · rename_i h
    rw [List.getElem?_append_left (by simp only [List.length_map, List.length_dropLast]; omega),
      List.getElem?_map, List.dropLast_eq_take, List.getElem?_take_of_lt (by omega),
      List.getElem?_eq_getElem hi]
    rfl
  · rename_i h
    have : i = ls.length - 1 := by omega
    rw [List.getElem?_append_right (by simp only [List.length_map, List.length_dropLast]; omega)]
    simp only [List.length_map, List.length_dropLast, List.getElem?_drop]
    congr 2
    omega

end OpsStructure

theorem justifyOpts_notLast_lines (hb : ∀ a, 0 < cx.blen a) (hd : cx.dLineSep ≠ [])
    (ed : Editor α) (width : Int) (o : Options α) (J : List α → List α)
    (hpp : (o.withDefaults cx).preservePara = false)
    (hjl : (o.withDefaults cx).justifyLast = false)
    (hJ : ∀ l ∈ (inLines cx ed o).dropLast, justifyLine cx l width = .ok (J l))
    (hnil : (o.withDefaults cx).noTrailing = true → justifyLine cx [] width = .ok [])
    (hu : Unbordered (o.withDefaults cx).lineSep)
    (hfree : ∀ l ∈ (inLines cx ed o).dropLast, indexOf (o.withDefaults cx).lineSep (J l) = none) :
    ∃ r, ed.justifyOpts cx width o = .ok r ∧ r.opts = ed.opts ∧
      (splitOn r.text (o.withDefaults cx).lineSep).length =
        (splitOn ed.text (o.withDefaults cx).lineSep).length ∧
      ∀ i, i < (inLines cx ed o).length →
        (splitOn r.text (o.withDefaults cx).lineSep).getD i [] =
          (if i + 1 < (inLines cx ed o).length then J ((inLines cx ed o).getD i [])
           else (inLines cx ed o).getD i []) ∧
        (splitOn ed.text (o.withDefaults cx).lineSep).getD i [] = (inLines cx ed o).getD i [] := by
  have hsep := withDefaults_lineSep_ne_nil cx hd o
  refine ⟨_, justifyOpts_notLast_closed cx hd ed (fun a _ => hb a) width o J hpp hjl hJ hnil,
    Editor.withText_opts _ _, ?_⟩
  rw [Editor.withText_text, trailing_eq]
  rw [inLines_eq] at hfree ⊢
  obtain ⟨h1, h2⟩ := pieces_replaced (nt := (o.withDefaults cx).noTrailing) (mapInit J _) hsep hu
    (mapInit_length _ _) (by
      intro p hp
      unfold mapInit at hp
      rcases List.mem_append.1 hp with hp | hp
      · obtain ⟨l, hl, rfl⟩ := List.mem_map.1 hp
        exact hfree l hl
      · exact bareLines_free hsep p (List.mem_of_mem_drop hp))
  exact ⟨h1, fun i hi => ⟨(h2 i hi).1.trans (mapInit_getD J _ i hi), (h2 i hi).2⟩⟩

/-! ## well-formed contexts: `justifyLine` and `wrapLines` never fail -/

/-- the justified line as a total function (the line itself in the unreachable error case) -/
def OpsStructure.justified (l : List α) (w : Int) : List α :=
  match justifyLine cx l w with
  | .ok r => r
  | .error _ => l

theorem OpsStructure.justifyLine_eq_justified (hs : cx.Sane) (l : List α) (w : Int) :
    justifyLine cx l w = .ok (justified cx l w) := by
  obtain ⟨r, hr⟩ := justifyLine_total hs l w
  unfold justified
  rw [hr]

/-- the empty line is justified to the empty line -/
theorem OpsStructure.justifyLine_nil (hs : cx.Sane) (w : Int) :
    justifyLine cx ([] : List α) w = .ok [] := by
  have h0 : gLen cx ([] : List α) = 0 := gLen_nil hs
  have hc : collapseSpace cx ([] : List α) [cx.nl] = .ok [] := by
    unfold collapseSpace
    have : replaceAll ([] : List α) [cx.nl] [cx.sp] = [] := rfl
    simp only [List.isEmpty_cons, Bool.false_eq_true, if_false, this, List.length_nil]
    unfold setSpacesLoop
    rw [h0]
    rfl
  unfold justifyLine
  rw [hc, ok_bind, h0]
  dsimp only
  split
  · rfl
  · rfl

theorem justifyOpts_all_sane (hs : cx.Sane) (ed : Editor α) (width : Int) (o : Options α)
    (hpp : (o.withDefaults cx).preservePara = false)
    (hjl : (o.withDefaults cx).justifyLast = true) :
    ed.justifyOpts cx width o =
      .ok (ed.withText (joinWith (o.withDefaults cx).lineSep
        ((inLines cx ed o).map (fun l => justified cx l width) ++ trailing cx ed o))) :=
  justifyOpts_all cx ed width o _ hpp hjl (fun l _ => justifyLine_eq_justified cx hs l width)

theorem justifyOpts_notLast_sane (hs : cx.Sane) (hd : cx.dLineSep ≠ []) (ed : Editor α)
    (width : Int) (o : Options α)
    (hpp : (o.withDefaults cx).preservePara = false)
    (hjl : (o.withDefaults cx).justifyLast = false) :
    ed.justifyOpts cx width o =
        .ok (ed.withText
          ((((inLines cx ed o).dropLast).map
              (fun l => justified cx l width ++ (o.withDefaults cx).lineSep)).flatten ++
            ed.text.drop (headText (o.withDefaults cx).lineSep (inLines cx ed o)).length)) ∧
      ed.text = headText (o.withDefaults cx).lineSep (inLines cx ed o) ++
        ed.text.drop (headText (o.withDefaults cx).lineSep (inLines cx ed o)).length :=
  justifyOpts_notLast cx hd ed (fun a _ => hs.blen a) width o _ hpp hjl
    (fun l _ => justifyLine_eq_justified cx hs l width) (fun _ => justifyLine_nil cx hs width)

theorem justifyOpts_notLast_closed_sane (hs : cx.Sane) (hd : cx.dLineSep ≠ []) (ed : Editor α)
    (width : Int) (o : Options α)
    (hpp : (o.withDefaults cx).preservePara = false)
    (hjl : (o.withDefaults cx).justifyLast = false) :
    ed.justifyOpts cx width o =
      .ok (ed.withText (joinWith (o.withDefaults cx).lineSep
        (mapInit (fun l => justified cx l width) (inLines cx ed o) ++ trailing cx ed o))) :=
  justifyOpts_notLast_closed cx hd ed (fun a _ => hs.blen a) width o _ hpp hjl
    (fun l _ => justifyLine_eq_justified cx hs l width) (fun _ => justifyLine_nil cx hs width)

theorem wrapOpts_structure_sane (hs : cx.Sane) (ed : Editor α) (width : Int) (o : Options α)
    (hpp : (o.withDefaults cx).preservePara = false) :
    ∃ lines', wrapLines cx ed.text (max width 2) (o.withDefaults cx).lineSep = .ok lines' ∧
      ed.wrapOpts cx width o =
        .ok (ed.withText (joinWith (o.withDefaults cx).lineSep lines' ++
          (if (o.withDefaults cx).lineSep.isSuffixOf ed.text then (o.withDefaults cx).lineSep
           else []))) := by
  obtain ⟨lines', h⟩ := wrapLines_total hs ed.text (max width 2) (o.withDefaults cx).lineSep
  exact ⟨lines', h, wrapOpts_structure cx ed width o lines' hpp h⟩

/-! ## the theorems at work

`testCtx` (LinesLemmas.lean): atoms are numbers, every atom is its own cluster and one byte,
"\n" is `0`, the space is `32`. -/

namespace OpsStructure

/-- " ab\nc d\ne\n": three lines and a trailing separator -/
def exRoot : Editor Nat := .root [32, 97, 98, 0, 99, 32, 100, 0, 101, 0] {}
/-- " ab\nc d\ne f" as a sub-editor (of "xx", cut at byte 1): three lines, no trailing separator,
and a last line that justification would change -/
def exSub : Editor Nat :=
  .sub [32, 97, 98, 0, 99, 32, 100, 0, 101, 32, 102] {} (.root [7, 7] {}) 1 1

theorem testCtx_sane : testCtx.Sane := sane_of_triv (cx := testCtx) (fun _ => rfl) (fun _ => Nat.one_pos)

example : inLines testCtx exRoot {} = [[32, 97, 98], [99, 32, 100], [101]] ∧
    trailing testCtx exRoot {} = [[]] := by decide +kernel
example : inLines testCtx exSub {} = [[32, 97, 98], [99, 32, 100], [101, 32, 102]] ∧
    trailing testCtx exSub {} = [] := by decide +kernel
example : Unbordered (({} : Options Nat).withDefaults testCtx).lineSep := by decide +kernel

/-- `applyOptsM_structure`: a callback that fails outside the line range and returns two lines
per input line -/
example : exRoot.applyOptsM testCtx
      (fun i l => if i < 3 then .ok [l, [i + 10]] else .error .explicit) {} =
    .ok (exRoot.withText [32, 97, 98, 0, 10, 0, 99, 32, 100, 0, 11, 0, 101, 0, 12, 0]) := by
  rw [applyOptsM_structure testCtx exRoot _ {}
    (fun i => [(inLines testCtx exRoot {}).getD i [], [i + 10]]) (fun i hi => by
      have : (inLines testCtx exRoot {}).length = 3 := by decide
      rw [if_pos (by omega)])]
  congr 2

/-- Align (left / right / center, width 4): three lines in, three lines out, trailing separator
kept -/
example : exRoot.alignOpts testCtx Gen.alignLeft 4 {} =
    .ok (exRoot.withText [97, 98, 32, 32, 0, 99, 32, 100, 32, 0, 101, 32, 32, 32, 0]) := by
  rw [alignOpts_left testCtx exRoot 4 {} (by decide)]
  congr 2
example : exRoot.alignOpts testCtx Gen.alignRight 4 {} =
    .ok (exRoot.withText [32, 32, 97, 98, 0, 32, 99, 32, 100, 0, 32, 32, 32, 101, 0]) := by
  rw [alignOpts_right testCtx exRoot 4 {} (by decide)]
  congr 2
example : exRoot.alignOpts testCtx Gen.alignCenter 4 {} =
    .ok (exRoot.withText [32, 97, 98, 32, 0, 32, 99, 32, 100, 0, 32, 32, 101, 32, 0]) := by
  rw [alignOpts_center testCtx exRoot 4 {} (by decide)]
  congr 2
/-- `None` and out-of-range values: unchanged, even in paragraph mode -/
example : exRoot.alignOpts testCtx Gen.alignNone 4 { preservePara := true } = .ok exRoot :=
  alignOpts_none testCtx exRoot _ 4 _ (.inl rfl)
example : exRoot.alignOpts testCtx 7 4 {} = .ok exRoot :=
  alignOpts_none testCtx exRoot _ 4 _ (.inr (by decide))
/-- the hypotheses of the line-count corollary hold here -/
example : ∀ l ∈ inLines testCtx exRoot {},
    indexOf (({} : Options Nat).withDefaults testCtx).lineSep
      (alignFn testCtx Gen.alignLeft l 4) = none := by decide +kernel
example : ∀ l ∈ inLines testCtx exRoot {}, l ≠ [] → alignFn testCtx Gen.alignLeft l 4 ≠ [] := by
  decide +kernel
/-- … and a non-empty last line CAN be aligned to nothing (width 0), which is why
`alignOpts_inLines` needs its last hypothesis: " " has one line, its left-aligned form none -/
example : inLines testCtx (.root [97, 0, 32] {}) {} = [[97], [32]] ∧
    ((Editor.root [97, 0, 32] {}).alignOpts testCtx Gen.alignLeft 0 {}).toOption.map
      (fun r => inLines testCtx r {}) = some [[97]] := by decide +kernel

/-- the line-list corollary applied -/
example : ∃ r, exRoot.alignOpts testCtx Gen.alignLeft 4 {} = .ok r ∧
    inLines testCtx r {} = [[97, 98, 32, 32], [99, 32, 100, 32], [101, 32, 32, 32]] := by
  obtain ⟨r, h1, h2⟩ := alignOpts_inLines testCtx exRoot Gen.alignLeft 4 {} (.inl rfl) (by decide)
    (by decide) (by decide) (by decide) (by decide)
  exact ⟨r, h1, h2.trans (by decide)⟩
/-- a separator that overlaps itself: with "77" the text "777" has the two pieces "", "7" and NO
trailing separator (the last line "7" is unterminated, although the text ends in "77"); aligning
reproduces "777" with its two pieces -/
example : inLines testCtx (.root [7, 7, 7] {}) { lineSep := [7, 7] } = [[], [7]] ∧
    trailing testCtx (.root [7, 7, 7] {}) { lineSep := [7, 7] } = [] ∧
    (splitOn [7, 7, 7] [7, 7]).length = 2 ∧
    ((Editor.root [7, 7, 7] {}).alignOpts testCtx Gen.alignLeft 0 { lineSep := [7, 7] }).toOption.map
      (fun r => splitOn r.text [7, 7]) = some [[], [7]] := by decide +kernel
/-- `Unbordered` cannot be dropped from the line-count corollaries (`splitOn_replaced`,
`alignOpts_lines`, …): with the separator "77" the text "7 777x" has the two pieces "7 ", "7x";
they are right-aligned (width 0) to "7", "7x", which do not contain "77", but the result "7777x"
has three pieces -/
example : inLines testCtx (.root [7, 32, 7, 7, 7, 120] {}) { lineSep := [7, 7] } =
      [[7, 32], [7, 120]] ∧
    (∀ l ∈ inLines testCtx (.root [7, 32, 7, 7, 7, 120] {}) { lineSep := [7, 7] },
      indexOf [7, 7] (alignFn testCtx Gen.alignRight l 0) = none) ∧
    (splitOn [7, 32, 7, 7, 7, 120] [7, 7]).length = 2 ∧
    ((Editor.root [7, 32, 7, 7, 7, 120] {}).alignOpts testCtx Gen.alignRight 0
      { lineSep := [7, 7] }).toOption.map
      (fun r => splitOn r.text [7, 7]) = some [[], [], [120]] := by decide +kernel

/-- Justify, `JustifyLastLine` set, width 5, on the sub-editor: all three lines justified -/
example : exSub.justifyOpts testCtx 5 { justifyLast := true } =
    .ok (exSub.withText [32, 32, 32, 97, 98, 0, 99, 32, 32, 32, 100, 0, 101, 32, 32, 32, 102]) := by
  rw [justifyOpts_all_sane testCtx testCtx_sane exSub 5 _ (by decide) (by decide)]
  congr 2
/-- Justify, default (last line left alone), on the sub-editor: "e f" is untouched, the result
is the receiver (same parent, same cut, same options) with the new text -/
example : exSub.justifyOpts testCtx 5 {} =
    .ok (exSub.withText [32, 32, 32, 97, 98, 0, 99, 32, 32, 32, 100, 0, 101, 32, 102]) := by
  rw [(justifyOpts_notLast_sane testCtx testCtx_sane (by decide) exSub 5 {} (by decide)
    (by decide)).1]
  congr 2
example : exSub.justifyOpts testCtx 5 {} =
    .ok (exSub.withText [32, 32, 32, 97, 98, 0, 99, 32, 32, 32, 100, 0, 101, 32, 102]) := by
  rw [justifyOpts_notLast_closed_sane testCtx testCtx_sane (by decide) exSub 5 {} (by decide)
    (by decide)]
  congr 2
/-- … with a trailing separator, and with the `NoTrailingLineSeparators` policy -/
example : exRoot.justifyOpts testCtx 5 {} =
    .ok (exRoot.withText [32, 32, 32, 97, 98, 0, 99, 32, 32, 32, 100, 0, 101, 0]) := by
  rw [justifyOpts_notLast_closed_sane testCtx testCtx_sane (by decide) exRoot 5 {} (by decide)
    (by decide)]
  congr 2
example : exRoot.justifyOpts testCtx 5 { noTrailing := true } =
    .ok (exRoot.withText [32, 32, 32, 97, 98, 0, 99, 32, 32, 32, 100, 0, 101, 0]) := by
  rw [justifyOpts_notLast_closed_sane testCtx testCtx_sane (by decide) exRoot 5 _ (by decide)
    (by decide)]
  congr 2

/-- Wrap, width 3: the leading space goes, the trailing separator stays -/
example : exRoot.wrapOpts testCtx 3 {} =
    .ok (exRoot.withText [97, 98, 0, 99, 32, 100, 0, 101, 0]) := by
  rw [wrapOpts_structure testCtx exRoot 3 {} [[97, 98], [99, 32, 100], [101]] (by decide)
    (by rfl)]
  congr 2
example : exSub.wrapOpts testCtx 1 {} =
    .ok (exSub.withText [97, 98, 0, 99, 0, 100, 0, 101, 0, 102]) := by
  rw [wrapOpts_structure testCtx exSub 1 {} [[97, 98], [99], [100], [101], [102]] (by decide)
    (by rfl)]
  congr 2

end OpsStructure

end RosedVerif
