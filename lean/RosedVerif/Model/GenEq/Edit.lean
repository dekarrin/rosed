/-
Editor.Insert, Editor.Delete, Editor.Overtype.
-/
import RosedVerif.Model.GenEq.Chars
set_option linter.unusedVariables false
set_option linter.unusedSectionVars false
set_option linter.unusedSimpArgs false
namespace RosedVerif.GenCodeEq
open RosedVerif

variable {α : Type} [DecidableEq α] (cx : Ctx α)

theorem editorInsert_regenerated (h : Gen.Code.editorInsert_extracted = true) (hwf : cx.WF) (ed : Editor α) (pos : Int) (t : List α) :
    Gen.Code.editorInsert cx ed pos t = ed.insert cx pos t := by
  first
    | exact absurd h (by decide)
    | (unfold Gen.Code.editorInsert Editor.insert
       simp only [editorCharsTo_regenerated cx (by decide) hwf, editorCharsFrom_regenerated cx (by decide) hwf]
       go_norm
       all_goals simp)

theorem editorDelete_regenerated (h : Gen.Code.editorDelete_extracted = true) (hwf : cx.WF) (ed : Editor α) (s e : Int) :
    Gen.Code.editorDelete cx ed s e = ed.delete cx s e := by
  first
    | exact absurd h (by decide)
    | (unfold Gen.Code.editorDelete Editor.delete
       simp only [editorCharsTo_regenerated cx (by decide) hwf, editorCharsFrom_regenerated cx (by decide) hwf,
         editorCharCount_regenerated cx (by decide)]
       go_norm
       -- with the `if`s between `pure`s pulled inside, the two sides are the same term
       simp only [ite_pure, pure_bind, beq_iff_eq, ite_not]
       all_goals go_close)

/-- The translator emits Go's `int` addition as unbounded `Int` addition; the hand model wraps
`charPos + inboundText.Len()` at 64 bits (`wrap64`).  The two agree when the sum does not overflow. -/
theorem editorOvertype_regenerated (h : Gen.Code.editorOvertype_extracted = true) (hwf : cx.WF) (ed : Editor α) (pos : Int) (t : List α)
    (hno : ∀ p : Int, 0 ≤ p → p ≤ ed.charCount cx → wrap64 (p + gLen cx t) = p + gLen cx t) :
    Gen.Code.editorOvertype cx ed pos t = ed.overtype cx pos t := by
  first
    | exact absurd h (by decide)
    | (unfold Gen.Code.editorOvertype Editor.overtype
       simp only [editorCharsTo_regenerated cx (by decide) hwf, editorCharsFrom_regenerated cx (by decide) hwf,
         editorCharCount_regenerated cx (by decide)]
       go_norm
       have hb : ∀ q : Int, 0 ≤ (rangeToIndexes (ed.charCount cx : Int) q q).1 ∧
           (rangeToIndexes (ed.charCount cx : Int) q q).1 ≤ (ed.charCount cx : Int) := by
         intro q; unfold rangeToIndexes; grind
       split <;> simp_all)

theorem editorInsert_cxA (h : Gen.Code.editorInsert_extracted = true) (ed : Editor Int) (pos : Int) (t : List Int) :
    Gen.Code.editorInsert cxA ed pos t = ed.insert cxA pos t := editorInsert_regenerated cxA h cxA_WF ed pos t

theorem editorDelete_cxA (h : Gen.Code.editorDelete_extracted = true) (ed : Editor Int) (s e : Int) :
    Gen.Code.editorDelete cxA ed s e = ed.delete cxA s e := editorDelete_regenerated cxA h cxA_WF ed s e

end RosedVerif.GenCodeEq
