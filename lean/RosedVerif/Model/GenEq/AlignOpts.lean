/-
Editor.AlignOpts, Editor.Align.
-/
import RosedVerif.Model.GenEq.Options
import RosedVerif.Model.GenEq.Block
import RosedVerif.Model.GenEq.ApplyLines
import RosedVerif.Model.GenEq.Align
import RosedVerif.Model.GenEq.Apply
import RosedVerif.Model.GenEq.Paras
import RosedVerif.Model.GenEq.InstA
set_option linter.unusedVariables false
set_option linter.unusedSectionVars false
set_option linter.unusedSimpArgs false
namespace RosedVerif.GenCodeEq
open RosedVerif

variable {α : Type} [DecidableEq α] (cx : Ctx α)

/-- `go_close` for two programs with the same skeleton of binds, where splitting the whole goal at once is too dear
(the paragraph callbacks of `AlignOpts`): go under equal leading computations, re-associate, split an `if`/`match` as
soon as it is at the head, close the leaves as `go_close` does.  Behind a normal form, like `go_close`. -/
syntax "go_deep" : tactic
macro_rules
  | `(tactic| go_deep) => `(tactic|
      first
        | rfl
        | omega
        | (refine bind_congr (m := R) fun _ => ?_; go_deep)
        | (simp only [bind_assoc, pure_bind]; go_deep)
        | (split <;> go_deep)
        | (simp_all; done)
        | grind [List.isEmpty_iff])

theorem ite_congr_left {γ : Type} {c1 c2 : Prop} [Decidable c1] [Decidable c2] {a x y : γ} (hc : c1 ↔ c2)
    (hxy : ¬ c1 → x = y) : (if c1 then a else x) = (if c2 then a else y) :=
  ite_congr (propext hc) (fun _ => rfl) (fun h2 => hxy (fun h1 => h2 (hc.mp h1)))

/-- Go evaluates `bl.Line(0)` twice where the model binds it once: the monad is deterministic -/
theorem bind_dup {β γ : Type} (m : R β) (k : β → β → R γ) : (m >>= fun a => m >>= fun b => k a b) = m >>= fun a => k a a := by
  cases m <;> rfl

theorem editorAlignOpts_regenerated (h : Gen.Code.editorAlignOpts_extracted = true)
    (hd : DefaultsOk cx) (hpos : ∀ a, 0 < cx.blen a) (ed : Editor α) (align width : Int)
    (o : Options α) : Gen.Code.editorAlignOpts cx ed align width o = ed.alignOpts cx align width o := by
  first
    | exact absurd h (by decide)
    | (unfold Gen.Code.editorAlignOpts Editor.alignOpts
       simp only [beq_iff_eq, bne_iff_ne, ne_eq]
       refine ite_congr_left (by grind) (fun hN => ?_)
       have hLR : Gen.alignLeft ≠ Gen.alignRight := by decide
       have hLC : Gen.alignLeft ≠ Gen.alignCenter := by decide
       have hRC : Gen.alignRight ≠ Gen.alignCenter := by decide
       -- with the alignment known, the callbacks of the other two disappear before anything else is rewritten
       obtain rfl | rfl | rfl : align = Gen.alignLeft ∨ align = Gen.alignRight ∨ align = Gen.alignCenter := by grind
       all_goals
         simp only [hLR, hLR.symm, hLC, hLC.symm, hRC, hRC.symm, ↓reduceIte,
           optionsWithDefaults_regenerated cx (by decide),
           alignLineLeft_regenerated cx (by decide), alignLineRight_regenerated cx (by decide),
           alignLineCenter_regenerated cx (by decide), countLeadingWhitespace_regenerated cx (by decide),
           countTrailingWhitespace_regenerated cx (by decide),
           blockJoin_regenerated cx (by decide), blockNew_regenerated cx (by decide), blockLen_regenerated cx (by decide),
           blockLine_regenerated cx (by decide), blockSet_regenerated cx (by decide),
           blockApply_regenerated cx (by decide),
           editorApplyGParagraphsOpts_regenerated cx (by decide) hd hpos, editorApplyOpts_regenerated cx (by decide)]
         go_norm
         generalize o.withDefaults cx = od
         -- `split` on a goal of this size is dear; it is only needed when the two guards are not the same term
         first | refine ite_congr rfl (fun _ => ?_) (fun _ => ?_) | split
         · -- paragraph mode. `do` has distributed the model's continuations over its `if`s: `ite_bind` does the same
           -- to the generated callback, and the two become the same term
           congr 1
           funext i para pre suf
           simp only [alignParaLeft, alignParaRight, alignParaCenter, Block.mapLinesM, mapM_pure_R, flatten_map_singleton_fun,
             bind_assoc, pure_bind, ite_pure, ite_bind, bind_dup, ite_not, Int.not_lt, Int.not_le, Nat.not_lt, Nat.not_le, gt_iff_lt, Int.natCast_pos,
             List.isEmpty_iff]
           all_goals go_deep
         · simp only [Editor.applyOpts]
           all_goals go_deep)

theorem editorAlign_regenerated (h : Gen.Code.editorAlign_extracted = true)
    (hd : DefaultsOk cx) (hpos : ∀ a, 0 < cx.blen a) (ed : Editor α) (align width : Int) :
    Gen.Code.editorAlign cx ed align width = ed.alignOpts cx align width ed.opts := by
  first
    | exact absurd h (by decide)
    | (unfold Gen.Code.editorAlign
       simp only [editorAlignOpts_regenerated cx (by decide) hd hpos, bind_pure])

theorem editorAlignOpts_cxA (h : Gen.Code.editorAlignOpts_extracted = true) (ed : Editor Int) (align width : Int)
    (o : Options Int) : Gen.Code.editorAlignOpts cxA ed align width o = ed.alignOpts cxA align width o :=
  editorAlignOpts_regenerated cxA h defaultsOk_cxA cxA_WF.2 ed align width o

theorem editorAlign_cxA (h : Gen.Code.editorAlign_extracted = true) (ed : Editor Int) (align width : Int) :
    Gen.Code.editorAlign cxA ed align width = ed.alignOpts cxA align width ed.opts :=
  editorAlign_regenerated cxA h defaultsOk_cxA cxA_WF.2 ed align width

end RosedVerif.GenCodeEq
