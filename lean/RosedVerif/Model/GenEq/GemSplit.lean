/-
`gem.Split` (internal/gem/gem.go) at pointer level: the loop that asks `shouldBreakAfter` for every rune and collects the
exclusive cluster ends, as harness/goheap.go translates it, equals `splitRunes`, the function theorem C01 is about.  In a
module of its own so that C01 depends on this theorem only, not on the theorems about the cache cells of gem.String.
-/
import RosedVerif.Model.GenEq.GemCore
set_option linter.unusedVariables false
set_option linter.unusedSectionVars false
set_option linter.unusedSimpArgs false
namespace RosedVerif.GenCodeEq
open RosedVerif RosedVerif.H RosedVerif.HGo

/-- the loop of `gem.Split`, restated -/
def splitStep (r : List Int) (k : Nat) (x : Int) (done : Option (List Int)) : Option (List Int) :=
  if shouldBreakAfter x r k then some (done.getD [] ++ [(k : Int) + 1]) else done

theorem splitStep_fold (r : List Int) : ∀ (xs pre : List Int) (acc : List Int), r = pre ++ xs →
    rangeFold (splitStep r) pre.length xs (some acc) =
      some (acc ++ (splitAux clsPreds (pre.map classOf).reverse pre.length (xs.map classOf)).map Int.ofNat) := by
  intro xs
  induction xs with
  | nil => intro pre acc _; simp [rangeFold, splitAux]
  | cons x xs ih =>
    intro pre acc hr
    have h1 : (r.take pre.length) = pre := by rw [hr]; simp
    have h2 : (r.drop (pre.length + 1)) = xs := by rw [hr]; simp
    have ih' := ih (pre ++ [x]) (if shouldBreakAfter x r pre.length then acc ++ [(pre.length : Int) + 1] else acc) (by simp [hr])
    simp only [rangeFold, splitStep, List.map_cons, splitAux]
    have hb : shouldBreakAfter x r pre.length = brk clsPreds (pre.map classOf).reverse (classOf x) (xs.map classOf).head? := by
      unfold shouldBreakAfter
      simp [h1, h2, List.head?_map]
    rw [← hb]
    cases hs : shouldBreakAfter x r (pre.length : Int) with
    | true =>
      simp only [hs, if_true] at ih' ⊢
      simpa using ih'
    | false =>
      simp only [hs] at ih' ⊢
      simpa using ih'

theorem gemSplit_regenerated (hx : Gen.GemCode.gemSplit_extracted = true) (r : List Int) :
    Gen.GemCode.gemSplit r = (pure (some ((splitRunes r).map Int.ofNat)) : HM (Option (List Int))) := by
  first
    | exact absurd hx (by decide)
    | (funext h
       unfold Gen.GemCode.gemSplit
       have hloop := fun body hb => forRangeM_pure (σ := Option (List Int)) body (splitStep r) r hb (some []) h
       gem_run
       rw [hloop]
       · have := splitStep_fold r r [] [] rfl
         simp at this
         simp [this, splitRunes, split, splitG]
       · intro k x s h hk
         cases hs : shouldBreakAfter x r (k : Int) <;> gem_run [idx_of_getElem? hk, splitStep, hs, oappend])

end RosedVerif.GenCodeEq
