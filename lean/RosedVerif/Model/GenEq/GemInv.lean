/-
The hypotheses of the `gem*_regenerated` theorems (`CellAlloc`, `GemOK`: the receiver's cell is allocated and, if filled,
holds a partition of the runes) hold in every reachable state: corollaries `gem*_inv` under the pool invariant `H.Inv`
of C19, and `gemOK_histories` for the state reached by any history.  (Those of `Reverse` and `LastIndexFunc` stand in
GenEq/GemRev, behind their theorems.)
-/
import RosedVerif.Model.GenEq.GemOps
import RosedVerif.Heap.Histories
set_option linter.unusedVariables false
set_option linter.unusedSectionVars false
set_option linter.unusedSimpArgs false
namespace RosedVerif.GenCodeEq
open RosedVerif RosedVerif.H RosedVerif.HGo

theorem gemOK_of_cellOK {h : Heap} {s : GStr} (ok : CellOK h s) : GemOK h s := by
  refine ⟨fun c hc => ?_, fun c e hc he => ?_⟩
  · exact ((cellOK_some hc).1 ok).1
  · rcases ((cellOK_some hc).1 ok).2 with h0 | h1
    · rw [h0] at he; cases he
    · rw [h1] at he; cases he; exact part_splitRunes _

theorem gemOK_of_inv {h : Heap} {pool : List GStr} {v : GStr} (hi : Inv h pool) (hv : v ∈ zero :: pool) : GemOK h v :=
  gemOK_of_cellOK (hi.ok' hv)

theorem gemLen_inv (hx : Gen.GemCode.gemLen_extracted = true) {h : Heap} {pool : List GStr} {v : GStr} (hi : Inv h pool)
    (hv : v ∈ zero :: pool) : Gen.GemCode.gemLen v h = okM (H.len v) Int.ofNat h :=
  gemLen_regenerated hx v h (gemOK_of_inv hi hv).1

theorem gemCharAt_inv (hx : Gen.GemCode.gemCharAt_extracted = true) {h : Heap} {pool : List GStr} {v : GStr} (i : Int)
    (hi : Inv h pool) (hv : v ∈ zero :: pool) : Gen.GemCode.gemCharAt v i h = H.charAt v i h :=
  gemCharAt_regenerated hx v i h (gemOK_of_inv hi hv)

theorem gemGraphemeIndexes_inv (hx : Gen.GemCode.gemGraphemeIndexes_extracted = true) {h : Heap} {pool : List GStr} {v : GStr}
    (hi : Inv h pool) (hv : v ∈ zero :: pool) :
    Gen.GemCode.gemGraphemeIndexes v h = okM (H.graphemeIndexes v) (gemSpans 0) h :=
  gemGraphemeIndexes_regenerated hx v h (gemOK_of_inv hi hv).1

theorem gemSub_inv (hx : Gen.GemCode.gemSub_extracted = true) {h : Heap} {pool : List GStr} {v : GStr} (st en : Int)
    (hi : Inv h pool) (hv : v ∈ zero :: pool) : Gen.GemCode.gemSub v st en h = okM (H.sub v st en) id h :=
  gemSub_regenerated hx v st en h (gemOK_of_inv hi hv)

theorem gemSetCharAt_inv (hx : Gen.GemCode.gemSetCharAt_extracted = true) {h : Heap} {pool : List GStr} {v : GStr} (i : Int)
    (r : List Int) (hi : Inv h pool) (hv : v ∈ zero :: pool) : Gen.GemCode.gemSetCharAt v i r h = H.setCharAt v i r h :=
  gemSetCharAt_regenerated hx v i r h (gemOK_of_inv hi hv)

theorem gemIndexFunc_inv (hx : Gen.GemCode.gemIndexFunc_extracted = true) {h : Heap} {pool : List GStr} {v : GStr}
    (f : List Int → Bool) (hi : Inv h pool) (hv : v ∈ zero :: pool) :
    Gen.GemCode.gemIndexFunc v f h = okM (H.indexFunc f v) id h :=
  gemIndexFunc_regenerated hx v f h (gemOK_of_inv hi hv)

/-- in particular in the state reached by any history of operations (`H.run`, Heap/Histories.lean) -/
theorem gemOK_histories (ops : List H.Op) : ∀ v ∈ zero :: (H.run ops).2, GemOK (H.run ops).1 v :=
  fun v hv => gemOK_of_inv (H.histories_inv ops) hv

end RosedVerif.GenCodeEq
