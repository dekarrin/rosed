/-
Package internal/gem at pointer level (see GenEq/Gem.lean): `Reverse`, `LastIndexFunc`.  `String.Reverse` writes runes and
cached ends IN PLACE in a nested loop; layer H reverses the cluster list functionally.  The heap and the result are equal;
the event list of the generated code is the hand model's WITHOUT its last event: `H.reverse` records a final
`.fill (clone's cell)`, but the source never assigns `*reversed.gc` (it only writes elements of the cloned
slice, which leave no event — see the header of Heap/GoHeapPrims.lean).
-/
import RosedVerif.Model.GenEq.GemInv
set_option linter.unusedVariables false
set_option linter.unusedSectionVars false
set_option linter.unusedSimpArgs false
namespace RosedVerif.GenCodeEq
open RosedVerif RosedVerif.H RosedVerif.HGo

theorem set_middle {β : Type} (a b c : List β) (x y : β) : (a ++ x :: c).set a.length y = a ++ y :: c := by
  simp [List.set_append_right]

/-- one step of the fold in `H.reverse`: append the running end, advance the running length -/
def revStep (acc : List Nat × Nat) (x : List Int) : List Nat × Nat := (acc.1 ++ [acc.2 + x.length], acc.2 + x.length)

/-- (ends, rune count) after the first `k` clusters of `L` -/
def revF (L : List (List Int)) (k : Nat) : List Nat × Nat := (L.take k).foldl revStep ([], 0)

theorem revStep_foldl_snd : ∀ (L : List (List Int)) (acc : List Nat × Nat),
    (L.foldl revStep acc).2 = acc.2 + L.flatten.length := by
  intro L
  induction L with
  | nil => intro acc; simp
  | cons x xs ih => intro acc; simp [List.foldl_cons, ih, revStep]; omega

theorem revStep_foldl_len : ∀ (L : List (List Int)) (acc : List Nat × Nat),
    (L.foldl revStep acc).1.length = acc.1.length + L.length := by
  intro L
  induction L with
  | nil => intro acc; simp
  | cons x xs ih => intro acc; simp [List.foldl_cons, ih, revStep]; omega

theorem revF_len (L : List (List Int)) (k : Nat) (hk : k ≤ L.length) : (revF L k).1.length = k := by
  simp [revF, revStep_foldl_len]; omega

theorem revF_ends_succ (L : List (List Int)) (k : Nat) (hk : k < L.length) :
    (revF L (k + 1)).1 = (revF L k).1 ++ [((L.take k).flatten).length + L[k].length] := by
  simp only [revF, List.take_succ_eq_append_getElem hk, List.foldl_append, List.foldl_cons, List.foldl_nil, revStep,
    revStep_foldl_snd, Nat.zero_add]

theorem take_flatten_len_le (L : List (List Int)) (k : Nat) : ((L.take k).flatten).length ≤ L.flatten.length := by
  have h1 : L.flatten = (L.take k).flatten ++ (L.drop k).flatten := by
    rw [← List.flatten_append, List.take_append_drop]
  rw [h1, List.length_append]; omega

theorem flatten_reverse_len (L : List (List Int)) : L.reverse.flatten.length = L.flatten.length := by
  induction L with
  | nil => rfl
  | cons x xs ih => simp [ih]; omega

/-- state of the outer loop of `Reverse` after `k` clusters (`L` = the clusters in reverse order, `n` = the clone's cell,
`m` = number of clusters): the clone, `runeCur`, `i` -/
def revS (rs : List Int) (L : List (List Int)) (n m k : Nat) : GStr × Int × Int :=
  (⟨(L.take k).flatten ++ rs.drop ((L.take k).flatten).length, some n⟩, (((L.take k).flatten).length : Int), (m : Int) - 1 - k)

/-- heap of the outer loop of `Reverse` after `k` clusters: the clone's cell holds `k` new ends, then the old ones -/
def revH (cells : List (Option (List Nat))) (L : List (List Int)) (e : List Nat) (k : Nat) : Heap :=
  ⟨cells ++ [some ((revF L k).1 ++ e.drop k)]⟩

/-- one round of the inner loop of `Reverse` on the runes: `A` written before, `CL` the cluster being copied over `R` -/
theorem blit_step (A CL R : List Int) (j : Nat) (hj : j < CL.length) (hR : CL.length ≤ R.length) :
    (A ++ (CL.take j ++ R.drop j)).set (A.length + j) CL[j] = A ++ (CL.take (j + 1) ++ R.drop (j + 1)) := by
  have hl : (A ++ CL.take j).length = A.length + j := by simp; omega
  rw [← List.append_assoc, List.drop_eq_getElem_cons (show j < R.length by omega), ← hl, set_middle _ [],
    List.take_succ_eq_append_getElem hj]
  simp only [List.append_assoc, List.cons_append, List.nil_append]

theorem toCell_set_add (X : List Nat) (k a b : Nat) :
    toCell (some ((X.map Int.ofNat).set k ((a : Int) + (b : Int)))) = .ok (some (X.set k (a + b))) := by
  have := toCell_some_map (X.set k (a + b))
  rw [List.map_set] at this
  rw [← this]; congr 4

theorem reverse_filled (rs : List Int) (c : Nat) (h : Heap) (e : List Nat) (hg : h.get c = some e) :
    H.reverse ⟨rs, some c⟩ h =
      (⟨h.cells ++ [some ((clustersFrom rs 0 e).reverse.foldl revStep ([], 0)).1]⟩,
        ⟨(clustersFrom rs 0 e).reverse.flatten, some h.cells.length⟩, [.alloc h.cells.length, .fill h.cells.length]) := by
  simp only [H.reverse, initialized_mk, ensure_filled hg, clone_mk, cellOf_mk, Heap.alloc_set, List.nil_append, List.cons_append]
  rfl

theorem gemReverse_filled (hx : Gen.GemCode.gemReverse_extracted = true) (rs : List Int) (c : Nat) (e : List Nat) (h : Heap)
    (hg : h.get c = some e) (hp : Part e rs.length) :
    Gen.GemCode.gemReverse ⟨rs, some c⟩ h =
      ((H.reverse ⟨rs, some c⟩ h).1, .ok (H.reverse ⟨rs, some c⟩ h).2.1, (H.reverse ⟨rs, some c⟩ h).2.2.dropLast) := by
  first
    | exact absurd hx (by decide)
    | (have hc : c < h.cells.length := get_lt hg
       have hcl : (clustersFrom rs 0 e).length = e.length := clustersFrom_length' rs 0 e
       have hfl : (clustersFrom rs 0 e).flatten = rs := clustersFrom_flatten hp
       -- `L`: the clusters in the order in which the loop writes them
       obtain ⟨L, hL⟩ : ∃ L, (clustersFrom rs 0 e).reverse = L := ⟨_, rfl⟩
       have hLl : L.length = e.length := by rw [← hL, List.length_reverse, hcl]
       have hLf : L.flatten.length = rs.length := by rw [← hL, flatten_reverse_len, hfl]
       -- on every heap the loop meets the receiver's cell holds `e`
       have hgk : ∀ k, (revH h.cells L e k).get c = some e := fun k => by
         simp only [revH]; rw [get_append_lt _ _ _ hc]; exact hg
       have hlenk : ∀ k, Gen.GemCode.gemLen ⟨rs, some c⟩ (revH h.cells L e k) = (revH h.cells L e k, .ok (e.length : Int), []) :=
         fun k => by
           rw [gemLen_regenerated (by decide) _ _ (cellAlloc_mk (by simp [revH]; omega)), okM_run, len_filled rs c _ e (hgk k)]; rfl
       unfold Gen.GemCode.gemReverse
       simp only [gemInitialized_regenerated (by decide), gemSplit_regenerated (by decide), gemClone_regenerated (by decide)]
       have hlen0 : Gen.GemCode.gemLen ⟨rs, some c⟩ ⟨h.cells ++ [some e]⟩ = (⟨h.cells ++ [some e]⟩, .ok (e.length : Int), []) := by
         simpa [revH, revF] using hlenk 0
       gem_run [hg, H.initialized, H.clone, get_append_lt _ _ _ hc, hlen0]
       rw [whileM_steps _ _ (revS rs L h.cells.length e.length) (revH h.cells L e) e.length ?hc ?hb _
         (by have := hp.length_le; omega) _ _ (by simp [revS]) (by simp [revH, revF])]
       case hc =>
         intro k hk
         gem_run [revS, decide_eq_decide]
         omega
       case hb =>
         intro k hk
         have hkL : k < L.length := by omega
         -- cluster `m - 1 - k` of the receiver is `L[k]`
         have hch : Gen.GemCode.gemCharAt ⟨rs, some c⟩ ((e.length : Int) - 1 - k) (revH h.cells L e k) =
             (revH h.cells L e k, .ok L[k], []) := by
           have hi : e.length - 1 - k < (clustersFrom rs 0 e).length := by omega
           rw [show (e.length : Int) - 1 - k = ((e.length - 1 - k : Nat) : Int) by omega,
             gemCharAt_filled (by decide) rs c e _ _ (hgk k) hp, charAt_cluster rs c _ e (hgk k) _ hi]
           simp only [← hL, List.getElem_reverse, hcl]
         have hA1 : (L.take (k + 1)).flatten = (L.take k).flatten ++ L[k] := by
           rw [List.take_succ_eq_append_getElem hkL, List.flatten_append, List.flatten_cons, List.flatten_nil, List.append_nil]
         have hbound : ((L.take (k + 1)).flatten).length ≤ rs.length := hLf ▸ take_flatten_len_le L (k + 1)
         have hEl := revF_len L k (Nat.le_of_lt hkL)
         have hlen := hlenk k
         simp only [revS, revH, revF_ends_succ L k hkL, hA1] at hch hlen hbound ⊢
         generalize L[k] = CL at *
         generalize (L.take k).flatten = A at *
         generalize (revF L k).1 = E at *
         -- the clone's cell: the first of the old ends is overwritten
         have hends : (E ++ e.drop k).set k (A.length + CL.length) = E ++ [A.length + CL.length] ++ e.drop (k + 1) := by
           have := set_middle E [] (e.drop (k + 1)) e[k] (A.length + CL.length)
           rw [hEl, ← List.drop_eq_getElem_cons hk] at this
           rw [this, List.append_assoc]; rfl
         have hXl : k < (E ++ e.drop k).length := by simp [hEl]; omega
         rw [← hends]
         generalize E ++ e.drop k = X at *
         simp only [List.length_append] at hbound
         have hR : CL.length ≤ (rs.drop A.length).length := by simp; omega
         gem_run [hch, hlen]
         rw [whileM_steps _ _ (fun j => (⟨A ++ (CL.take j ++ (rs.drop A.length).drop j), some h.cells.length⟩, (j : Int)))
           (fun _ => ⟨h.cells ++ [some X]⟩) CL.length ?hc ?hb _ (by omega) _ _ (by simp) rfl]
         case hc =>
           intro j hj
           gem_run
         case hb =>
           intro j hj
           have hlt : A.length + j < (A ++ (CL.take j ++ (rs.drop A.length).drop j)).length := by simp; omega
           have hset := sliceSet_ok (A ++ (CL.take j ++ (rs.drop A.length).drop j)) ((A.length : Int) + j) CL[j] (by omega) (by omega)
           gem_run [idx_of_getElem? (List.getElem?_eq_getElem hj), hset, show ((A.length : Int) + j).toNat = A.length + j by omega,
             blit_step A CL _ j hj hR]
         have hkk : (e.length : Int) - 1 - ((e.length : Int) - 1 - k) = k := by omega
         have hset := sliceSet_ok (X.map Int.ofNat) (k : Int) ((A.length : Int) + CL.length) (by omega) (by simp; omega)
         gem_run [hlen, hkk, osliceSet, hset, toCell_set_add]
         exact ⟨by rw [List.drop_drop], by omega⟩
       rw [reverse_filled rs c h e hg, hL]
       simp [revS, revH, revF, List.take_of_length_le (Nat.le_of_eq hLl), hLf, prep_mk])

theorem reverse_events (s : GStr) (h : Heap) : ∃ w x, (H.reverse s h).2.2 = w ++ [x] := by
  unfold H.reverse; exact ⟨_, _, rfl⟩

theorem reverse_zero (rs : List Int) (h : Heap) :
    H.reverse ⟨rs, none⟩ h =
      ((H.reverse ⟨rs, some h.cells.length⟩ ⟨h.cells ++ [none]⟩).1, (H.reverse ⟨rs, some h.cells.length⟩ ⟨h.cells ++ [none]⟩).2.1,
        .alloc h.cells.length :: (H.reverse ⟨rs, some h.cells.length⟩ ⟨h.cells ++ [none]⟩).2.2) := rfl

theorem reverse_fill (rs : List Int) (c : Nat) (h : Heap) (hc : c < h.cells.length) (hg : h.get c = none) :
    H.reverse ⟨rs, some c⟩ h =
      ((H.reverse ⟨rs, some c⟩ (h.set c (some (splitRunes rs)))).1, (H.reverse ⟨rs, some c⟩ (h.set c (some (splitRunes rs)))).2.1,
        .fill c :: (H.reverse ⟨rs, some c⟩ (h.set c (some (splitRunes rs)))).2.2) := by
  simp only [H.reverse, initialized_mk, ensure_empty hg, ensure_filled (get_set_self _ _ _ hc), List.nil_append, List.cons_append]

/-- what the generated `Reverse` computes: `H.reverse` without its last event -/
def reverseSpec (s : GStr) : HM GStr := fun h => ((H.reverse s h).1, .ok (H.reverse s h).2.1, (H.reverse s h).2.2.dropLast)

theorem reverseSpec_cons (s s' : GStr) (h h' : Heap) (x : Wr)
    (e : H.reverse s h = ((H.reverse s' h').1, (H.reverse s' h').2.1, x :: (H.reverse s' h').2.2)) :
    reverseSpec s h = prep [x] (reverseSpec s' h') := by
  obtain ⟨w, y, hw⟩ := reverse_events s' h'
  simp only [reverseSpec, e, hw, prep, ← List.cons_append, List.dropLast_concat]
  rfl

/-- `Reverse`: heap and result of `H.reverse`; the events are `H.reverse`'s without its last one (the `.fill` of the clone's
cell, which has no counterpart in the source: `Reverse` only writes ELEMENTS of the cloned slice) -/
theorem gemReverse_regenerated (hx : Gen.GemCode.gemReverse_extracted = true) (s : GStr) (h : Heap) (hv : GemOK h s) :
    Gen.GemCode.gemReverse s h =
      ((H.reverse s h).1, .ok (H.reverse s h).2.1, (H.reverse s h).2.2.dropLast) := by
  first
    | exact absurd hx (by decide)
    | (refine receiver_cases_eq Gen.GemCode.gemReverse reverseSpec (K := ?K) (fun rs e => Part e rs.length) (fun v => ?hF)
         (fun rs h => reverseSpec_cons _ _ _ _ _ (reverse_zero rs h)) ?F1
         (fun rs c h hc hg => reverseSpec_cons _ _ _ _ _ (reverse_fill rs c h hc hg)) part_splitRunes
         (gemReverse_filled hx) s h hv.1 hv.2
       case hF =>
         unfold Gen.GemCode.gemReverse
         simp only [gemInitialized_regenerated (by decide)]
         rfl
       case F1 =>
         intro rs c h hc hg
         unfold Gen.GemCode.gemReverse
         simp only [gemInitialized_regenerated (by decide), gemSplit_regenerated (by decide)]
         gem_run [H.initialized, hg, get_set_self _ _ _ hc])

/-- invariant of the fold in `H.reverse`: the ends so far are increasing, positive, and the last one is the running length -/
def RevOK (acc : List Nat × Nat) : Prop :=
  acc.1.Pairwise (· < ·) ∧ (∀ j ∈ acc.1, 0 < j ∧ j ≤ acc.2) ∧ (acc.1.getLast? = some acc.2 ∨ (acc.1 = [] ∧ acc.2 = 0))

theorem revOK_step (acc : List Nat × Nat) (x : List Int) (hx : x ≠ []) (ok : RevOK acc) : RevOK (revStep acc x) := by
  obtain ⟨h1, h2, h3⟩ := ok
  have hpos : 0 < x.length := List.length_pos_iff.mpr hx
  refine ⟨?_, ?_, ?_⟩
  · simp only [revStep, List.pairwise_append, List.pairwise_cons, List.not_mem_nil, false_imp_iff, implies_true,
      List.Pairwise.nil, and_true, List.mem_singleton, forall_eq]
    exact ⟨h1, trivial, fun j hj => by have := (h2 j hj).2; omega⟩
  · intro j hj
    simp only [revStep, List.mem_append, List.mem_singleton] at hj ⊢
    rcases hj with hj | rfl
    · have := h2 j hj; omega
    · omega
  · left; simp [revStep]

theorem revOK_foldl : ∀ (L : List (List Int)) (acc : List Nat × Nat), (∀ x ∈ L, x ≠ []) → RevOK acc →
    RevOK (L.foldl revStep acc) := by
  intro L
  induction L with
  | nil => intro acc _ ok; exact ok
  | cons x xs ih =>
    intro acc hne ok
    exact ih _ (fun y hy => hne y (List.mem_cons_of_mem _ hy)) (revOK_step acc x (hne x List.mem_cons_self) ok)

theorem revF_part (L : List (List Int)) (hne : ∀ x ∈ L, x ≠ []) :
    Part (L.foldl revStep ([], 0)).1 L.flatten.length := by
  have ok := revOK_foldl L ([], 0) hne ⟨List.Pairwise.nil, by simp, .inr ⟨rfl, rfl⟩⟩
  have hs := revStep_foldl_snd L ([], 0)
  simp only [Nat.zero_add] at hs
  obtain ⟨h1, h2, h3⟩ := ok
  rw [hs] at h2 h3
  refine ⟨h1, h2, fun hn => ?_⟩
  rcases h3 with h3 | ⟨_, h0⟩
  · exact h3
  · exact absurd h0 hn

/-- the result of `Reverse` satisfies the hypothesis again: its cell holds the ends of the reversed clusters -/
theorem reverse_gemOK (s : GStr) (h : Heap) (hv : GemOK h s) : GemOK (H.reverse s h).1 (H.reverse s h).2.1 := by
  have key : ∀ (rs : List Int) (c : Nat) (e : List Nat) (h : Heap), h.get c = some e → Part e rs.length →
      GemOK (H.reverse ⟨rs, some c⟩ h).1 (H.reverse ⟨rs, some c⟩ h).2.1 := by
    intro rs c e h hg hp
    rw [reverse_filled rs c h e hg]
    refine ⟨fun c' hc' => ?_, fun c' e' hc' he' => ?_⟩
    · cases hc'; simp
    · cases hc'
      rw [get_append_self] at he'
      cases he'
      exact revF_part _ (fun x hx => clustersFrom_nonempty hp x (List.mem_reverse.mp hx))
  exact receiver_cases (fun s h => GemOK (H.reverse s h).1 (H.reverse s h).2.1) (fun rs e => Part e rs.length)
    (fun rs h q => by rw [reverse_zero]; exact q) (fun rs c h hc hg q => by rw [reverse_fill rs c h hc hg]; exact q)
    part_splitRunes key s h hv.1 hv.2

theorem eraseIdx_mid {β : Type} (w r : List β) (x : β) : (w ++ x :: r).eraseIdx w.length = w ++ r := by
  induction w with
  | nil => rfl
  | cons a t ih => simp [List.eraseIdx_cons_succ, ih]

/-- `LastIndexFunc`: heap and result of `H.lastIndexFunc`; the events are the hand model's without the one at the position of
`H.reverse`'s final `.fill` (see `gemReverse_regenerated`) -/
theorem gemLastIndexFunc_regenerated (hx : Gen.GemCode.gemLastIndexFunc_extracted = true) (s : GStr) (f : List Int → Bool)
    (h : Heap) (hv : GemOK h s) :
    Gen.GemCode.gemLastIndexFunc s f h =
      ((H.lastIndexFunc f s h).1, .ok (H.lastIndexFunc f s h).2.1,
        (H.lastIndexFunc f s h).2.2.eraseIdx ((H.reverse s h).2.2.length - 1)) := by
  first
    | exact absurd hx (by decide)
    | (have hrev := gemReverse_regenerated (by decide) s h hv
       have hok := reverse_gemOK s h hv
       have hidx := gemIndexFunc_regenerated (by decide) (H.reverse s h).2.1 f (H.reverse s h).1 hok
       obtain ⟨tr1, -⟩ := reverse_spec s h
       have tr2 := tr_indexFunc f (H.reverse s h).2.1 (H.reverse s h).1
       have hal : CellAlloc (H.indexFunc f (H.reverse s h).2.1 (H.reverse s h).1).1 s := by
         intro c hc
         have := hv.1 c hc
         have := tr1.mono
         have := tr2.mono
         omega
       have hlen := gemLen_regenerated (by decide) s _ hal
       obtain ⟨w, x, hw⟩ := reverse_events s h
       unfold Gen.GemCode.gemLastIndexFunc
       rw [run_bind_ok hrev]
       unfold H.lastIndexFunc
       gem_run [hidx, hlen, hw]
       split <;> simp [prep, eraseIdx_mid])

theorem gemReverse_inv (hx : Gen.GemCode.gemReverse_extracted = true) {h : Heap} {pool : List GStr} {v : GStr} (hi : Inv h pool)
    (hv : v ∈ zero :: pool) : Gen.GemCode.gemReverse v h =
      ((H.reverse v h).1, .ok (H.reverse v h).2.1, (H.reverse v h).2.2.dropLast) :=
  gemReverse_regenerated hx v h (gemOK_of_inv hi hv)

theorem gemLastIndexFunc_inv (hx : Gen.GemCode.gemLastIndexFunc_extracted = true) {h : Heap} {pool : List GStr} {v : GStr}
    (f : List Int → Bool) (hi : Inv h pool) (hv : v ∈ zero :: pool) : Gen.GemCode.gemLastIndexFunc v f h =
      ((H.lastIndexFunc f v h).1, .ok (H.lastIndexFunc f v h).2.1,
        (H.lastIndexFunc f v h).2.2.eraseIdx ((H.reverse v h).2.2.length - 1)) :=
  gemLastIndexFunc_regenerated hx v f h (gemOK_of_inv hi hv)

end RosedVerif.GenCodeEq
