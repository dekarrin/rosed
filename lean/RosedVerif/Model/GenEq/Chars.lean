/-
Editor.CharCount, Editor.subEd, Editor.Chars, Editor.CharsFrom, Editor.CharsTo.
-/
import RosedVerif.Model.GenEq.Core
import RosedVerif.Model.InstAFacts
set_option linter.unusedVariables false
set_option linter.unusedSectionVars false
set_option linter.unusedSimpArgs false
namespace RosedVerif.GenCodeEq
open RosedVerif

variable {α : Type} [DecidableEq α] (cx : Ctx α)

theorem editorCharCount_regenerated (h : Gen.Code.editorCharCount_extracted = true) (ed : Editor α) :
    Gen.Code.editorCharCount cx ed = pure (ed.charCount cx : Int) := by
  first
    | exact absurd h (by decide)
    | (unfold Gen.Code.editorCharCount Editor.charCount
       go_norm
       simp [Go.deref])

/-- the byte-offset search loop of `Chars` (state: chIdx, byteStart, byteEnd); `L = len(ed.Text)` -/
def chBody {ρ : Type} (rs re L : Int) (_i : Int) (byteIdx : Int) (s : Int × Int × Int) : R ((Int × Int × Int) × Go.Ctl ρ) :=
  if s.1 + 1 = rs then
    (if re ≥ L then pure ((s.1 + 1, byteIdx, s.2.2), Go.Ctl.brk)
     else if s.1 + 1 = re then pure ((s.1 + 1, byteIdx, byteIdx), Go.Ctl.brk)
     else pure ((s.1 + 1, byteIdx, s.2.2), Go.Ctl.next))
  else if s.1 + 1 = re then pure ((s.1 + 1, s.2.1, byteIdx), Go.Ctl.brk)
  else pure ((s.1 + 1, s.2.1, s.2.2), Go.Ctl.next)

/-- The canonical loop started at item `k` stops at item `t`: at the start position when the end position is the end of
the text (`byteEnd` stays as it was), at the end position otherwise. -/
theorem ch_loop {ρ : Type} (f : Nat → Int) (rs t : Nat) (re L : Int)
    (hstop : (re ≥ L ∧ t = rs ∧ (rs : Int) < re) ∨ (¬ re ≥ L ∧ re = t ∧ rs ≤ t)) :
    ∀ (m k : Nat) (i bs be : Int), k ≤ t → t < k + m →
      Go.forRangeCtlAux (ρ := ρ) (chBody rs re L) i ((List.range' k m).map f) ((k : Int) - 1, bs, be) =
        pure (((t : Int), (if k ≤ rs then f rs else bs), (if re ≥ L then be else f t)), none) := by
  intro m
  induction m with
  | zero => intro k i bs be h1 h2; omega
  | succ m ih =>
    intro k i bs be h1 h2
    have hre : (k : Int) = re ↔ (¬ re ≥ L ∧ k = t) := by omega
    simp only [List.range'_succ, List.map_cons, Go.forRangeCtlAux, chBody, Int.sub_add_cancel, Int.natCast_inj, hre]
    by_cases hk : k = t
    · subst hk
      have hrs : rs ≤ k ∧ (re ≥ L → k = rs) := by omega
      by_cases hL : re ≥ L
      · simp only [hL, hrs.2 hL, if_true, Nat.le_refl, pure_bind]
      · by_cases hr : k = rs
        · subst hr; simp only [hL, if_true, if_false, not_false_eq_true, and_self, Nat.le_refl, pure_bind]
        · have : ¬ k ≤ rs := by omega
          simp only [hL, hr, this, if_true, if_false, not_false_eq_true, and_self, pure_bind]
    · by_cases hr : k = rs
      · subst hr
        have hL : ¬ re ≥ L := by omega
        have := ih (k + 1) (i + 1) (f k) be (by omega) (by omega)
        simp only [Int.natCast_add, Int.cast_ofNat_Int, Int.add_sub_cancel, show ¬ k + 1 ≤ k by omega, if_false] at this
        simp only [hL, hk, and_false, if_true, if_false, pure_bind, this, Nat.le_refl]
      · have := ih (k + 1) (i + 1) bs be (by omega) (by omega)
        simp only [Int.natCast_add, Int.cast_ofNat_Int, Int.add_sub_cancel, show k + 1 ≤ rs ↔ k ≤ rs by omega] at this
        simp only [hr, hk, and_false, if_false, pure_bind, this]

theorem editorSubEd_regenerated (h : Gen.Code.editorSubEd_extracted = true) (ed : Editor α) (a b : Int) :
    Gen.Code.editorSubEd cx ed a b = ed.subEd cx a b := by
  first
    | exact absurd h (by decide)
    | (unfold Gen.Code.editorSubEd Editor.subEd
       simp only [Go.strSlice, Go.edWithRef, Editor.withText]
       all_goals (cases ed <;> rfl))

theorem cOff_lt {e : List Nat} {n : Nat} (h : Part e n) (a : Nat) (ha : a < e.length) : cOff e a < n := by
  have hle : e[a] ≤ n := (h.pos _ (List.getElem_mem ha)).2
  unfold cOff
  split
  · have := (h.pos _ (List.getElem_mem ha)).1; omega
  · rename_i ha0
    have hlt : e[a - 1]'(by omega) < e[a] := by
      have := List.pairwise_iff_getElem.mp h.sorted (a - 1) a (by omega) ha (by omega)
      exact this
    have hg : e.getD (a - 1) 0 = e[a - 1]'(by omega) := by
      simp [List.getD_eq_getElem?_getD, show a - 1 < e.length by omega]
    omega

/- Tie the generated byte-offset search loop of `Chars` to the canonical `chBody` through a VIEW of its state: which
component is the rune counter / `byteStart` / `byteEnd`, and the offset `d` of the counter (0: incremented at the top
of the body, 1: at the bottom).  The code after the loop reads `byteStart` and `byteEnd` only.  A wrong view is
rejected by the first two side goals (code after the loop, initial state) before the body is looked at.
A proof script for one place, `case sim` of `editorChars_regenerated`: with hygiene off it names that context's `cx`, `ed`,
`E`, `stN` (the start cluster) and `hrun` (the byte offsets as a `List.range'` image).  In `rest` the two sides are the same
term, which `rw [hrun]` finds by its closing `rfl`; `$fin` is what a caller would add there. -/
set_option hygiene false in
local macro "ch_view " re:term:max c:term:max bs:term:max be:term:max d:term:max " then " fin:tacticSeq : tactic => `(tactic| (
  refine Eq.trans (finRel_bind (fun s : Int × Int × Int => ($bs s, $be s)) (fun s : Int × Int × Int => (s.2.1, s.2.2))
    (K' := fun t => Editor.subEd cx ed t.1.2.1 (if t.1.2.2 = -1 then ((byteLen cx ed.text : Nat) : Int) else t.1.2.2))
    (forRangeCtlM_sim (fun s : Int × Int × Int => ($c s - $d, $bs s, $be s)) _ _ _ (chBody (((clusterSpan E stN).1 : Nat) : Int) $re ((byteLen cx ed.text : Nat) : Int)) (fun _ => rfl) _ _ ?step)
    ?hK) ?rest
  case hK =>
    intro r r' o hobs
    obtain ⟨h1, h2⟩ := Prod.mk.inj hobs
    (simp only [← h1, ← h2]) <;> first | rfl | ((repeat' split) <;> first | rfl | omega)
  case rest =>
    show Go.forRangeCtlAux (chBody _ _ _) 0 _ (-1, -1, -1) >>= _ = _
    (rw [hrun])
    ($fin)
  case step =>
    intro j byteIdx s hj
    simp only [chBody]
    (repeat' split) <;>
      first
        | omega
        | ((simp only [ctlRel_next, ctlRel_brk, ctlRel_ret, ctlRel_throw, Prod.mk.injEq]) <;>
            (repeat' apply And.intro) <;> first | rfl | trivial | omega)))

/- all views of a state of three integers; the source keeps (chIdx, byteStart, byteEnd) in this order and increments
`chIdx` at the top of the body (the first view) -/
set_option hygiene false in
local macro "ch_views " re:term:max : tactic => `(tactic|
  first
    | ch_view $re (·.1) (·.2.1) (·.2.2) 0 then skip
    | ch_view $re (·.1) (·.2.1) (·.2.2) 1 then skip
    | ch_view $re (·.1) (·.2.2) (·.2.1) 0 then skip
    | ch_view $re (·.1) (·.2.2) (·.2.1) 1 then skip
    | ch_view $re (·.2.1) (·.1) (·.2.2) 0 then skip
    | ch_view $re (·.2.1) (·.1) (·.2.2) 1 then skip
    | ch_view $re (·.2.1) (·.2.2) (·.1) 0 then skip
    | ch_view $re (·.2.1) (·.2.2) (·.1) 1 then skip
    | ch_view $re (·.2.2) (·.1) (·.2.1) 0 then skip
    | ch_view $re (·.2.2) (·.1) (·.2.1) 1 then skip
    | ch_view $re (·.2.2) (·.2.1) (·.1) 0 then skip
    | ch_view $re (·.2.2) (·.2.1) (·.1) 1 then skip)

theorem editorChars_regenerated (h : Gen.Code.editorChars_extracted = true) (hwf : cx.WF) (ed : Editor α) (s e : Int) :
    Gen.Code.editorChars cx ed s e = ed.chars cx s e := by
  first
    | exact absurd h (by decide)
    | (unfold Gen.Code.editorChars Editor.chars
       simp only [editorSubEd_regenerated cx (by decide)]
       have hlen : Go.sliceLen (Go.gsGraphemeIndexes cx ed.text) = ((cx.ends ed.text).length : Int) := by
         simp [Go.sliceLen, Go.gsGraphemeIndexes]
       simp only [hlen, ite_pure_bind, pure_bind, Go.strLen, beq_iff_eq]
       generalize hst : (if s = Gen.endSentinel then ((cx.ends ed.text).length : Int) else s) = s'
       generalize hen : (if e = Gen.endSentinel then ((cx.ends ed.text).length : Int) else e) = e'
       have hb := rangeToIndexes_bounds ((cx.ends ed.text).length : Int) s' e' (Int.natCast_nonneg _)
       generalize hri : rangeToIndexes ((cx.ends ed.text).length : Int) s' e' = r at hb ⊢
       obtain ⟨st, en⟩ := r
       simp only [] at hb ⊢
       have hpart := hwf.1 ed.text
       have hpos := hwf.2
       generalize hE : cx.ends ed.text = E at *
       by_cases hge : st ≥ (E.length : Int)
       · simp only [hge, if_true]
       · simp only [hge, if_false]
         obtain ⟨stN, rfl⟩ : ∃ k : Nat, st = k := ⟨st.toNat, by omega⟩
         obtain ⟨enN, rfl⟩ : ∃ k : Nat, en = k := ⟨en.toNat, by omega⟩
         have hst1 : stN < E.length := by omega
         have hidx : ∀ (k : Nat) (K : Int → R (Editor α)), k < E.length →
             (Go.idx (Go.gsGraphemeIndexes cx ed.text) (k : Int) >>= fun t3 => Go.idx t3 0 >>= K) =
               K (((clusterSpan E k).1 : Nat) : Int) := by
           intro k K hk
           rw [idx_nat _ _ (by simp [Go.gsGraphemeIndexes, hE, hk])]
           simp [Go.gsGraphemeIndexes, hE, Go.idx]
         rw [hidx stN _ hst1]
         simp only [Int.toNat_natCast]
         have hrun : Go.strByteOffsets cx ed.text =
             (List.range' 0 ed.text.length).map (fun k => ((byteOff cx ed.text k : Nat) : Int)) := by
           simp [Go.strByteOffsets, List.range_eq_range']
         -- The loop is tied to the canonical one once, for an arbitrary end position `RE`.  The case analysis of the
         -- simulation step is dear in a large context: nothing but `hrun` is kept for it.
         refine Eq.trans (bind_congr (m := R)
           (g := fun RE =>
             Go.forRangeCtlAux (chBody (ρ := Editor α) (((clusterSpan E stN).1 : Nat) : Int) RE ((byteLen cx ed.text : Nat) : Int))
               0 (Go.strByteOffsets cx ed.text) (-1, -1, -1) >>= fun t =>
             Editor.subEd cx ed t.1.2.1 (if t.1.2.2 = -1 then ((byteLen cx ed.text : Nat) : Int) else t.1.2.2))
           fun RE => ?sim) ?run
         case sim =>
           clear hb hpart hpos hE hri hst hen hlen hge hst1 hidx hwf h
           ch_views RE
         simp only [hrun]
         have hN : ed.text.length ≤ byteLen cx ed.text := length_le_byteLen fun a _ => hpos a
         have hrs : (clusterSpan E stN).1 < ed.text.length := by
           rw [clusterSpan_fst]; exact cOff_lt hpart stN hst1
         by_cases hen1 : (enN : Int) < (E.length : Int)
         · have hen2 : enN < E.length := by omega
           simp only [hen1, if_true, bind_assoc, pure_bind]
           rw [hidx enN _ hen2]
           have hre : (clusterSpan E enN).1 < ed.text.length := by
             rw [clusterSpan_fst]; exact cOff_lt hpart enN hen2
           have hle : (clusterSpan E stN).1 ≤ (clusterSpan E enN).1 := by
             rw [clusterSpan_fst, clusterSpan_fst]; exact hpart.cOff_mono (by omega) (by omega)
           have hL : ¬ ((((clusterSpan E enN).1 : Nat) : Int) ≥ ((byteLen cx ed.text : Nat) : Int)) := by omega
           have key := ch_loop (ρ := Editor α) (fun k => ((byteOff cx ed.text k : Nat) : Int))
             (clusterSpan E stN).1 (clusterSpan E enN).1 _ _ (Or.inr ⟨hL, rfl, hle⟩) ed.text.length 0 0 (-1) (-1)
             (by omega) (by omega)
           simp only [Int.natCast_zero, Int.zero_sub, Nat.zero_le, hL, if_true, if_false] at key
           have hne : ¬ (((byteOff cx ed.text (clusterSpan E enN).1 : Nat) : Int) = -1) := by omega
           simp only [key, pure_bind, hne, if_false]
         · have hen2 : enN = E.length := by omega
           simp only [hen1, if_false, pure_bind]
           have hL : (((byteLen cx ed.text : Nat) : Int) ≥ ((byteLen cx ed.text : Nat) : Int)) := Int.le_refl _
           have key := ch_loop (ρ := Editor α) (fun k => ((byteOff cx ed.text k : Nat) : Int))
             (clusterSpan E stN).1 (clusterSpan E stN).1 _ _ (Or.inl ⟨hL, rfl, by omega⟩) ed.text.length 0 0 (-1) (-1)
             (by omega) (by omega)
           simp only [Int.natCast_zero, Int.zero_sub, Nat.zero_le, hL, if_true] at key
           simp only [key, pure_bind, if_true])

theorem editorCharsFrom_regenerated (h : Gen.Code.editorCharsFrom_extracted = true) (hwf : cx.WF) (ed : Editor α) (start : Int) :
    Gen.Code.editorCharsFrom cx ed start = ed.charsFrom cx start := by
  first
    | exact absurd h (by decide)
    | (unfold Gen.Code.editorCharsFrom Editor.charsFrom
       simp only [editorChars_regenerated cx (by decide) hwf]
       go_norm
       all_goals simp)

theorem editorCharsTo_regenerated (h : Gen.Code.editorCharsTo_extracted = true) (hwf : cx.WF) (ed : Editor α) (e : Int) :
    Gen.Code.editorCharsTo cx ed e = ed.charsTo cx e := by
  first
    | exact absurd h (by decide)
    | (unfold Gen.Code.editorCharsTo Editor.charsTo
       simp only [editorChars_regenerated cx (by decide) hwf]
       go_norm
       all_goals simp)

theorem editorChars_cxA (h : Gen.Code.editorChars_extracted = true) (ed : Editor Int) (s e : Int) :
    Gen.Code.editorChars cxA ed s e = ed.chars cxA s e := editorChars_regenerated cxA h cxA_WF ed s e

end RosedVerif.GenCodeEq
