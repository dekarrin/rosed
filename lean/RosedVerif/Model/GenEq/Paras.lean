/-
Editor.applyGParagraphsOpts, Editor.ApplyParagraphsOpts, Editor.ApplyParagraphs.
-/
import RosedVerif.Model.GenEq.Options
import RosedVerif.Model.GenEq.InstA
set_option linter.unusedVariables false
set_option linter.unusedSectionVars false
set_option linter.unusedSimpArgs false
namespace RosedVerif.GenCodeEq
open RosedVerif

variable {α : Type} [DecidableEq α] (cx : Ctx α)

theorem idx_append_cons {β : Type} (p : List β) (x : β) (r : List β) :
    Go.idx (p ++ x :: r) (p.length : Int) = pure x := by
  rw [idx_nat _ _ (by simp), List.getElem_append_right (Nat.le_refl _)]
  simp

theorem idx_append_cons_succ {β : Type} (p : List β) (x y : β) (r : List β) :
    Go.idx (p ++ x :: y :: r) ((p.length : Int) + 1) = pure y := by
  have := idx_append_cons (p ++ [x]) y r
  simpa using this

theorem sliceSet_append_cons_succ {β : Type} (p : List β) (x y v : β) (r : List β) :
    Go.sliceSet (p ++ x :: y :: r) ((p.length : Int) + 1) v = pure (p ++ x :: v :: r) := by
  rw [← Int.natCast_succ, sliceSet_nat _ _ _ (by simp)]
  simp [List.set_append]

/-- `nxt[len(lineSep):]` counts bytes; after a prefix that is a whole number of atoms it is the `drop` -/
theorem byteSlice_drop_prefix (hpos : ∀ a, 0 < cx.blen a) (p s : List α) (h : p.isPrefixOf s = true) :
    byteSlice cx s (byteLen cx p) (byteLen cx s) = pure (s.drop p.length) := by
  obtain ⟨t, rfl⟩ := List.isPrefixOf_iff_prefix.mp h
  simpa [byteOff] using byteSlice_drop cx hpos (p ++ t) p.length (by simp)

/-- the paragraph loop over the model's primitives (state: paragraphs, transformed) -/
def gpBody (op : Int → List α → List α → List α → R (List (List α))) (lineSep prevSuffix nextPrefix : List α) (ambig : Bool)
    (i : Int) (_x : List α) (s : List (List α) × List (List α)) : R (List (List α) × List (List α)) :=
  Go.idx s.1 i >>= fun para =>
  (if i ≠ (s.1.length : Int) - 1 then
      (if ambig = true then
        Go.idx s.1 (i + 1) >>= fun nxt =>
          if lineSep.isPrefixOf nxt = true then
            Go.idx s.1 (i + 1) >>= fun nxt2 =>
            byteSlice cx nxt2 (byteLen cx lineSep) (byteLen cx nxt2) >>= fun nxt' =>
              Go.sliceSet s.1 (i + 1) nxt' >>= fun ps => pure (prevSuffix, ps, para ++ lineSep)
          else pure (prevSuffix, s.1, para)
      else pure (prevSuffix, s.1, para))
    else pure (([] : List α), s.1, para)) >>= fun r =>
  op i r.2.2 (if i ≠ 0 then nextPrefix else []) r.1 >>= fun out => pure (r.2.1, s.2 ++ out)

/-- The model's recursion on (current paragraph, rest) is the `range` loop over `paragraphs`.  The loop overwrites
`paragraphs[i+1]` (the line separator cut off its front) before it gets there, so the body re-reads `s.1[i]` and ignores
the element the `range` hands it: `xs` only has to have the right length. -/
theorem paraLoop_eq_range (hpos : ∀ a, 0 < cx.blen a) (op : Int → List α → List α → List α → R (List (List α)))
    (lineSep prevSuffix nextPrefix : List α) (ambig : Bool) :
    ∀ (rest : List (List α)) (cur : List α) (done acc xs : List (List α)), xs.length = rest.length + 1 →
      (acc ++ ·) <$> paraLoop (fun i => op (i : Int)) lineSep prevSuffix nextPrefix ambig done.length cur rest =
        (·.2) <$> Go.forRangeAux (gpBody cx op lineSep prevSuffix nextPrefix ambig) (done.length : Int) xs
          (done ++ cur :: rest, acc) := by
  intro rest
  induction rest with
  | nil =>
    intro cur done acc xs hx
    match xs, hx with
    | [x], _ =>
      simp only [Go.forRangeAux, gpBody, idx_append_cons, pure_bind, paraLoop]
      have h1 : ¬ ((done.length : Int) ≠ (((done ++ [cur]).length : Nat) : Int) - 1) := by simp
      simp only [h1, if_false, pure_bind, bind_assoc, map_bind]
      have h2 : ((done.length != 0) = true) ↔ ((done.length : Int) ≠ 0) := by simp
      simp only [h2]
      refine bind_congr (m := R) fun out => ?_
      rfl
  | cons nxt rest' ih =>
    intro cur done acc xs hx
    match xs, hx with
    | x :: xs', hx' =>
      simp only [Go.forRangeAux, gpBody, idx_append_cons, idx_append_cons_succ, sliceSet_append_cons_succ, pure_bind, paraLoop]
      have h1 : ((done.length : Int) ≠ (((done ++ cur :: nxt :: rest').length : Nat) : Int) - 1) := by
        simp; omega
      have h2 : ((done.length != 0) = true) ↔ ((done.length : Int) ≠ 0) := by simp
      simp only [h2]
      rw [if_pos h1]
      have key : ∀ (nx : List α) (out : List (List α)),
          (paraLoop (fun i => op (i : Int)) lineSep prevSuffix nextPrefix ambig (done.length + 1) nx rest'
            >>= fun more => (fun x => acc ++ x) <$> (pure (out ++ more) : R _)) =
          (·.2) <$> Go.forRangeAux (gpBody cx op lineSep prevSuffix nextPrefix ambig) ((done.length : Int) + 1) xs'
            (done ++ cur :: nx :: rest', acc ++ out) := by
        intro nx out
        have := ih nx (done ++ [cur]) (acc ++ out) xs' (by simpa using hx')
        simp only [List.length_append, List.length_cons, List.length_nil, Nat.zero_add, Int.natCast_add, Int.cast_ofNat_Int,
          List.append_assoc, List.cons_append, List.nil_append] at this
        rw [← this]
        simp only [map_eq_pure_bind, bind_assoc, pure_bind, List.append_assoc]
      cases ambig
      · simp only [Bool.false_and, Bool.false_eq_true, if_false, pure_bind, bind_assoc, map_bind]
        refine bind_congr (m := R) fun out => ?_
        exact key nxt out
      · by_cases hp : lineSep.isPrefixOf nxt = true
        · simp only [Bool.true_and, hp, if_true, byteSlice_drop_prefix cx hpos lineSep nxt hp, pure_bind, bind_assoc, map_bind]
          refine bind_congr (m := R) fun out => ?_
          exact key _ out
        · simp only [Bool.true_and, hp, if_false, if_true, pure_bind, bind_assoc, map_bind, Bool.false_eq_true]
          refine bind_congr (m := R) fun out => ?_
          exact key nxt out

/-- Needs: the built-in default separators are non-empty (`parts[0]`, `paragraphs` never empty) and every
atom has a positive UTF-8 length (the byte slice `paragraphs[idx+1][len(lineSep):]` is the rune-level `drop`). -/
theorem editorApplyGParagraphsOpts_regenerated (h : Gen.Code.editorApplyGParagraphsOpts_extracted = true)
    (hd : DefaultsOk cx) (hpos : ∀ a, 0 < cx.blen a) (ed : Editor α)
    (op : Int → List α → List α → List α → R (List (List α))) (o : Options α) :
    Gen.Code.editorApplyGParagraphsOpts cx ed op o = ed.applyParasM cx (fun i => op (i : Int)) o := by
  first
    | exact absurd h (by decide)
    | (unfold Gen.Code.editorApplyGParagraphsOpts Editor.applyParasM
       simp only [optionsWithDefaults_regenerated cx (by decide)]
       go_norm
       have hls : (o.withDefaults cx).lineSep ≠ [] := by
         rw [(withDefaults_fields cx o).1]; split
         · exact hd.1
         · simp_all
       have hps : (o.withDefaults cx).paraSep ≠ [] := by
         rw [(withDefaults_fields cx o).2.2.1]; split
         · exact hd.2.2
         · simp_all
       generalize o.withDefaults cx = od at *
       have hparts := splitOn_ne_nil' od.paraSep od.lineSep hls
       have hparas := splitOn_ne_nil' ed.text od.paraSep hps
       have h0 : Go.idx (splitOn od.paraSep od.lineSep) 0 = pure ((splitOn od.paraSep od.lineSep).headD []) := by
         rw [idx_zero]
         cases hsp : splitOn od.paraSep od.lineSep with
         | nil => exact absurd hsp hparts
         | cons a t => rfl
       have hl : Go.idx (splitOn od.paraSep od.lineSep) (((splitOn od.paraSep od.lineSep).length : Int) - 1) =
           pure ((splitOn od.paraSep od.lineSep).getLastD []) := by
         rw [idx_last _ hparts, List.getLastD_eq_getLast?, List.getLast?_eq_some_getLast hparts]
         rfl
       simp only [h0, hl, pure_bind, bind_pure, ite_pure, Go.forRangeM]
       cases hsp : splitOn ed.text od.paraSep with
       | nil => exact absurd hsp hparas
       | cons p ps =>
         simp only []
         have key := paraLoop_eq_range cx hpos op od.lineSep ((splitOn od.paraSep od.lineSep).headD [])
           (if (splitOn od.paraSep od.lineSep).length > 1 then (splitOn od.paraSep od.lineSep).getLastD [] else [])
           (od.paraSep ++ od.lineSep == od.lineSep ++ od.paraSep) ps p [] [] (p :: ps) rfl
         simp only [List.length_nil, Int.natCast_zero, List.nil_append] at key
         have e1 : ∀ (m : R (List (List α))) (k : List (List α) → R (Editor α)),
             m >>= k = ((fun x => x) <$> m) >>= k := by
           intro m k; simp
         rw [e1 (paraLoop _ _ _ _ _ _ _ _), key]
         simp only [map_eq_pure_bind, bind_assoc, pure_bind]
         congr 1
         refine congrArg (fun b => Go.forRangeAux b (0 : Int) (p :: ps) (p :: ps, ([] : List (List α)))) ?_
         funext i x s
         have hc : (((splitOn od.paraSep od.lineSep).length : Int) > 1) ↔ ((splitOn od.paraSep od.lineSep).length > 1) := by omega
         have hfin : ∀ (a : List (List α)) (t11 : List (List α)),
             (pure (a, if t11 ≠ [] then s.2 ++ t11 else s.2) : R _) = pure (a, s.2 ++ t11) := by
           intro a t11; cases t11 <;> simp
         simp only [gpBody, hc, beq_iff_eq, hfin]
         refine bind_congr (m := R) fun para => ?_
         by_cases h1 : i ≠ (s.1.length : Int) - 1
         · simp only [h1, if_true, ne_eq, not_false_eq_true, bind_assoc, pure_bind]
           by_cases h2 : od.paraSep ++ od.lineSep = od.lineSep ++ od.paraSep
           · simp only [h2, if_true, bind_assoc, pure_bind, decide_true]
             refine bind_congr (m := R) fun nxt => ?_
             by_cases h3 : od.lineSep.isPrefixOf nxt = true
             · simp only [h3, if_true, bind_assoc, pure_bind]
             · simp only [h3, if_false, bind_assoc, pure_bind, Bool.false_eq_true]
           · simp only [h2, if_false, bind_assoc, pure_bind, decide_false, Bool.false_eq_true]
         · simp only [h1, if_false, bind_assoc, pure_bind])

theorem editorApplyParagraphsOpts_regenerated (h : Gen.Code.editorApplyParagraphsOpts_extracted = true)
    (hd : DefaultsOk cx) (hpos : ∀ a, 0 < cx.blen a) (ed : Editor α)
    (op : Int → List α → List α → List α → R (List (List α))) (o : Options α) :
    Gen.Code.editorApplyParagraphsOpts cx ed op o = ed.applyParasM cx (fun i => op (i : Int)) o := by
  first
    | exact absurd h (by decide)
    | (unfold Gen.Code.editorApplyParagraphsOpts
       simp only [editorApplyGParagraphsOpts_regenerated cx (by decide) hd hpos, bind_pure])

theorem editorApplyParagraphs_regenerated (h : Gen.Code.editorApplyParagraphs_extracted = true)
    (hd : DefaultsOk cx) (hpos : ∀ a, 0 < cx.blen a) (ed : Editor α)
    (op : Int → List α → List α → List α → R (List (List α))) :
    Gen.Code.editorApplyParagraphs cx ed op = ed.applyParasM cx (fun i => op (i : Int)) ed.opts := by
  first
    | exact absurd h (by decide)
    | (unfold Gen.Code.editorApplyParagraphs
       simp only [editorApplyParagraphsOpts_regenerated cx (by decide) hd hpos, bind_pure])

theorem editorApplyGParagraphsOpts_cxA (h : Gen.Code.editorApplyGParagraphsOpts_extracted = true) (ed : Editor Int)
    (op : Int → List Int → List Int → List Int → R (List (List Int))) (o : Options Int) :
    Gen.Code.editorApplyGParagraphsOpts cxA ed op o = ed.applyParasM cxA (fun i => op (i : Int)) o :=
  editorApplyGParagraphsOpts_regenerated cxA h defaultsOk_cxA cxA_WF.2 ed op o

end RosedVerif.GenCodeEq
