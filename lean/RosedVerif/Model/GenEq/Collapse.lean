/-
manip.CollapseSpace, Editor.CollapseSpaceOpts, Editor.CollapseSpace.
-/
import RosedVerif.Model.GenEq.While
import RosedVerif.Model.GenEq.Options
set_option linter.unusedVariables false
set_option linter.unusedSectionVars false
set_option linter.unusedSimpArgs false
namespace RosedVerif.GenCodeEq
open RosedVerif

variable {α : Type} [DecidableEq α] (cx : Ctx α)

/-- the loop of CollapseSpace on the model's state (text, i) -/
def csCond (s : List α × Nat) : R Bool := pure (decide (s.2 < gLen cx s.1))

def csBody (s : List α × Nat) : R (List α × Nat) := do
  let ch ← gCharAt cx s.1 s.2
  match ch with
  | [] => throw .index
  | c :: _ =>
    (if cx.isSpace c then gSetCharAt cx s.1 s.2 [cx.sp] else pure s.1) >>= fun t' => pure (t', s.2 + 1)

theorem setSpacesLoop_eq_while (fuel : Nat) (t : List α) (i : Nat) :
    setSpacesLoop cx fuel t i = Prod.fst <$> Go.whileM fuel (csCond cx) (csBody cx) (t, i) := by
  refine whileM_unique _ _ Prod.fst (fun n s => setSpacesLoop cx n s.1 s.2) (fun _ => rfl) (fun n s => ?_) fuel (t, i)
  simp only [setSpacesLoop, csCond, csBody, pure_bind, decide_eq_true_eq, bind_assoc]
  refine ite_congr rfl (fun _ => bind_congr (m := R) fun ch => ?_) (fun _ => rfl)
  cases ch with
  | nil => rfl
  | cons c rest => simp only [bind_assoc, pure_bind, ite_bind]

theorem collapseSpace_regenerated (h : Gen.Code.collapseSpace_extracted = true) (text lineSep : List α) :
    Gen.Code.collapseSpace cx text lineSep = collapseSpace cx text lineSep := by
  first
    | exact absurd h (by decide)
    | (unfold Gen.Code.collapseSpace collapseSpace
       go_norm
       simp only [setSpacesLoop_eq_while, map_eq_pure_bind, bind_assoc, pure_bind, ite_pure, List.isEmpty_eq_false_iff, ne_eq,
         ite_not]
       refine whileM_bind_image (fun s : List α × Nat => (s.1, (s.2 : Int))) ?_ ?_ ?_ _ (_, 0)
       · intro s; simp [csCond]
       · intro s
         simp only [csBody, idx_zero, map_bind]
         refine bind_congr (m := R) fun ch => ?_
         cases ch with
         | nil => rfl
         | cons c rest => by_cases hsp : cx.isSpace c = true <;> simp [hsp]
       · intro s; rfl)

theorem editorCollapseSpaceOpts_regenerated (h : Gen.Code.editorCollapseSpaceOpts_extracted = true) (ed : Editor α)
    (o : Options α) : Gen.Code.editorCollapseSpaceOpts cx ed o = ed.collapseSpaceOpts cx o := by
  first
    | exact absurd h (by decide)
    | (unfold Gen.Code.editorCollapseSpaceOpts Editor.collapseSpaceOpts
       simp only [optionsWithDefaults_regenerated cx (by decide), collapseSpace_regenerated cx (by decide)]
       go_norm
       all_goals simp)

theorem editorCollapseSpace_regenerated (h : Gen.Code.editorCollapseSpace_extracted = true) (ed : Editor α) :
    Gen.Code.editorCollapseSpace cx ed = ed.collapseSpaceOpts cx ed.opts := by
  first
    | exact absurd h (by decide)
    | (unfold Gen.Code.editorCollapseSpace
       simp only [editorCollapseSpaceOpts_regenerated cx (by decide), bind_pure])

end RosedVerif.GenCodeEq
