/-
Package internal/gem at pointer level (see GenEq/Gem.lean): `Sub`, `SetCharAt`, `Repeat`, `RepeatStr`, `IndexFunc`.
-/
import RosedVerif.Model.GenEq.Gem
set_option linter.unusedVariables false
set_option linter.unusedSectionVars false
set_option linter.unusedSimpArgs false
namespace RosedVerif.GenCodeEq
open RosedVerif RosedVerif.H RosedVerif.HGo

theorem rebase_getD {β : Type} (l : List β) (f : β → β) (k : Nat) (hk : k < l.length) (d : β) :
    ((l.take k).map f ++ l.drop k).getD k d = l[k] := by
  have h1 : ((l.take k).map f).length = k := by simp; omega
  rw [List.getD_eq_getElem?_getD, List.getElem?_append_right (by omega), h1]
  simp [List.getElem?_eq_getElem hk]

theorem rebase_step {β : Type} (l : List β) (f : β → β) (k : Nat) (hk : k < l.length) :
    ((l.take k).map f ++ l.drop k).set k (f l[k]) = (l.take (k + 1)).map f ++ l.drop (k + 1) := by
  have h1 : ((l.take k).map f).length = k := by simp; omega
  have h2 : l.take (k + 1) = l.take k ++ [l[k]] := by
    rw [List.take_add_one, List.getElem?_eq_getElem hk]; rfl
  rw [List.set_append_right _ _ (by omega), h1, Nat.sub_self, List.drop_eq_getElem_cons hk, List.set_cons_zero, h2,
    List.map_append, List.append_assoc]
  rfl

/-- the rebase loop of `Sub`: `(*clone.gc)[i] -= runesStart` for every `i` -/
theorem rebase_loop (c : Nat) (a : Nat) (l : List Nat) (hl : ∀ x ∈ l, a ≤ x) (body : Int → Int → Unit → HM Unit)
    (hb : ∀ (k : Nat) (x : Int) (h : Heap) (cur : List Nat), k < cur.length → c < h.cells.length → h.get c = some cur →
      a ≤ cur.getD k 0 → body k x () h = (h.set c (some (cur.set k (cur.getD k 0 - a))), .ok (), []))
    (h : Heap) (hc : c < h.cells.length) (hg : h.get c = some l) :
    forRangeM (l.map Int.ofNat) body () h = (h.set c (some (l.map (· - a))), .ok (), []) := by
  obtain ⟨h', s', e1, p1⟩ := forRangeM_heap body
    (fun k _ h' => h' = h.set c (some ((l.take k).map (· - a) ++ l.drop k))) (l.map Int.ofNat)
    (by
      intro k x s h' hk hp
      have hlt : k < l.length := by
        have := (List.getElem?_eq_some_iff.mp hk).1; simpa using this
      subst hp
      have hcur := rebase_getD l (· - a) k hlt 0
      have hlen : k < ((l.take k).map (· - a) ++ l.drop k).length := by simp; omega
      refine ⟨_, (), hb k x _ _ hlen (by simpa [Heap.size_set] using hc) (get_set_self _ _ _ hc)
        (by rw [hcur]; exact hl _ (List.getElem_mem hlt)), ?_⟩
      rw [hcur, set_set, rebase_step l (· - a) k hlt])
    () h (by simp [set_get_self h c _ hc hg])
  rw [e1, p1]
  simp

theorem slice_ok {β : Type} (l : List β) (a b : Nat) (hab : a ≤ b) (hb : b ≤ l.length) :
    slice l (a : Int) (b : Int) = .ok (sliceRunes l a b) := by
  unfold slice sliceRunes
  rw [if_pos (by omega)]
  simp [pure_eq_ok]

theorem oslice_ok (e : List Nat) (a b : Nat) (hab : a ≤ b) (hb : b ≤ e.length) :
    oslice (some (e.map Int.ofNat)) (a : Int) (b : Int) = .ok (some (((e.drop a).take (b - a)).map Int.ofNat)) := by
  simp only [oslice]
  have hb' : b ≤ (e.map Int.ofNat).length := by rw [List.length_map]; exact hb
  rw [slice_ok _ a b hab hb']
  simp [sliceRunes, map_ok, List.map_take, List.map_drop]

theorem toCell_take_drop_map (e : List Nat) (n m : Nat) :
    toCell (some (List.take n (List.drop m (List.map Int.ofNat e)))) = .ok (some (List.take n (List.drop m e))) := by
  have := toCell_some_map (List.take n (List.drop m e))
  simpa [List.map_take, List.map_drop] using this

theorem cOff_le_getD {e : List Nat} {n : Nat} (hp : Part e n) {rs : List Int} (hn : n = rs.length) (a i : Nat) (hai : a ≤ i) (hi : i < e.length) :
    cOff e a ≤ e.getD i 0 := by
  subst hn
  have := hp.cOff_mono (a := a) (b := i + 1) (by omega) (by omega)
  simpa [cOff] using this

theorem cOff_succ (e : List Nat) (k : Nat) : cOff e (k + 1) = e.getD k 0 := by simp [cOff]

theorem get_append_two (cells : List (Option (List Nat))) (x y) :
    (Heap.mk (cells ++ [x, y])).get (cells.length + 1) = y := by
  simp [Heap.get, List.getD_eq_getElem?_getD, List.getElem?_append_right]

theorem set_append_two (cells : List (Option (List Nat))) (x y z) :
    (Heap.mk (cells ++ [x, y])).set (cells.length + 1) z = Heap.mk (cells ++ [x, z]) := by
  simp [Heap.set, List.set_append_right]

theorem r2i_zero (s e : Int) : RosedVerif.rangeToIndexes 0 s e = (0, 0) := by
  have b := RosedVerif.rangeToIndexes_bounds 0 s e (Int.le_refl 0)
  apply Prod.ext <;> simp only <;> omega

/- A proof script with parameters, like `charAt_tail` (GenEq/Gem.lean): called once, in `gemSub_filled`, on the generated `Sub`
unfolded; all it takes from the call site comes through its arguments. -/
/-- `Sub` after `Len()`: `$e` are the cached ends (`$hp : Part $e ($rs).length`), `$n` is the clone's cell -/
local macro "sub_tail" rs:term:max e:term:max start:ident end_:ident n:term:max hp:term:max "[" ts:Lean.Parser.Tactic.simpLemma,* "]" : tactic => `(tactic| (
  obtain ⟨b0, b1, b2⟩ := RosedVerif.rangeToIndexes_bounds (($e).length : Int) $start $end_ (by omega)
  obtain ⟨st, en, hst⟩ : ∃ st en, RosedVerif.rangeToIndexes (($e).length : Int) $start $end_ = (st, en) := ⟨_, _, rfl⟩
  rw [hst] at b0 b1 b2
  simp only at b0 b1 b2
  by_cases hse : st = en
  · gem_run [$ts,*, H.len, H.initialized, H.ensure, hse, hst, HGo.rangeToIndexes]
  · gem_run [$ts,*, H.len, H.initialized, hse, hst, HGo.rangeToIndexes, H.clone, H.ensure]
    obtain ⟨a', hst'⟩ : ∃ k : Nat, st = k := ⟨st.toNat, by omega⟩
    obtain ⟨b', hen'⟩ : ∃ k : Nat, en = k := ⟨en.toNat, by omega⟩
    subst hst' hen'
    have hab : a' < b' := by omega
    have hbl : b' ≤ ($e).length := by omega
    have hB : Go.idx (($e).map Int.ofNat) ((b' : Int) - 1) = .ok ((cOff $e b' : Nat) : Int) := by
      have := idx_map_ok $e ((b' : Int) - 1) (by omega) (by omega)
      have h2 : ((b' : Int) - 1).toNat = b' - 1 := by omega
      have h3 : cOff $e b' = ($e).getD (b' - 1) 0 := by simp [cOff]; omega
      rw [this, h2, h3]
    have hA : 0 < (a' : Int) → Go.idx (($e).map Int.ofNat) ((a' : Int) - 1) = .ok ((cOff $e a' : Nat) : Int) := by
      intro hpos
      have := idx_map_ok $e ((a' : Int) - 1) (by omega) (by omega)
      have h2 : ((a' : Int) - 1).toNat = a' - 1 := by omega
      have h3 : cOff $e a' = ($e).getD (a' - 1) 0 := by simp [cOff]; omega
      rw [this, h2, h3]
    have hA0 : ¬ 0 < (a' : Int) → cOff $e a' = 0 := by
      intro hn
      have : a' = 0 := by omega
      simp [cOff, this]
    have hAB : cOff $e a' ≤ cOff $e b' := ($hp).cOff_mono (by omega) hbl
    have hBn : cOff $e b' ≤ ($rs).length := ($hp).cOff_le hbl
    have hsl := slice_ok $rs (cOff $e a') (cOff $e b') hAB hBn
    have hos := oslice_ok $e a' b' (by omega) hbl
    have hrhsA : (if 0 < a' then $e[a' - 1]?.getD 0 else 0) = cOff $e a' := by
      unfold cOff; split <;> simp_all <;> omega
    have hrhsB : $e[b' - 1]?.getD 0 = cOff $e b' := by
      simp [cOff]; omega
    have hsub : (b' : Int) - (a' : Int) = ((b' - a' : Nat) : Int) := by omega
    have hmap : List.take (b' - a') (List.drop a' (List.map (fun x => x - cOff $e a') $e)) =
        ((($e).drop a').take (b' - a')).map (· - cOff $e a') := by
      simp [List.map_take, List.map_drop]
    by_cases hpos : 0 < (a' : Int)
    · have hposn : 0 < a' := by omega
      gem_run [$ts,*, hpos, hposn, hA hpos, hB, hsl, hos, hrhsA, hrhsB, hsub, hmap, toCell_take_drop_map]
      have hApos : 0 < cOff $e a' := by
        have h3 : cOff $e a' = ($e).getD (a' - 1) 0 := by simp [cOff]; omega
        rw [h3]; exact (($hp).pos _ (getD_mem_p $e (a' - 1) (by omega))).1
      have hrhsA' : $e[a' - 1]?.getD 0 = cOff $e a' := by simp [cOff]; omega
      have hl : List.take (b' - a') (List.drop a' (List.map Int.ofNat $e)) =
          (List.take (b' - a') (List.drop a' $e)).map Int.ofNat := by simp [List.map_take, List.map_drop]
      have hge : ∀ x ∈ List.take (b' - a') (List.drop a' $e), cOff $e a' ≤ x := by
        intro x hx
        obtain ⟨i, hi, hxe⟩ := List.mem_iff_getElem.mp hx
        subst hxe
        simp only [List.length_take, List.length_drop] at hi
        rw [List.getElem_take, List.getElem_drop]
        have := cOff_le_getD $hp rfl a' (a' + i) (by omega) (by omega)
        simpa [List.getD_eq_getElem?_getD, List.getElem?_eq_getElem (show a' + i < ($e).length by omega)] using this
      rw [hl, if_pos hApos, rebase_loop $n (cOff $e a') _ hge _ ?hb _ (by simp [Heap.set]) (by simp [Heap.get, Heap.set, List.getD_eq_getElem?_getD])]
      case hb =>
        intro k x h' cur hk hc' hg' hak
        have h1 := idx_map_ok cur (k : Int) (by omega) (by omega)
        have h2 := fun v => sliceSet_ok (cur.map Int.ofNat) (k : Int) v (by omega) (by simp; omega)
        have h3 : ∀ y : Nat, cOff $e a' ≤ y → toCell (some ((cur.map Int.ofNat).set k ((y : Int) - (cOff $e a' : Int)))) =
            .ok (some (cur.set k (y - cOff $e a'))) := by
          intro y hy
          have := toCell_some_map (cur.set k (y - cOff $e a'))
          rw [List.map_set] at this
          rw [← this]; congr 4; simp only [Int.ofNat_eq_natCast]; omega
        simp only [Int.toNat_natCast] at h1 h2
        have hak' : cOff $e a' ≤ cur[k]?.getD 0 := by simpa [List.getD_eq_getElem?_getD] using hak
        gem_run [hg', h1, h2, osliceSet, h3 _ hak']
      simp only [hrhsA']
      rw [hmap]
      gem_run [$ts,*]
    · have hposn : ¬ 0 < a' := by omega
      have hz := hA0 hpos
      rw [hz] at hsl hrhsA hmap
      have hsl0 : slice $rs 0 ((cOff $e b' : Nat) : Int) = .ok (sliceRunes $rs 0 (cOff $e b')) := by simpa using hsl
      have hmap0 : List.take (b' - a') (List.drop a' (List.map (fun x => x - 0) $e)) = List.take (b' - a') (List.drop a' $e) := by simp
      gem_run [$ts,*, hpos, hposn, hB, hsl0, hos, hrhsA, hrhsB, hsub, hmap0, toCell_take_drop_map]))

theorem gemSub_filled (hx : Gen.GemCode.gemSub_extracted = true) (rs : List Int) (c : Nat) (e : List Nat) (start end_ : Int)
    (h : Heap) (hg : h.get c = some e) (hp : Part e rs.length) :
    Gen.GemCode.gemSub ⟨rs, some c⟩ start end_ h = okM (H.sub ⟨rs, some c⟩ start end_) id h := by
  first
    | exact absurd hx (by decide)
    | (have hc := get_lt hg
       have hlen := gemLen_regenerated (by decide) ⟨rs, some c⟩ h (cellAlloc_mk hc)
       unfold Gen.GemCode.gemSub
       simp only [gemInitialized_regenerated (by decide), gemSplit_regenerated (by decide), gemClone_regenerated (by decide)]
       unfold H.sub
       sub_tail rs e start end_ (h.cells.length) hp [hlen, hg, get_append_lt _ _ _ hc])

/-- `Sub` on an initialized receiver: `Len()` fills an empty cache (or the value is empty and `Sub` returns at once) -/
theorem gemSub_init (hx : Gen.GemCode.gemSub_extracted = true) (rs : List Int) (c : Nat) (start end_ : Int) (h : Heap)
    (hc : c < h.cells.length) (hp : ∀ e, h.get c = some e → Part e rs.length) :
    Gen.GemCode.gemSub ⟨rs, some c⟩ start end_ h = okM (H.sub ⟨rs, some c⟩ start end_) id h := by
  first
    | exact absurd hx (by decide)
    | (cases hg : h.get c with
       | some e => exact gemSub_filled hx rs c e start end_ h hg (hp e hg)
       | none =>
         rcases rs with _ | ⟨r0, rs0⟩
         · have hlen := gemLen_regenerated (by decide) ⟨[], some c⟩ h (cellAlloc_mk hc)
           unfold Gen.GemCode.gemSub
           simp only [gemInitialized_regenerated (by decide)]
           unfold H.sub
           gem_run [hlen, hg, H.len, H.initialized, H.ensure, HGo.rangeToIndexes, r2i_zero]
         · have hg' := get_set_self h c (some (splitRunes (r0 :: rs0))) hc
           have hf := gemSub_filled hx (r0 :: rs0) c _ start end_ _ hg' (part_splitRunes _)
           have hlen := gemLen_regenerated (by decide) ⟨r0 :: rs0, some c⟩ h (cellAlloc_mk hc)
           have hlen' := gemLen_regenerated (by decide) ⟨r0 :: rs0, some c⟩ (h.set c (some (splitRunes (r0 :: rs0))))
             (cellAlloc_mk (by rwa [Heap.size_set]))
           unfold Gen.GemCode.gemSub at hf ⊢
           simp only [gemInitialized_regenerated (by decide)] at hf ⊢
           rw [run_initialized_some, run_bind_ok hlen', len_filled _ c _ _ hg'] at hf
           rw [run_initialized_some, run_bind_ok hlen, len_empty r0 rs0 c h hg]
           simp only [prep_nil] at hf ⊢
           rw [hf]
           cases hr : RosedVerif.rangeToIndexes ((splitRunes (r0 :: rs0)).length : Int) start end_ with
           | mk st en =>
             by_cases hse : st = en <;>
               simp [H.sub, initialized_mk, len_empty r0 rs0 c h hg, len_filled _ c _ _ hg', hr, hse, okM_run, prep])

theorem gemSub_regenerated (hx : Gen.GemCode.gemSub_extracted = true) (s : GStr) (start end_ : Int) (h : Heap)
    (hv : GemOK h s) : Gen.GemCode.gemSub s start end_ h = okM (H.sub s start end_) id h := by
  first
    | exact absurd hx (by decide)
    | (refine zero_cases_eq (fun s => Gen.GemCode.gemSub s start end_) (fun s => okM (H.sub s start end_) id) (K := ?K)
         (fun rs e => Part e rs.length) (fun v => ?hF) ?S0 (gemSub_init hx · · start end_) s h hv.1 hv.2
       case hF =>
         unfold Gen.GemCode.gemSub
         simp only [gemInitialized_regenerated (by decide)]
         rfl
       case S0 =>
         intro rs h
         cases hl : H.len ⟨rs, some h.cells.length⟩ ⟨h.cells ++ [none]⟩ with
         | mk h2 p =>
           cases hr : RosedVerif.rangeToIndexes (p.1 : Int) start end_ with
           | mk st en =>
             by_cases hse : st = en <;> simp [H.sub, initialized_zero, initialized_mk, hl, hr, hse, okM_run, prep])

theorem slice_take {β : Type} (l : List β) (a : Nat) (ha : a ≤ l.length) : slice l 0 (a : Int) = .ok (l.take a) := by
  have := slice_ok l 0 a (by omega) ha
  simpa [sliceRunes] using this

theorem slice_drop {β : Type} (l : List β) (b : Nat) (hb : b ≤ l.length) : slice l (b : Int) (l.length : Int) = .ok (l.drop b) := by
  have := slice_ok l b l.length hb (Nat.le_refl _)
  rw [this]; simp [sliceRunes, List.take_of_length_le]

/- A proof script with parameters, like `charAt_tail` (GenEq/Gem.lean): called in `gemSetCharAt_init`, where it runs once for a
filled and once for an empty cache of the receiver. -/
/-- `SetCharAt` after the clone's cache has been filled: `$e` are the cached ends (`$hp : Part $e ($rs).length`) -/
local macro "setCharAt_tail" rs:term:max e:term:max idx:ident hp:term:max "[" ts:Lean.Parser.Tactic.simpLemma,* "]" : tactic => `(tactic| (
  rcases Int.lt_or_le $idx 0 with hneg | hnn
  · have hB := idx_error (($e).map Int.ofNat) $idx (.inl hneg)
    have h0 : ¬ 0 < $idx := by omega
    gem_run [$ts,*, hB, h0, hneg]
  · rcases Int.lt_or_le $idx ($e).length with hlt | hge
    · obtain ⟨k, hidx⟩ : ∃ k : Nat, $idx = k := ⟨($idx).toNat, by omega⟩
      subst hidx
      have hk : k < ($e).length := by omega
      have hB : Go.idx (($e).map Int.ofNat) (k : Int) = .ok ((cOff $e (k + 1) : Nat) : Int) := by
        have := idx_map_ok $e (k : Int) (by omega) (by omega)
        simpa [cOff] using this
      have hA : 0 < (k : Int) → Go.idx (($e).map Int.ofNat) ((k : Int) - 1) = .ok ((cOff $e k : Nat) : Int) := by
        intro hpos
        have := idx_map_ok $e ((k : Int) - 1) (by omega) (by omega)
        have h2 : ((k : Int) - 1).toNat = k - 1 := by omega
        have h3 : cOff $e k = ($e).getD (k - 1) 0 := by simp [cOff]; omega
        rw [this, h2, h3]
      have hab : cOff $e k ≤ cOff $e (k + 1) := ($hp).cOff_mono (by omega) (by omega)
      have hbn : cOff $e (k + 1) ≤ ($rs).length := ($hp).cOff_le (by omega)
      have hspan := span_eq $e k
      have hs1 := slice_take $rs (cOff $e k) (by omega)
      have hs2 := slice_drop $rs (cOff $e (k + 1)) hbn
      have hnv1 : ¬ (k : Int) < 0 := by omega
      have hnv2 : ¬ ($e).length ≤ k := by omega
      by_cases hpos : 0 < (k : Int)
      · have hposn : 0 < k := by omega
        gem_run [$ts,*, hB, hA hpos, hpos, hposn, hspan, hs1, hs2, hnv1, hnv2]
      · have hposn : ¬ 0 < k := by omega
        have hz : cOff $e k = 0 := by
          have : k = 0 := by omega
          simp [cOff, this]
        rw [hz] at hs1 hspan
        have hs1' : slice $rs 0 0 = .ok (($rs).take 0) := by simpa using hs1
        gem_run [$ts,*, hB, hpos, hposn, hspan, hs1', hs2, hnv1, hnv2]
    · have hB := idx_error (($e).map Int.ofNat) $idx (.inr (by simpa using hge))
      have hA : 0 < $idx → (($e).length : Int) ≤ $idx - 1 → Go.idx (($e).map Int.ofNat) ($idx - 1) = .error .index :=
        fun _ h2 => idx_error _ _ (.inr (by simpa using h2))
      have hA' : 0 < $idx → $idx - 1 < (($e).length : Int) → Go.idx (($e).map Int.ofNat) ($idx - 1) = .ok ((($e).getD ($idx - 1).toNat 0 : Nat) : Int) :=
        fun h1 h2 => idx_map_ok $e ($idx - 1) (by omega) h2
      have hc : ¬ $idx < 0 := by omega
      by_cases hpos : 0 < $idx
      · rcases Int.lt_or_le ($idx - 1) ($e).length with h2 | h2
        · gem_run [$ts,*, hB, hA' hpos h2, hpos, hge, hc]
        · gem_run [$ts,*, hB, hA hpos h2, hpos, hge, hc]
      · gem_run [$ts,*, hB, hpos, hge, hc]))

/-- `SetCharAt` on an initialized receiver.  Once the clone has been made and lazily filled its cell holds the ends `e`: the
receiver's cached ends, or `Split`'s if the receiver's cache is empty (`he`, used as a conditional rewrite).  In the second
case it is the clone's cell that is filled, not the receiver's, so that case is not the first one on another heap; from the
fill on both run the same code on the same state, and one script serves both. -/
theorem gemSetCharAt_init (hx : Gen.GemCode.gemSetCharAt_extracted = true) (rs : List Int) (c : Nat) (idx : Int) (r : List Int)
    (h : Heap) (e : List Nat) (hp : Part e rs.length)
    (hg : h.get c = some e ∨ h.get c = none) (he : h.get c = none → splitRunes rs = e) :
    Gen.GemCode.gemSetCharAt ⟨rs, some c⟩ idx r h = H.setCharAt ⟨rs, some c⟩ idx r h := by
  first
    | exact absurd hx (by decide)
    | (unfold Gen.GemCode.gemSetCharAt
       simp only [gemInitialized_regenerated (by decide), gemSplit_regenerated (by decide), gemClone_regenerated (by decide)]
       unfold H.setCharAt
       rcases r with _ | ⟨r0, r1⟩
       · gem_run
       · have hr : ¬ ((r1.length : Int) + 1 = 0) := by omega
         -- up to the fill the two cases differ; it is evaluated once, before the macro distinguishes the positions of `idx`
         rcases hg with hg | hg <;>
         ( gem_run [hr, H.initialized, H.clone, H.ensure, hg, he]
           setCharAt_tail rs e idx hp [hr, H.initialized, H.clone, H.ensure, hg, he]))

theorem gemSetCharAt_regenerated (hx : Gen.GemCode.gemSetCharAt_extracted = true) (s : GStr) (idx : Int) (r : List Int)
    (h : Heap) (hv : GemOK h s) : Gen.GemCode.gemSetCharAt s idx r h = H.setCharAt s idx r h := by
  first
    | exact absurd hx (by decide)
    | (refine zero_cases_eq (fun s => Gen.GemCode.gemSetCharAt s idx r) (fun s => H.setCharAt s idx r) (K := ?K)
         (fun rs e => Part e rs.length) (fun v => ?hF) ?S0 ?init s h hv.1 hv.2
       case hF =>
         unfold Gen.GemCode.gemSetCharAt
         simp only [gemInitialized_regenerated (by decide)]
         rfl
       case S0 =>
         intro rs h
         cases r with
         | nil => rfl
         | cons r0 r1 =>
           simp only [H.setCharAt, H.initialized, H.clone, H.ensure, Heap.alloc, cellOf, Option.getD_some, get_append_two,
             set_append_two, List.isEmpty_cons, Bool.false_eq_true, if_false, List.append_assoc, List.cons_append,
             List.nil_append]
           rw [prep_ite]
           split <;> rfl
       case init =>
         intro rs c h hc hp
         cases hg : h.get c with
         | some e => exact gemSetCharAt_init hx rs c idx r h e (hp e hg) (.inl hg) (fun h0 => by rw [hg] at h0; cases h0)
         | none => exact gemSetCharAt_init hx rs c idx r h _ (part_splitRunes rs) (.inr hg) (fun _ => rfl))

/-- the loop of `Repeat`: `k` more rounds of `acc = acc.Add(s)`.  The counter is abstract: `μ c` is the number of
rounds still to do when the counter is `c` (`count - i` for `for i := 0; i < count; i++`, `remaining` itself for
`for remaining > 0 { …; remaining-- }`), `ν` the step of the counter; its final value is not observed. -/
theorem gem_repeat_loop (s : GStr) (μ ν : Int → Int) (hμ : ∀ c, 0 < μ c → μ (ν c) = μ c - 1)
    (cond : GStr × Int → HM Bool) (body : GStr × Int → HM (GStr × Int))
    (hc : ∀ st h, cond st h = (h, .ok (decide (0 < μ st.2)), []))
    (hb : ∀ st h, body st h = ((add st.1 s h).1, .ok ((add st.1 s h).2.1, ν st.2), (add st.1 s h).2.2)) :
    ∀ (k : Nat) (acc : GStr) (c : Int) (h : Heap), (μ c).toNat = k →
      ∃ c', whileM (k + 1) cond body (acc, c) h =
        ((repeatN s k acc h).1, .ok ((repeatN s k acc h).2.1, c'), (repeatN s k acc h).2.2) := by
  intro k
  induction k with
  | zero =>
    intro acc c h hk
    have : ¬ (0 < μ c) := by omega
    refine ⟨c, ?_⟩
    rw [whileM_succ, run_bind_ok (hc _ _), prep_nil]
    simp [this, run_pure, repeatN]
  | succ k ih =>
    intro acc c h hk
    have hpos : 0 < μ c := by omega
    obtain ⟨c', hc'⟩ := ih (add acc s h).2.1 (ν c) (add acc s h).1 (by rw [hμ c hpos]; omega)
    refine ⟨c', ?_⟩
    rw [whileM_succ, run_bind_ok (hc _ _), prep_nil]
    simp only [hpos, decide_true, if_true]
    rw [run_bind_ok (hb _ _), hc']
    simp only [repeatN, prep_mk]

/-- the loop followed by code that reads the accumulated string only -/
theorem gem_repeat_bind {γ : Type} (s : GStr) (μ ν : Int → Int) (hμ : ∀ c, 0 < μ c → μ (ν c) = μ c - 1)
    (cond : GStr × Int → HM Bool) (body : GStr × Int → HM (GStr × Int)) (K : GStr × Int → HM γ) (K' : GStr → HM γ)
    (k : Nat) (acc : GStr) (c : Int) (h : Heap) (hk : (μ c).toNat = k)
    (hc : ∀ st h, cond st h = (h, .ok (decide (0 < μ st.2)), []))
    (hb : ∀ st h, body st h = ((add st.1 s h).1, .ok ((add st.1 s h).2.1, ν st.2), (add st.1 s h).2.2))
    (hK : ∀ a c', K (a, c') = K' a) :
    (whileM (k + 1) cond body (acc, c) >>= K) h = (okM (repeatN s k acc) id >>= K') h := by
  obtain ⟨c', hc'⟩ := gem_repeat_loop s μ ν hμ cond body hc hb k acc c h hk
  rw [run_bind_ok hc', run_okM_bind, hK]
  rfl

theorem gemRepeat_regenerated (hx : Gen.GemCode.gemRepeat_extracted = true) (s : GStr) (count : Int) :
    Gen.GemCode.gemRepeat s count = okM (H.repeat s count) id := by
  first
    | exact absurd hx (by decide)
    | (funext h
       unfold Gen.GemCode.gemRepeat
       simp only [gemAdd_regenerated (by decide)]
       unfold H.repeat
       -- the source counts up from 0 (`for i := 0; i < count; i++`, the first instance of the abstract counter); the other
       -- two are for a source that counts down from `count` (`for count > 0 { …; count-- }`) or up from 1
       first
         | refine (gem_repeat_bind s (fun i => count - i) (· + 1) (by intro c _; omega) _ _ _ (fun a => pure a) _ _ _ h
             (by omega) ?hc ?hb ?hK).trans ?_
         | refine (gem_repeat_bind s (fun i => i) (· - 1) (by intro c _; omega) _ _ _ (fun a => pure a) _ _ _ h
             (by omega) ?hc ?hb ?hK).trans ?_
         | refine (gem_repeat_bind s (fun i => count + 1 - i) (· + 1) (by intro c _; omega) _ _ _ (fun a => pure a) _ _ _ h
             (by omega) ?hc ?hb ?hK).trans ?_
       case hc => intro st h'; first | (gem_run; done) | (gem_run <;> omega)
       case hb => intro st h'; first | (gem_run; done) | (gem_run <;> omega)
       case hK => intro a c'; rfl
       gem_run)

/-- `RepeatStr(s, n)` is `Repeat(New(s), n)`: layer H has no separate function, the right-hand side is the composition
of `H.new` and `H.repeat` (heap threaded, events concatenated) -/
theorem gemRepeatStr_regenerated (hx : Gen.GemCode.gemRepeatStr_extracted = true) (rs : List Int) (count : Int) (h : Heap) :
    Gen.GemCode.gemRepeatStr rs count h =
      ((H.repeat (H.new rs h).2.1 count (H.new rs h).1).1, .ok (H.repeat (H.new rs h).2.1 count (H.new rs h).1).2.1,
        (H.new rs h).2.2 ++ (H.repeat (H.new rs h).2.1 count (H.new rs h).1).2.2) := by
  first
    | exact absurd hx (by decide)
    | (unfold Gen.GemCode.gemRepeatStr
       simp only [gemNew_regenerated (by decide), gemRepeat_regenerated (by decide)]
       gem_run)

theorem whileCtlM_succ {σ ρ : Type} (n : Nat) (cond : σ → HM Bool) (body : σ → HM (σ × Go.Ctl ρ)) (s : σ) :
    whileCtlM n.succ cond body s = (cond s >>= fun b =>
      if b then (body s >>= fun r => match r.2 with
        | .next => whileCtlM n cond body r.1
        | .brk => pure (r.1, none)
        | .ret v => pure (r.1, some v)) else pure (s, none)) := rfl

/-- the first evaluation of the loop condition may write (fill the cache); afterwards the heap is stable -/
theorem whileCtlM_first {σ ρ : Type} (n : Nat) (cond : σ → HM Bool) (body : σ → HM (σ × Go.Ctl ρ)) (s : σ)
    (h1 h2 : Heap) (b : Bool) (w : List Wr)
    (e1 : cond s h1 = (h2, .ok b, w)) (e2 : cond s h2 = (h2, .ok b, [])) :
    whileCtlM (n + 1) cond body s h1 = prep w (whileCtlM (n + 1) cond body s h2) := by
  rw [whileCtlM_succ, run_bind_ok e1, run_bind_ok e2, prep_nil]

/-- a search loop `for i := i0; i < len; i++ { if p(i) { return i } }` on a heap that neither condition nor body change -/
theorem search_loop {β : Type} (cls : List β) (f : β → Bool) (cond : Int → HM Bool) (body : Int → HM (Int × Go.Ctl Int)) (h : Heap)
    (hc : ∀ i : Nat, cond (i : Int) h = (h, .ok (decide ((i : Int) < (cls.length : Int))), []))
    (hb : ∀ (i : Nat) (hi : i < cls.length), body (i : Int) h =
      if f cls[i] then (h, .ok ((i : Int), Go.Ctl.ret (i : Int)), []) else (h, .ok ((i : Int) + 1, Go.Ctl.next), [])) :
    ∀ (k i fuel : Nat), i + k = cls.length → k + 1 ≤ fuel →
      whileCtlM fuel cond body (i : Int) h =
        (h, .ok ((((cls.drop i).findIdx? f).map (fun j => ((i + j : Nat) : Int))).getD (cls.length : Int),
          ((cls.drop i).findIdx? f).map (fun j => ((i + j : Nat) : Int))), []) := by
  intro k
  induction k with
  | zero =>
    intro i fuel hik hf
    obtain ⟨m, rfl⟩ : ∃ m, fuel = m + 1 := ⟨fuel - 1, by omega⟩
    have : ¬ ((i : Int) < (cls.length : Int)) := by omega
    rw [whileCtlM_succ, run_bind_ok (hc i), prep_nil]
    have hd : cls.drop i = [] := List.drop_eq_nil_of_le (by omega)
    simp [this, run_pure, hd]
    omega
  | succ k ih =>
    intro i fuel hik hf
    obtain ⟨m, rfl⟩ : ∃ m, fuel = m + 1 := ⟨fuel - 1, by omega⟩
    have hi : i < cls.length := by omega
    have : (i : Int) < (cls.length : Int) := by omega
    rw [whileCtlM_succ, run_bind_ok (hc i), prep_nil]
    simp only [this, decide_true, if_true]
    have hbi := hb i hi
    rw [List.drop_eq_getElem_cons hi, List.findIdx?_cons]
    cases hf' : f cls[i] with
    | true =>
      rw [hf', if_pos rfl] at hbi
      simp [run_bind_ok hbi, run_pure, prep_nil]
    | false =>
      have e := ih (i + 1) m (by omega) (by omega)
      rw [hf', if_neg Bool.false_ne_true] at hbi
      rw [run_bind_ok hbi, prep_nil]
      simp only
      have : ((i : Int) + 1) = ((i + 1 : Nat) : Int) := by omega
      rw [this, e]
      cases (cls.drop (i + 1)).findIdx? f <;> simp <;> omega

theorem search_loop0 {β : Type} (cls : List β) (f : β → Bool) (cond : Int → HM Bool) (body : Int → HM (Int × Go.Ctl Int)) (h : Heap)
    (hc : ∀ i : Nat, cond (i : Int) h = (h, .ok (decide ((i : Int) < (cls.length : Int))), []))
    (hb : ∀ (i : Nat) (hi : i < cls.length), body (i : Int) h =
      if f cls[i] then (h, .ok ((i : Int), Go.Ctl.ret (i : Int)), []) else (h, .ok ((i : Int) + 1, Go.Ctl.next), []))
    (fuel : Nat) (hf : cls.length + 1 ≤ fuel) :
    whileCtlM fuel cond body 0 h =
      (h, .ok ((((cls.findIdx? f).map (fun j => ((j : Nat) : Int))).getD (cls.length : Int)),
        (cls.findIdx? f).map (fun j => ((j : Nat) : Int))), []) := by
  have := search_loop cls f cond body h hc hb cls.length 0 fuel (by simp) hf
  simpa using this

theorem gem_clustersFrom_getElem (s : List Int) (e : List Nat) (prev i : Nat) (hi : i < (clustersFrom s prev e).length) :
    (clustersFrom s prev e)[i] = sliceRunes s (if i = 0 then prev else e.getD (i - 1) 0) (e.getD i 0) := by
  rw [clustersFrom_getElem s e prev i hi]
  cases i <;> rfl

theorem charAt_filled (rs : List Int) (c : Nat) (h : Heap) (e : List Nat) (hg : h.get c = some e) (i : Nat) (hi : i < e.length) :
    H.charAt ⟨rs, some c⟩ (i : Int) h = (h, .ok (sliceRunes rs (cOff e i) (cOff e (i + 1))), []) := by
  have h1 : ¬ ((i : Int) < 0 ∨ (i : Int) ≥ (e.length : Int)) := by omega
  simp only [H.charAt, H.initialized, H.ensure, cellOf, Option.getD_some, hg, h1, if_false, span_eq, Int.toNat_natCast]
  rfl

/-- `CharAt(i)` on a filled cache is cluster `i` -/
theorem charAt_cluster (rs : List Int) (c : Nat) (h : Heap) (e : List Nat) (hg : h.get c = some e) (i : Nat)
    (hi : i < (clustersFrom rs 0 e).length) :
    H.charAt ⟨rs, some c⟩ (i : Int) h = (h, .ok (clustersFrom rs 0 e)[i], []) := by
  rw [charAt_filled rs c h e hg i (by rwa [clustersFrom_length'] at hi), gem_clustersFrom_getElem rs e 0 i hi, cOff_succ]
  rfl

/-- `Len()` of an initialized value: afterwards the heap is stable under `Len()`, and the cache holds the ends `e` unless the
value is empty -/
theorem len_stable (rs : List Int) (c : Nat) (h1 : Heap) (hc : c < h1.cells.length)
    (hp : ∀ e, h1.get c = some e → Part e rs.length) :
    ∃ h2 w2 e, H.len ⟨rs, some c⟩ h1 = (h2, e.length, w2) ∧ H.len ⟨rs, some c⟩ h2 = (h2, e.length, []) ∧
      c < h2.cells.length ∧ Part e rs.length ∧ (h2.get c = some e ∨ h2.get c = none ∧ e = []) := by
  cases hg : h1.get c with
  | some e => exact ⟨h1, [], e, len_filled rs c h1 e hg, len_filled rs c h1 e hg, hc, hp e hg, .inl hg⟩
  | none =>
    rcases rs with _ | ⟨r0, rs0⟩
    · have hl : H.len ⟨[], some c⟩ h1 = (h1, 0, []) := by simp [H.len, H.initialized, cellOf, hg]
      exact ⟨h1, [], [], hl, hl, hc, ⟨by simp, by simp, by simp⟩, .inr ⟨hg, rfl⟩⟩
    · have hg2 := get_set_self h1 c (some (splitRunes (r0 :: rs0))) hc
      exact ⟨_, [.fill c], _, len_empty r0 rs0 c h1 hg, len_filled _ c _ _ hg2, by rwa [Heap.size_set], part_splitRunes _, .inl hg2⟩

theorem gemIndexFunc_init (hx : Gen.GemCode.gemIndexFunc_extracted = true) (rs : List Int) (c : Nat) (f : List Int → Bool)
    (h : Heap) (hc : c < h.cells.length) (hp : ∀ e, h.get c = some e → Part e rs.length) :
    Gen.GemCode.gemIndexFunc ⟨rs, some c⟩ f h = okM (H.indexFunc f ⟨rs, some c⟩) id h := by
  first
    | exact absurd hx (by decide)
    | (obtain ⟨h2, w2, e, hl1, hl2, hc2, hp, hfill⟩ := len_stable rs c h hc hp
       have hlen1 := gemLen_regenerated (by decide) ⟨rs, some c⟩ h (cellAlloc_mk hc)
       have hlen2 := gemLen_regenerated (by decide) ⟨rs, some c⟩ h2 (cellAlloc_mk hc2)
       have hcl : (clustersFrom rs 0 e).length = e.length := clustersFrom_length' rs 0 e
       have hloop := fun cond body hc hb => search_loop0 (clustersFrom rs 0 e) f cond body h2 hc hb (rs.length + 1)
         (by have := hp.length_le; omega)
       unfold Gen.GemCode.gemIndexFunc
       simp only [gemInitialized_regenerated (by decide)]
       unfold H.indexFunc
       gem_run [H.initialized]
       rw [whileCtlM_first _ _ _ _ h h2 (decide ((0 : Int) < (e.length : Int))) w2 ?e1 ?e2, hloop]
       case e1 => gem_run [hlen1, hl1]
       case e2 => gem_run [hlen2, hl2]
       · rw [hl1]
         rcases hfill with hg2 | ⟨-, rfl⟩
         · rcases e with _ | ⟨e0, es⟩
           · simp [clustersFrom, findIdxInt, run_pure, prep_mk, prep]
           · simp only [ensure_filled hg2, findIdxInt]
             cases List.findIdx? f (clustersFrom rs 0 (e0 :: es)) <;> simp [run_pure, prep_mk, prep]
         · simp [clustersFrom, findIdxInt, run_pure, prep_mk, prep]
       · intro i
         gem_run [hlen2, hl2, hcl]
       · intro i hi
         have hg2 : h2.get c = some e := by
           rcases hfill with hg2 | ⟨-, rfl⟩
           · exact hg2
           · simp [clustersFrom] at hi
         gem_run [gemCharAt_filled (by decide) rs c e i h2 hg2 hp, charAt_cluster rs c h2 e hg2 i hi])

theorem gemIndexFunc_regenerated (hx : Gen.GemCode.gemIndexFunc_extracted = true) (s : GStr) (f : List Int → Bool) (h : Heap)
    (hv : GemOK h s) : Gen.GemCode.gemIndexFunc s f h = okM (H.indexFunc f s) id h := by
  first
    | exact absurd hx (by decide)
    | (refine zero_cases_eq (fun s => Gen.GemCode.gemIndexFunc s f) (fun s => okM (H.indexFunc f s) id) (K := ?K)
         (fun rs e => Part e rs.length) (fun v => ?hF) ?S0 (gemIndexFunc_init hx · · f) s h hv.1 hv.2
       case hF =>
         unfold Gen.GemCode.gemIndexFunc
         simp only [gemInitialized_regenerated (by decide)]
         rfl
       case S0 =>
         intro rs h
         simp only [okM_run, H.indexFunc, initialized_zero, initialized_mk, prep, beq_iff_eq, List.nil_append, id]
         split <;> simp)

end RosedVerif.GenCodeEq
