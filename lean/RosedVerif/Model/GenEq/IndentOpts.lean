/-
Editor.IndentOpts, Editor.Indent.
-/
import RosedVerif.Model.GenEq.Options
import RosedVerif.Model.GenEq.Commit
import RosedVerif.Model.GenEq.Apply
import RosedVerif.Model.GenEq.Paras
import RosedVerif.Model.GenEq.InstA
set_option linter.unusedVariables false
set_option linter.unusedSectionVars false
set_option linter.unusedSimpArgs false
namespace RosedVerif.GenCodeEq
open RosedVerif

variable {α : Type} [DecidableEq α] (cx : Ctx α)

theorem editorIndentOpts_regenerated (h : Gen.Code.editorIndentOpts_extracted = true)
    (hd : DefaultsOk cx) (hpos : ∀ a, 0 < cx.blen a) (ed : Editor α) (level : Int)
    (o : Options α) : Gen.Code.editorIndentOpts cx ed level o = ed.indentOpts cx level o := by
  first
    | exact absurd h (by decide)
    | (unfold Gen.Code.editorIndentOpts Editor.indentOpts
       simp only [optionsWithDefaults_regenerated cx (by decide), editorApplyOpts_regenerated cx (by decide),
         editorApplyParagraphsOpts_regenerated cx (by decide) hd hpos, edit_regenerated cx (by decide),
         editorWithOptions_regenerated cx (by decide), editorString_regenerated cx (by decide), pure_bind]
       go_norm
       -- both guards are decided by cases (either polarity, early return or nesting)
       by_cases hl : level < 1
       · have hl' : ¬ 1 ≤ level := by omega
         go_guards [hl, hl']
       · have hl' : 1 ≤ level := by omega
         go_guards [hl, hl']
         refine bind_congr (m := R) fun indent => ?_
         -- `Go.edApplyParagraphsOpts`, `Go.edit`: what the translator writes for a call whose callee it has not translated
         -- (the hand model's function, Model/GoPrims.lean); when every callee is translated they do not occur
         cases hp : (o.withDefaults cx).preservePara <;>
           simp only [hp, Bool.not_true, Bool.not_false, Bool.false_eq_true, if_true, if_false, ↓reduceIte, bind_pure,
             Go.edApplyParagraphsOpts, Editor.applyOpts, Go.edit, Editor.withOpts] <;>
           rfl)

theorem editorIndent_regenerated (h : Gen.Code.editorIndent_extracted = true)
    (hd : DefaultsOk cx) (hpos : ∀ a, 0 < cx.blen a) (ed : Editor α) (level : Int) :
    Gen.Code.editorIndent cx ed level = ed.indentOpts cx level ed.opts := by
  first
    | exact absurd h (by decide)
    | (unfold Gen.Code.editorIndent
       simp only [editorIndentOpts_regenerated cx (by decide) hd hpos, bind_pure])

theorem editorIndentOpts_cxA (h : Gen.Code.editorIndentOpts_extracted = true) (ed : Editor Int) (level : Int) (o : Options Int) :
    Gen.Code.editorIndentOpts cxA ed level o = ed.indentOpts cxA level o :=
  editorIndentOpts_regenerated cxA h defaultsOk_cxA cxA_WF.2 ed level o

end RosedVerif.GenCodeEq
