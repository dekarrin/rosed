/-
tb.Block.AppendBlock, tb.Block.Remove.
-/
import RosedVerif.Model.GenEq.Block
set_option linter.unusedVariables false
set_option linter.unusedSectionVars false
set_option linter.unusedSimpArgs false
namespace RosedVerif.GenCodeEq
open RosedVerif

variable {α : Type} [DecidableEq α] (cx : Ctx α)

theorem blockAppendBlock_regenerated (h : Gen.Code.blockAppendBlock_extracted = true) (tb b : Block α) :
    Gen.Code.blockAppendBlock cx tb b = pure { tb with lines := tb.lines ++ b.lines } := by
  first
    | exact absurd h (by decide)
    | (unfold Gen.Code.blockAppendBlock
       simp only [blockLen_regenerated cx (by decide), blockLine_regenerated cx (by decide),
         blockAppend_regenerated cx (by decide)]
       go_norm
       rw [whileM_count_pure Prod.mk (fun _ => True) ((b.lines.length : Nat) : Int)
         (fun (s : Block α) k => s.append (b.lines.getD k [])) _ _ (fun _ _ _ _ => trivial) (fun s k => rfl)
         (fun s k hk _ => by simp only [block_line_nat b k (by omega), pure_bind]) _ tb trivial (by omega)]
       simp only [Int.toNat_natCast, foldl_range_getD (fun (s : Block α) x => s.append x) [] b.lines, foldl_block_append,
         pure_bind])

theorem blockRemove_regenerated (h : Gen.Code.blockRemove_extracted = true) (b : Block α) (pos : Int) :
    Gen.Code.blockRemove cx b pos =
      pure (if 0 ≤ pos ∧ pos.toNat < b.lines.length then { b with lines := b.lines.eraseIdx pos.toNat } else b) := by
  first
    | exact absurd h (by decide)
    | (unfold Gen.Code.blockRemove Go.sliceTo Go.sliceFrom
       go_norm
       -- the guard is decided on both sides in every polarity (`pos >= 0 && len > pos`, `pos < 0 || len <= pos`, nested)
       by_cases hp : 0 ≤ pos ∧ pos.toNat < b.lines.length
       · have e1 : (pos + 1).toNat = pos.toNat + 1 := by omega
         have g1 : 0 ≤ pos := by omega
         have g2 : pos < (b.lines.length : Int) := by omega
         have g3 : ¬ pos < 0 := by omega
         have g4 : ¬ (b.lines.length : Int) ≤ pos := by omega
         have c2 : pos.toNat ≤ b.lines.length := by omega
         have c3 : 0 ≤ pos + 1 ∧ (pos + 1).toNat ≤ b.lines.length := by omega
         have c4 : pos.toNat + 1 ≤ b.lines.length := by omega
         go_guards [hp, g1, g2, g3, g4, c2, c3, c4, and_self, e1, List.eraseIdx_eq_take_drop_succ]
       · rcases (by omega : pos < 0 ∨ (0 ≤ pos ∧ (b.lines.length : Int) ≤ pos)) with g1 | ⟨g1, g2⟩
         · have g3 : ¬ 0 ≤ pos := by omega
           go_guards [hp, g1, g3]
         · have g3 : ¬ pos < 0 := by omega
           have g4 : ¬ pos < (b.lines.length : Int) := by omega
           have g5 : ¬ pos.toNat < b.lines.length := by omega
           go_guards [hp, g1, g2, g3, g4, g5])

end RosedVerif.GenCodeEq
