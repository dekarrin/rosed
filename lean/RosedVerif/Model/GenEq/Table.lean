/-
manip.parseTableCharSet, buildTable, MakeTable.
-/
import RosedVerif.Model.GenEq.Block
import RosedVerif.Model.GenEq.Align
set_option linter.unusedVariables false
set_option linter.unusedSectionVars false
set_option linter.unusedSimpArgs false
namespace RosedVerif.GenCodeEq
open RosedVerif

variable {α : Type} [DecidableEq α] (cx : Ctx α)

theorem parseTableCharSet_regenerated (h : Gen.Code.parseTableCharSet_extracted = true) (charSet : List α) :
    Gen.Code.parseTableCharSet cx charSet = pure (parseTableCharSet cx charSet) := by
  first
    | exact absurd h (by decide)
    | (unfold Gen.Code.parseTableCharSet parseTableCharSet
       go_norm
       go_close)

theorem gRepeat_eq (h : List α) (w : Int) : gRepeat h w = (List.replicate w.toNat h).flatten := rfl

theorem foldl_const_append (h : List α) (l : List Nat) (s : List α) :
    l.foldl (fun bar _ => bar ++ h) s = s ++ (List.replicate l.length h).flatten := by
  rw [List.foldl_append_eq_append (f := fun _ => h), List.map_const']

/-- `for j := j0; j < w; j++ { bar = bar.Add(h) }` -/
theorem repeat_loop (h : List α) (w : Int) : ∀ (fuel n : Nat) (bar : List α) (j : Int),
    n = (w - j).toNat → n + 1 ≤ fuel →
    Go.whileM fuel (fun (s : List α × Int) => (pure (decide (s.2 < w)) : R Bool))
        (fun (s : List α × Int) => (pure (s.1 ++ h, s.2 + 1) : R _)) (bar, j) =
      pure (bar ++ (List.replicate n h).flatten, j + n) := by
  intro fuel n bar j hn hf
  -- the counter is kept as `j + k`
  have := whileM_count_pure (fun (s : List α) (k : Int) => (s, j + k)) (fun _ => True) (w - j) (fun bar _ => bar ++ h)
    (fun s => pure (decide (s.2 < w))) (fun s => pure (s.1 ++ h, s.2 + 1)) (fun _ _ _ _ => trivial)
    (fun s k => congrArg pure (decide_eq_decide.mpr (by omega))) (fun s k _ _ => by rw [Int.add_assoc])
    fuel bar trivial (by omega)
  rw [Int.add_zero, foldl_const_append, List.length_range, ← hn] at this
  exact this

/-- `for j := 0; j < w; j++ { bar = bar.Add(h) }`, for any condition and body that do this -/
theorem gRepeat_loop (h : List α) (w : Int) (cond : List α × Int → R Bool) (body : List α × Int → R (List α × Int))
    (hc : ∀ (bar : List α) (k : Nat), cond (bar, (k : Int)) = pure (decide ((k : Int) < w)))
    (hb : ∀ (bar : List α) (k : Nat), body (bar, (k : Int)) = pure (bar ++ h, (k : Int) + 1))
    (fuel : Nat) (hf : w.toNat + 1 ≤ fuel) (bar : List α) :
    Go.whileM fuel cond body (bar, 0) = pure (bar ++ gRepeat h w, (w.toNat : Int)) := by
  rw [whileM_count_pure Prod.mk (fun _ => True) w (fun bar _ => bar ++ h) cond body (fun _ _ _ _ => trivial) hc
    (fun bar k _ _ => hb bar k) fuel bar trivial hf, foldl_const_append, List.length_range, gRepeat_eq]

/-- one cell of a table row, as in the hand model's `tableRow` -/
def btCell (row : List (List α)) (colWidths : List Int) (isHeader border : Bool) (chars : TableChars α) (col : Nat) : List α :=
  let cellData := row.getD col []
  let w := colWidths.getD col 0
  if isHeader then
    let hc := cellData.map cx.upper
    if border then alignCenter cx hc w ++ chars.vert else alignLeft cx hc w
  else
    if border then [cx.sp] ++ alignLeft cx cellData (w - 1) ++ chars.vert
    else alignLeft cx cellData w

theorem tableRow_eq (row : List (List α)) (colWidths : List Int) (isHeader border : Bool) (chars : TableChars α) :
    tableRow cx row colWidths isHeader border chars =
      (List.range colWidths.length).foldl (fun line col => line ++ btCell cx row colWidths isHeader border chars col)
        (if border then chars.vert else []) := rfl

/-- one step of the row loop, as in the hand model's `buildTable` -/
def btStep (data : List (List (List α))) (colWidths : List Int) (width : Int) (header border : Bool) (chars : TableChars α)
    (acc : List (List α)) (rowIdx : Nat) : List (List α) :=
  let horzBar : List α :=
    if border then colWidths.foldl (fun bar w => bar ++ gRepeat chars.horz w ++ chars.corner) chars.corner else []
  let breakBar : List α := if header ∧ !border then gRepeat chars.horz width else []
  let row := data.getD rowIdx []
  let isHeader := rowIdx == 0 && header
  let acc := acc ++ [tableRow cx row colWidths isHeader border chars]
  if isHeader then
    if border then (if data.length > 1 then acc ++ [horzBar] else acc)
    else acc ++ [breakBar]
  else acc

theorem buildTable_eq (data : List (List (List α))) (colWidths : List Int) (width : Int) (header border : Bool)
    (chars : TableChars α) :
    buildTable cx data colWidths width header border chars =
      (let horzBar : List α :=
        if border then colWidths.foldl (fun bar w => bar ++ gRepeat chars.horz w ++ chars.corner) chars.corner else []
       let body := (List.range data.length).foldl (btStep cx data colWidths width header border chars)
         (if border then [horzBar] else [])
       if border then body ++ [horzBar] else body) := rfl

theorem buildTable_regenerated (h : Gen.Code.buildTable_extracted = true) (data : List (List (List α)))
    (colWidths : List Int) (width : Int) (lineSep : List α) (header border : Bool) (chars : TableChars α) :
    Gen.Code.buildTable cx data colWidths width lineSep header border chars =
      pure ({ lines := buildTable cx data colWidths width header border chars, sep := lineSep, trailing := false } : Block α) := by
  first
    | exact absurd h (by decide)
    | (unfold Gen.Code.buildTable
       simp only [blockAppend_regenerated cx (by decide), alignLineLeft_regenerated cx (by decide),
         alignLineCenter_regenerated cx (by decide), blockNew_regenerated cx (by decide)]
       go_norm
       -- the horizontal bar
       rw [forRangeM_foldl (fun _ => True) colWidths (fun bar w => bar ++ gRepeat chars.horz w ++ chars.corner) _
         (fun _ _ _ => trivial) ?horz _ trivial]
       case horz =>
         intro k x bar hk hx _
         simp only [Int.toNat_natCast, getD_of_lt 0 hk, idx_nat colWidths k hk, pure_bind]
         rw [gRepeat_loop chars.horz colWidths[k] _ _ (fun _ _ => rfl) (fun _ _ => rfl) _ (Nat.le_refl _), hx, pure_bind]
       -- the break bar
       rw [gRepeat_loop chars.horz width _ _ (fun _ _ => rfl) (fun _ _ => rfl) _ (Nat.le_refl _)]
       simp only [pure_bind, ite_pure, List.nil_append]
       -- the rows
       rw [forRangeM_fold (fun _ => True) data (fun (b : Block α) (k : Nat) =>
         ({ b with lines := btStep cx data colWidths width header border chars b.lines k } : Block α)) _
         (fun _ _ _ _ => trivial) ?row _ trivial]
       · rw [foldl_block_lines, pure_bind, buildTable_eq]
         cases border <;> simp [Block.new, Block.append]
       case row =>
         intro k x blk hk _ _
         rw [whileM_count_pure (fun (p : List α × List α) (col : Int) => (p.1, p.2, col)) (fun _ => True) (colWidths.length : Int)
           (fun (p : List α × List α) (col : Nat) =>
             (btCell cx data[k] colWidths (k == 0 && header) border chars col,
              p.2 ++ btCell cx data[k] colWidths (k == 0 && header) border chars col))
           _ _ (fun _ _ _ _ => trivial) (fun _ _ => rfl) ?cell _ (_, _) trivial (by simp)]
         case cell =>
           intro p col hcol _
           have hcol' : col < colWidths.length := by omega
           simp only [idx_nat data k hk, idx_nat colWidths col hcol', pure_bind, bind_pure, idx_or_default, ite_pure]
           -- header cell or body cell: decided by cases, so that swapped arms / De Morgan re-prove
           have hkI : ((k : Int) = 0) ↔ (k = 0) := by omega
           simp only [btCell, getD_of_lt 0 hcol']
           by_cases hkz : k = 0 <;> cases header <;> cases border <;> simp [hkz, hkI]
         simp only [pure_bind, Int.toNat_natCast]
         rw [foldl_pair_snd (btCell cx data[k] colWidths (k == 0 && header) border chars)
           (fun b c => b ++ btCell cx data[k] colWidths (k == 0 && header) border chars c)]
         have hk0 : ((k : Int) = 0 ∧ header = true) ↔ ((k == 0 && header) = true) := by simp
         have hdl : ((data.length : Int) > 1) ↔ (data.length > 1) := by omega
         simp only [btStep, tableRow_eq, getD_of_lt [] hk, hk0, hdl, Block.append, Block.new]
         cases border <;> cases header <;> by_cases hkz : k = 0 <;> simp [hkz]
         all_goals (split <;> rfl))

theorem foldl_max_cast {β : Type} (l : List (List β)) :
    l.foldl (fun (m : Int) r => if (r.length : Int) > m then (r.length : Int) else m) 0 =
      ((l.foldl (fun m r => max m r.length) 0 : Nat) : Int) := by
  suffices h : ∀ (l : List (List β)) (m : Nat),
      l.foldl (fun (m : Int) r => if (r.length : Int) > m then (r.length : Int) else m) (m : Int) =
        ((l.foldl (fun m r => max m r.length) m : Nat) : Int) from h l 0
  intro l
  induction l with
  | nil => intro m; rfl
  | cons x xs ih =>
    intro m
    rw [List.foldl_cons, List.foldl_cons, ← ih]
    congr 1
    split <;> omega

/-- the pieces of the hand model's `makeTable`, named -/
def mtMaxW (col : Nat) (m : Int) (row : List (List α)) : Int :=
  let k : Int := gLen cx (row.getD col []); if k ≥ m then k else m

def mtContentW (data : List (List (List α))) (n : Nat) : List Int :=
  (List.range n).map fun col => data.foldl (mtMaxW cx col) 0

def mtPadded (border : Bool) (n : Nat) (contentW : List Int) : List Int :=
  (List.range n).map fun i => contentW.getD i 0 + (if border then 2 else if i + 1 < n then 2 else 0)

def mtMinW (border : Bool) (horzLen : Int) (padded : List Int) : Int :=
  padded.foldl (fun s w => s + w + (if border then horzLen else 0)) (if border then horzLen else 0)

def mtColWidths (border : Bool) (n : Nat) (padded : List Int) (spaceToAdd : Int) : List Int :=
  let numToSpace : Int := if !border ∧ n > 1 then (n : Int) - 1 else n
  let per := spaceToAdd / numToSpace
  let rem := spaceToAdd % numToSpace
  (List.range n).map fun i =>
    let w := padded.getD i 0
    if (i : Int) < numToSpace then w + per + (if (i : Int) < rem then 1 else 0) else w

theorem makeTable_eq (data : List (List (List α))) (width : Int) (header border : Bool) (charSet : List α) :
    makeTableCore cx data width header border charSet =
      if data.isEmpty then []
      else
        let n := data.foldl (fun m r => max m r.length) 0
        if n == 0 then []
        else
          let chars := parseTableCharSet cx charSet
          let padded := mtPadded border n (mtContentW cx data n)
          let mw := mtMinW border (gLen cx chars.horz) padded
          if width - mw > 0 then buildTable cx data (mtColWidths border n padded (width - mw)) width header border chars
          else buildTable cx data padded mw header border chars := rfl

theorem makeTable_regenerated (h : Gen.Code.makeTable_extracted = true) (data : List (List (List α))) (width : Int)
    (lineSep : List α) (header border : Bool) (charSet : List α) :
    Gen.Code.makeTable cx data width lineSep header border charSet =
      pure ({ lines := makeTable cx data width header border charSet, sep := lineSep, trailing := false } : Block α) := by
  first
    | exact absurd h (by decide)
    | (unfold Gen.Code.makeTable makeTable
       rw [ite_pure_bind]
       generalize (if width < 0 then (0 : Int) else width) = width
       rw [makeTable_eq]
       simp only [parseTableCharSet_regenerated cx (by decide), buildTable_regenerated cx (by decide),
         blockNew_regenerated cx (by decide)]
       go_norm
       by_cases hd : data = []
       · simp [hd, Block.new]
       · simp only [hd, if_false]
         -- colCount
         rw [forRangeM_foldl (fun _ => True) data (fun (cc : Int) r => if (r.length : Int) > cc then (r.length : Int) else cc) _
           (fun _ _ _ => trivial) ?cc _ trivial, foldl_max_cast, pure_bind]
         case cc =>
           intro k x cc hk hx _
           simp only [idx_nat data k hk, pure_bind, ite_pure, hx]
         generalize hn : data.foldl (fun m r => max m r.length) 0 = n
         by_cases hn0 : n = 0
         · simp [hn0, Block.new]
         · have hn0' : ¬ ((n : Int) = 0) := by omega
           simp only [hn0', if_false, beq_iff_eq, hn0, makeSlice_nat, pure_bind]
           -- content widths: column by column, the maximum over the rows kept in `c[col]`
           rw [whileM_count_pure Prod.mk (fun (c : List Int) => c.length = n) (n : Int)
             (fun (c : List Int) (col : Nat) => c.set col (data.foldl (mtMaxW cx col) 0))
             _ _ (fun c k _ hc => by simpa using hc) (fun _ _ => rfl) ?cw _ _ (by simp) (by simp)]
           case cw =>
             intro c col hcol hc
             have hcol' : col < c.length := by omega
             simp only [sliceSet_nat c col 0 hcol', pure_bind]
             rw [forRangeM_foldl (fun (c' : List Int) => c'.length = n) data
               (fun (c' : List Int) r => c'.set col (mtMaxW cx col (c'.getD col 0) r))
               _ (fun _ _ hc' => by simpa using hc') ?row _ (by simpa using hc)]
             case row =>
               intro row x c' hrow hx hc'
               have hcol2 : col < c'.length := by omega
               simp only [idx_nat data row hrow, idx_nat c' col hcol2, pure_bind, bind_pure, idx_or_default,
                 sliceSet_nat c' col _ hcol2, getD_of_lt 0 hcol2, hx, mtMaxW]
               split
               · rfl
               · simp
             rw [pure_bind, foldl_set_fixed (mtMaxW cx col) 0 col data _ (by simpa using hcol'), getD_set_self _ _ _ _ hcol',
               List.set_set]
           rw [Int.toNat_natCast, foldl_set_range_eq_map (fun (j : Nat) (_ : Int) => data.foldl (mtMaxW cx j) 0) 0 _ n (by simp),
             pure_bind, show (List.range n).map (fun j => data.foldl (mtMaxW cx j) 0) = mtContentW cx data n from rfl]
           have hcwl : (mtContentW cx data n).length = n := by simp [mtContentW]
           generalize mtContentW cx data n = cw at hcwl ⊢
           generalize hhl : ((gLen cx (parseTableCharSet cx charSet).horz : Nat) : Int) = hl
           simp only [copySlice_replicate, ite_pure, pure_bind]
           -- padding and minimal width
           rw [forRangeM_fold (fun (p : List Int × Int) => p.1.length = n) cw
             (fun (p : List Int × Int) (i : Nat) =>
               (p.1.set i (p.1.getD i 0 + (if border then 2 else if i + 1 < n then 2 else 0)),
                p.2 + (p.1.getD i 0 + (if border then 2 else if i + 1 < n then 2 else 0)) + (if border then hl else 0)))
             _ (fun k s _ hs => by simpa using hs) ?pad _ (by simpa using hcwl)]
           case pad =>
             intro i x p hi _ hp
             have hi' : i < p.1.length := by omega
             have hc1 : ((i : Int) + 1 < (cw.length : Int)) ↔ (i + 1 < n) := by omega
             simp only [idx_nat p.1 i hi', sliceSet_nat p.1 i _ hi', idx_set_self p.1 i _ hi', pure_bind,
               getD_of_lt 0 hi', ite_pure, hc1]
             cases border <;> simp
           rw [foldl_pair_set (fun (i : Nat) (w : Int) => w + (if border then 2 else if i + 1 < n then 2 else 0))
             (fun (m v : Int) => m + v + (if border then hl else 0)) 0 cw (if border then hl else 0) cw.length (Nat.le_refl _),
             foldl_set_range_eq_map (fun (i : Nat) (w : Int) => w + (if border then 2 else if i + 1 < n then 2 else 0)) 0 cw _ rfl]
           have hpad : (List.range cw.length).map (fun j => cw.getD j 0 + (if border then 2 else if j + 1 < n then 2 else 0)) =
               mtPadded border n cw := by rw [hcwl]; rfl
           have hmw : (List.range cw.length).foldl (fun (m : Int) (i : Nat) =>
               m + (cw.getD i 0 + (if border then 2 else if i + 1 < n then 2 else 0)) + (if border then hl else 0))
               (if border then hl else 0) = mtMinW border hl (mtPadded border n cw) := by
             rw [hcwl]; simp only [mtMinW, mtPadded, List.foldl_map]
           rw [hpad, hmw, pure_bind]
           have hpl : (mtPadded border n cw).length = n := by simp [mtPadded]
           generalize mtPadded border n cw = padded at hpl ⊢
           generalize mtMinW border hl padded = mw
           have hcopy2 : Go.copySlice (List.replicate n (0 : Int)) padded = padded := by
             rw [← hpl]; exact copySlice_replicate padded 0
           simp only [hcopy2]
           -- the guard in both polarities (`spaceToAdd > 0` / `spaceToAdd <= 0` with swapped arms)
           by_cases hsp : width - mw > 0
           · have hspn : ¬ width - mw ≤ 0 := by omega
             simp only [hsp, hspn, if_true, if_false]
             generalize hsp' : width - mw = sp at hsp hspn ⊢
             generalize hnts : (if border = false ∧ (n : Int) > 1 then (n : Int) - 1 else (n : Int)) = nts
             have hnts1 : 1 ≤ nts ∧ nts ≤ (n : Int) := by
               rw [← hnts]; split <;> omega
             have hdiv : Go.intDiv sp nts = pure (Int.tdiv sp nts) := by
               unfold Go.intDiv; rw [if_neg (by omega)]
             have hmod : Go.intMod sp nts = pure (Int.tmod sp nts) := by
               unfold Go.intMod; rw [if_neg (by omega)]
             have hst : Go.sliceTo padded nts = pure (padded.take nts.toNat) := by
               unfold Go.sliceTo; rw [if_pos (by omega)]
             simp only [hdiv, hmod, hst, pure_bind, bind_assoc]
             -- the first `nts` widths grow
             rw [forRangeM_set_each 0 (padded.take nts.toNat)
               (fun (i : Nat) (w : Int) => w + Int.tdiv sp nts + (if (i : Int) < Int.tmod sp nts then 1 else 0)) padded _ ?grow,
               foldl_set_range (fun (i : Nat) (w : Int) => w + Int.tdiv sp nts + (if (i : Int) < Int.tmod sp nts then 1 else 0)) 0,
               pure_bind]
             case grow =>
               intro i x c hi _ hc
               have hi' : i < c.length := by
                 rw [List.length_take] at hi; omega
               simp only [idx_nat c i hi', sliceSet_nat c i _ hi', idx_set_self c i _ hi', pure_bind, getD_of_lt 0 hi']
               split
               · rw [sliceSet_nat _ i _ (by simpa using hi'), List.set_set, pure_bind]
               · simp
             have hnts' : (if (!border) = true ∧ n > 1 then (n : Int) - 1 else (n : Int)) = nts := by
               rw [← hnts]
               have hc1 : (n > 1) ↔ ((n : Int) > 1) := by omega
               cases border <;> simp [hc1]
             have hfin : (List.range padded.length).map (fun j =>
                 if j < (padded.take nts.toNat).length then
                   padded.getD j 0 + Int.tdiv sp nts + (if (j : Int) < Int.tmod sp nts then 1 else 0)
                 else padded.getD j 0) = mtColWidths border n padded sp := by
               rw [hpl]
               refine List.map_congr_left fun i hi => ?_
               have hi' : i < n := List.mem_range.mp hi
               have hc : i < (padded.take nts.toNat).length ↔ (i : Int) < nts := by rw [List.length_take]; omega
               simp only [hc, hnts', Int.tdiv_eq_ediv_of_nonneg (Int.le_of_lt hsp), Int.tmod_eq_emod_of_nonneg (Int.le_of_lt hsp)]
             rw [hfin]
           · have hspn : width - mw ≤ 0 := by omega
             simp only [hsp, hspn, if_true, if_false, pure_bind])

end RosedVerif.GenCodeEq
