/-
The slice primitives that both translations emit (`Go.idx`, `Go.sliceSet`, `Go.makeSlice`, `Go.copySlice` of
Model/GoPrims.lean; Heap/GoHeapPrims.lean builds on the same ones) inside their bounds.  Each fact comes in the two forms the
proofs meet: the index a cast `Nat` (value level, `GenEq/Core`: loop indexes are `List.range`) and the index an `Int` with its
bounds as hypotheses (pointer level, `GenEq/GemCore`: indexes are computed).  Below `Core` and `GemCore`, neither of which
imports the other.
-/
import RosedVerif.Model.GoPrims
namespace RosedVerif.GenCodeEq
open RosedVerif

theorem getD_of_lt {β : Type} {l : List β} {k : Nat} (d : β) (hk : k < l.length) : l.getD k d = l[k] :=
  (List.getElem_eq_getD d).symm

theorem idx_of_getElem? {β : Type} {l : List β} {k : Nat} {x : β} (hk : l[k]? = some x) : Go.idx l (k : Int) = .ok x := by
  obtain ⟨hlt, rfl⟩ := List.getElem?_eq_some_iff.mp hk
  unfold Go.idx
  rw [dif_pos (by omega)]
  simp only [Int.toNat_natCast]
  rfl

theorem idx_nat {β : Type} (l : List β) (k : Nat) (hk : k < l.length) : Go.idx l (k : Int) = pure l[k] :=
  idx_of_getElem? (List.getElem?_eq_getElem hk)

theorem idx_getD (l : List Int) (i : Int) (h0 : 0 ≤ i) (h1 : i < l.length) :
    Go.idx l i = .ok (l.getD i.toNat 0) := by
  obtain ⟨k, rfl⟩ : ∃ k : Nat, i = k := ⟨i.toNat, by omega⟩
  have hk : k < l.length := by omega
  rw [idx_nat l k hk, Int.toNat_natCast, getD_of_lt 0 hk]
  rfl

theorem idx_error {β : Type} (l : List β) (i : Int) (hi : i < 0 ∨ (l.length : Int) ≤ i) : Go.idx l i = .error .index := by
  unfold Go.idx
  rw [dif_neg (by omega)]; rfl

theorem sliceSet_ok {β : Type} (l : List β) (i : Int) (v : β) (h0 : 0 ≤ i) (h1 : i < l.length) :
    Go.sliceSet l i v = .ok (l.set i.toNat v) := by
  unfold Go.sliceSet
  rw [if_pos (by omega)]; rfl

theorem sliceSet_nat {β : Type} (l : List β) (k : Nat) (v : β) (hk : k < l.length) :
    Go.sliceSet l (k : Int) v = pure (l.set k v) := by
  rw [sliceSet_ok l k v (by omega) (by omega), Int.toNat_natCast]
  rfl

theorem makeSlice_nonneg {β : Type} (n : Int) (z : β) (hn : 0 ≤ n) : Go.makeSlice n z = .ok (List.replicate n.toNat z) := by
  unfold Go.makeSlice
  rw [if_neg (by omega)]; rfl

theorem makeSlice_nat {β : Type} (n : Nat) (z : β) : Go.makeSlice (n : Int) z = pure (List.replicate n z) := by
  rw [makeSlice_nonneg _ z (Int.natCast_nonneg n), Int.toNat_natCast]
  rfl

/-- `dst := make([]T, len(src)); copy(dst, src)` -/
theorem copySlice_replicate {β : Type} (l : List β) (z : β) : Go.copySlice (List.replicate l.length z) l = l := by
  simp [Go.copySlice]

/-- The `i`-th cluster of a segmentation given by its exclusive ends (`Ctx.ends` at value level, the cache cell at pointer
level). -/
theorem clustersFrom_getElem {α : Type} (s : List α) : ∀ (e : List Nat) (prev i : Nat) (hi : i < (clustersFrom s prev e).length),
    (clustersFrom s prev e)[i] = sliceRunes s (if i > 0 then e.getD (i - 1) 0 else prev) (e.getD i 0) := by
  intro e; induction e with
  | nil => intro prev i hi; simp [clustersFrom] at hi
  | cons x xs ih =>
    intro prev i hi
    cases i with
    | zero => simp [clustersFrom]
    | succ j =>
      simp only [clustersFrom, List.getElem_cons_succ]
      rw [ih]
      cases j with
      | zero => simp
      | succ k => simp

end RosedVerif.GenCodeEq
