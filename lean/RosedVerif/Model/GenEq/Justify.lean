/-
manip.JustifyLine.
-/
import RosedVerif.Model.GenEq.Collapse
set_option linter.unusedVariables false
set_option linter.unusedSectionVars false
set_option linter.unusedSimpArgs false
namespace RosedVerif.GenCodeEq
open RosedVerif

variable {α : Type} [DecidableEq α] (cx : Ctx α)

/-- Go's `fullList`: the words interleaved with one string of `1 + extra[g]` spaces per gap -/
def jlFull : List (List α) → List Nat → List (List α)
  | [], _ => []
  | [w], _ => [w]
  | w :: w' :: ws, e :: es => w :: List.replicate (1 + e) cx.sp :: jlFull (w' :: ws) es
  | w :: w' :: ws, [] => w :: [cx.sp] :: jlFull (w' :: ws) []

theorem jlFull_flatten : ∀ (ws : List (List α)) (ex : List Nat), (jlFull cx ws ex).flatten = interleave cx ws ex := by
  intro ws
  induction ws with
  | nil => intro ex; simp [jlFull, interleave]
  | cons w ws ih =>
    intro ex
    cases ws with
    | nil => simp [jlFull, interleave]
    | cons w' ws' =>
      cases ex with
      | nil => simp [jlFull, interleave, ih]
      | cons e es => simp [jlFull, interleave, ih]

theorem jlFull_length : ∀ (ws : List (List α)) (ex : List Nat), ws ≠ [] → (jlFull cx ws ex).length = 2 * ws.length - 1 := by
  intro ws
  induction ws with
  | nil => intro ex h; exact absurd rfl h
  | cons w ws ih =>
    intro ex _
    cases ws with
    | nil => simp [jlFull]
    | cons w' ws' =>
      cases ex with
      | nil => simp [jlFull, ih [] (by simp)]; omega
      | cons e es => simp [jlFull, ih es (by simp)]; omega

/-- the gap string at position `2g+1` and its update -/
theorem jlFull_gap : ∀ (ws : List (List α)) (ex : List Nat) (g : Nat), g + 1 < ws.length → ex.length + 1 = ws.length →
    (jlFull cx ws ex)[2 * g + 1]? = some (List.replicate (1 + ex.getD g 0) cx.sp) ∧
    (jlFull cx ws ex).set (2 * g + 1) (List.replicate (1 + ex.getD g 0) cx.sp ++ [cx.sp]) =
      jlFull cx ws (ex.modify g (· + 1)) := by
  intro ws
  induction ws with
  | nil => intro ex g h; simp at h
  | cons w ws ih =>
    intro ex g hg hl
    cases ws with
    | nil => simp at hg
    | cons w' ws' =>
      cases ex with
      | nil => simp at hl
      | cons e es =>
        cases g with
        | zero =>
          simp [jlFull, List.replicate_succ']
          rw [show 1 + (e + 1) = (1 + e) + 1 by omega, List.replicate_succ']
        | succ k =>
          have := ih es k (by simpa using hg) (by simpa using hl)
          simp only [jlFull]
          have e1 : 2 * (k + 1) + 1 = (2 * k + 1) + 1 + 1 := by omega
          rw [e1]
          simp only [List.getElem?_cons_succ, List.set_cons_succ, List.getD_cons_succ, List.modify_succ_cons, jlFull]
          exact ⟨this.1, by rw [this.2]⟩

theorem jl_step (ws : List (List α)) (ex : List Nat) (hl : ex.length + 1 = ws.length) (g : Int) :
    (Go.idx (jlFull cx ws ex) (g * 2 + 1) >>= fun t => Go.sliceSet (jlFull cx ws ex) (g * 2 + 1) (t ++ [cx.sp])) =
      if g < 0 ∨ g ≥ ((ws.length : Int) - 1) then throw .index
      else pure (jlFull cx ws (ex.modify g.toNat (· + 1))) := by
  have hne : ws ≠ [] := by intro h; simp [h] at hl
  have hlen := jlFull_length cx ws ex hne
  by_cases hr : g < 0 ∨ g ≥ ((ws.length : Int) - 1)
  · rw [if_pos hr]
    unfold Go.idx
    rw [dif_neg (by omega)]
    rfl
  · rw [if_neg hr]
    have hk : g = ((g.toNat : Nat) : Int) := by omega
    have hk2 : (g * 2 + 1).toNat = 2 * g.toNat + 1 := by omega
    have hg := jlFull_gap cx ws ex g.toNat (by omega) hl
    unfold Go.idx Go.sliceSet
    rw [dif_pos (by omega)]
    simp only [pure_bind]
    rw [if_pos (by omega)]
    have h1 : (jlFull cx ws ex)[(g * 2 + 1).toNat]'(by omega) = List.replicate (1 + ex.getD g.toNat 0) cx.sp := by
      have := hg.1
      rw [← hk2, List.getElem?_eq_getElem (by omega)] at this
      exact Option.some.inj this
    rw [h1, hk2, hg.2]

/-- the distribution loop of JustifyLine over the model's primitives (state: fullList, fromRight, spaceIdx, i) -/
def jlCond (spacesToAdd : Int) (s : List (List α) × Bool × Int × Int) : R Bool := pure (decide (s.2.2.2 < spacesToAdd))

def jlBody (numGaps odd : Int) (s : List (List α) × Bool × Int × Int) : R (List (List α) × Bool × Int × Int) :=
  let g : Int := if s.2.1 then (numGaps - odd) - s.2.2.1 else s.2.2.1
  (Go.idx s.1 (g * 2 + 1) >>= fun t => Go.sliceSet s.1 (g * 2 + 1) (t ++ [cx.sp])) >>= fun fl =>
    pure (fl, !s.2.1, (if s.2.2.1 + 1 ≥ numGaps then 0 else s.2.2.1 + 1), s.2.2.2 + 1)

theorem distribute_eq_while (ws : List (List α)) (odd spacesToAdd : Int) :
    ∀ (fuel n : Nat) (ex : List Nat) (fromRight : Bool) (spaceIdx i : Int),
    ex.length + 1 = ws.length → i + n = spacesToAdd → n + 1 ≤ fuel →
    (jlFull cx ws ·) <$> distribute ((ws.length : Int) - 1) odd n spaceIdx fromRight ex =
      (fun s => s.1) <$> Go.whileM fuel (jlCond spacesToAdd) (jlBody cx ((ws.length : Int) - 1) odd)
        (jlFull cx ws ex, fromRight, spaceIdx, i) := by
  intro fuel
  induction fuel with
  | zero => intro n ex fr si i _ _ h; omega
  | succ f ih =>
    intro n ex fr si i hl hi hf
    unfold Go.whileM
    simp only [jlCond, pure_bind]
    cases n with
    | zero =>
      have : ¬ (i < spacesToAdd) := by omega
      simp [this, distribute]
    | succ m =>
      have : (i < spacesToAdd) := by omega
      simp only [this, decide_true, if_true, jlBody, jl_step cx ws _ hl, distribute]
      generalize (if fr = true then (ws.length : Int) - 1 - odd - si else si) = g
      split
      · rfl
      · simp only [pure_bind]
        exact ih m _ (!fr) _ (i + 1) (by simp [hl]) (by omega) (by omega)

theorem jl_buildAux (N : Int) : ∀ (xs : List (List α)) (k : Int) (acc : List (List α)), k + xs.length = N →
    Go.forRangeAux (fun (i : Int) (w : List α) (acc : List (List α)) =>
        (pure (if i + 1 < N then acc ++ [w] ++ [[cx.sp]] else acc ++ [w]) : R _)) k xs acc =
      pure (acc ++ jlFull cx xs (List.replicate (xs.length - 1) 0)) := by
  intro xs
  induction xs with
  | nil => intro k acc _; simp [Go.forRangeAux, jlFull]
  | cons w ws ih =>
    intro k acc hk
    cases ws with
    | nil =>
      have : ¬ (k + 1 < N) := by simp at hk; omega
      simp [Go.forRangeAux, jlFull, this]
    | cons w' r =>
      have : (k + 1 < N) := by simp at hk; omega
      rw [Go.forRangeAux, pure_bind, if_pos this, ih (k + 1) _ (by simp at hk ⊢; omega)]
      simp [jlFull, List.replicate_succ]

theorem intercalate_nil {β : Type} (l : List (List β)) : List.intercalate [] l = l.flatten := by
  induction l with
  | nil => rfl
  | cons a t ih =>
    cases t with
    | nil => simp [List.intercalate]
    | cons b r =>
      simp only [List.intercalate, List.intersperse_cons_cons, List.flatten_cons, List.nil_append] at ih ⊢
      rw [ih]

/-- the loop that builds `fullList`, for ANY body that appends the word and, before every word but the last, one space -/
theorem jl_build (xs : List (List α)) (body : Int → List α → List (List α) → R (List (List α)))
    (hbody : ∀ (k : Nat) (w : List α) (acc : List (List α)), k < xs.length →
      body (k : Int) w acc = pure (if (k : Int) + 1 < (xs.length : Int) then acc ++ [w] ++ [[cx.sp]] else acc ++ [w])) :
    Go.forRangeM xs body [] = pure (jlFull cx xs (List.replicate (xs.length - 1) 0)) := by
  rw [forRangeM_congr xs body (fun k w acc => pure (if k + 1 < (xs.length : Int) then acc ++ [w] ++ [[cx.sp]] else acc ++ [w])) [] hbody]
  have := jl_buildAux cx (xs.length : Int) xs 0 [] (by omega)
  simpa [Go.forRangeM] using this

/-- the part of JustifyLine after the two guards, for ANY loop condition / body that agree with the semantic ones
(`jlCond`, `jlBody`); `odd` is the model's parity term -/
theorem jl_tail (t : List α) (width odd : Int) (hg : 2 ≤ (splitOn t [cx.sp]).length) (hw : (gLen cx t : Int) < width)
    (cond : List (List α) × Bool × Int × Int → R Bool)
    (body : List (List α) × Bool × Int × Int → R (List (List α) × Bool × Int × Int))
    (k : List (List α) × Bool × Int × Int → R (List α))
    (hc : ∀ s, cond s = jlCond (width - (gLen cx t : Int)) s)
    (hb : ∀ s, body s = jlBody cx (((splitOn t [cx.sp]).length : Int) - 1) odd s)
    (hk : ∀ s, k s = pure s.1.flatten) :
    Go.whileM ((width - (gLen cx t : Int)).toNat + 1) cond body
        (jlFull cx (splitOn t [cx.sp]) (List.replicate ((splitOn t [cx.sp]).length - 1) 0), false, 0, 0) >>= k =
      distribute (((splitOn t [cx.sp]).length : Int) - 1) odd (width - (gLen cx t : Int)).toNat 0 false
          (List.replicate (((splitOn t [cx.sp]).length : Int) - 1).toNat 0) >>= fun extra =>
        pure (interleave cx (splitOn t [cx.sp]) extra) := by
  have hrep : (((splitOn t [cx.sp]).length : Int) - 1).toNat = (splitOn t [cx.sp]).length - 1 := by omega
  have hR : ∀ m : R (List Nat), (m >>= fun extra => (pure (interleave cx (splitOn t [cx.sp]) extra) : R _)) =
      ((jlFull cx (splitOn t [cx.sp]) ·) <$> m) >>= fun fl => pure fl.flatten := by
    intro m; simp only [map_eq_pure_bind, bind_assoc, pure_bind, jlFull_flatten]
  rw [hR, hrep, distribute_eq_while cx (splitOn t [cx.sp]) _ (width - (gLen cx t : Int))
    ((width - (gLen cx t : Int)).toNat + 1) _ _ false 0 0 (by simp; omega) (by omega) (by omega)]
  simp only [map_eq_pure_bind, bind_assoc, pure_bind]
  exact whileM_bind_congr rfl rfl hc hb hk

theorem justifyLine_regenerated (h : Gen.Code.justifyLine_extracted = true) (text : List α) (width : Int) :
    Gen.Code.justifyLine cx text width = justifyLine cx text width := by
  first
    | exact absurd h (by decide)
    | (unfold Gen.Code.justifyLine justifyLine
       simp only [collapseSpace_regenerated cx (by decide)]
       go_norm
       refine bind_congr (m := R) fun t => ?_
       -- the two guards, decided on both sides whatever their polarity / nesting
       by_cases hw : (gLen cx t : Int) ≥ width
       · have hw' : ¬ (gLen cx t : Int) < width := by omega
         go_guards [hw, hw']
       have hw' : (gLen cx t : Int) < width := by omega
       by_cases hg : ((splitOn t [cx.sp]).length : Int) - 1 < 1
       · have hg' : ¬ ((splitOn t [cx.sp]).length : Int) - 1 ≥ 1 := by omega
         go_guards [hw, hw', hg, hg']
       have hg' : ((splitOn t [cx.sp]).length : Int) - 1 ≥ 1 := by omega
       go_guards [hw, hw', hg, hg']
       -- Go takes the parity with the truncating remainder, of a positive number
       have htm : (((splitOn t [cx.sp]).length : Int) - 1).tmod 2 = (((splitOn t [cx.sp]).length : Int) - 1) % 2 :=
         Int.tmod_eq_emod_of_nonneg (by omega)
       simp only [htm, ite_pure, pure_bind, beq_iff_eq, ite_not]
       rw [jl_build cx (splitOn t [cx.sp])]
       · simp only [pure_bind]
         refine jl_tail cx t width _ (by omega) hw' _ _ _ ?_ ?_ ?_
         · intro s; (try simp only [jlCond]) <;> go_close
         · intro s
           (try simp only [jlBody, bind_assoc, pure_bind, ite_pure_bind, ge_iff_le, apply_ite (fun g : Int => g * 2 + 1)]) <;>
             go_close
         · intro s; simp [joinWith, intercalate_nil]
       · intro k w acc hk
         go_close)

end RosedVerif.GenCodeEq
