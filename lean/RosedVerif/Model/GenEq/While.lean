/-
`Go.whileM` seen from a hand-written loop: a fuel-indexed function that satisfies the step equation of the loop is the
loop, and a loop whose state is an image of a smaller state runs on the smaller state.
-/
import RosedVerif.Model.GenEq.Core
set_option linter.unusedVariables false
namespace RosedVerif.GenCodeEq
open RosedVerif

variable {σ ρ τ γ : Type}

/-- `Go.whileM` is the only solution of its step equation. -/
theorem whileM_unique (cond : σ → R Bool) (body : σ → R σ) (out : σ → τ) (F : Nat → σ → R τ)
    (h0 : ∀ s, F 0 s = throw .fuel)
    (hS : ∀ n s, F (n + 1) s = cond s >>= fun b => if b then body s >>= F n else pure (out s)) :
    ∀ n s, F n s = out <$> Go.whileM n cond body s := by
  intro n
  induction n with
  | zero => intro s; rw [h0]; rfl
  | succ n ih =>
    intro s
    rw [hS, Go.whileM, map_bind]
    refine bind_congr (m := R) fun b => ?_
    cases b
    · rfl
    · simp only [if_true, map_bind]
      exact bind_congr ih

/-- A loop that keeps its state in the image of `ι` is the loop on the preimages. -/
theorem whileM_bind_image (ι : ρ → σ) {cond : σ → R Bool} {body : σ → R σ} {cond' : ρ → R Bool} {body' : ρ → R ρ}
    {k : σ → R γ} {k' : ρ → R γ}
    (hc : ∀ r, cond (ι r) = cond' r) (hb : ∀ r, body (ι r) = ι <$> body' r) (hk : ∀ r, k (ι r) = k' r) :
    ∀ n r, Go.whileM n cond body (ι r) >>= k = Go.whileM n cond' body' r >>= k' := by
  intro n
  induction n with
  | zero => intro r; rfl
  | succ n ih =>
    intro r
    rw [Go.whileM, Go.whileM, hc, bind_assoc, bind_assoc]
    refine bind_congr (m := R) fun b => ?_
    cases b
    · simpa using hk r
    · simp only [if_true, hb, bind_assoc, map_eq_pure_bind, pure_bind, ih]

end RosedVerif.GenCodeEq
