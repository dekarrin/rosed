/-
Editor.InsertTableOpts, Editor.InsertTable.
-/
import RosedVerif.Model.GenEq.Options
import RosedVerif.Model.GenEq.Block
import RosedVerif.Model.GenEq.Table
import RosedVerif.Model.GenEq.Edit
set_option linter.unusedVariables false
set_option linter.unusedSectionVars false
set_option linter.unusedSimpArgs false
namespace RosedVerif.GenCodeEq
open RosedVerif

variable {α : Type} [DecidableEq α] (cx : Ctx α)

/-- needs `cx.WF`: for `Editor.Insert` (as `editorInsert_regenerated`), and its second half, every atom has a positive
byte length, because `len(table) > 0` counts bytes where the model tests for the empty list -/
theorem editorInsertTableOpts_regenerated (h : Gen.Code.editorInsertTableOpts_extracted = true)
    (hwf : cx.WF) (ed : Editor α) (pos : Int) (data : List (List (List α))) (width : Int) (o : Options α) :
    Gen.Code.editorInsertTableOpts cx ed pos data width o = ed.insertTableOpts cx pos data width o := by
  first
    | exact absurd h (by decide)
    | (unfold Gen.Code.editorInsertTableOpts Editor.insertTableOpts
       simp only [optionsWithDefaults_regenerated cx (by decide), makeTable_regenerated cx (by decide),
         blockJoin_regenerated cx (by decide), editorInsert_regenerated cx (by decide) hwf, pure_bind]
       go_norm
       simp only [makeSlice_nat, pure_bind]
       -- the copy of `data`
       rw [forRangeM_set_each [] data (fun (k : Nat) (_ : List (List α)) => data.getD k []) _ _ ?copy,
         foldl_set_range_eq_map (fun (k : Nat) (_ : List (List α)) => data.getD k []) [] _ _ (by simp), map_range_getD]
       case copy =>
         intro k x c hk _ hc
         simp only [idx_nat data k hk, sliceSet_nat c k _ (by simpa [hc] using hk), pure_bind, getD_of_lt [] hk]
       simp only [pure_bind, bind_pure]
       have hbl : ∀ t : List α, ((byteLen cx t : Nat) : Int) > 0 ↔ ¬ t = [] := by
         intro t
         constructor
         · intro h1 h2; subst h2; simp at h1
         · intro h1
           have := length_le_byteLen (s := t) fun a _ => hwf.2 a
           have : 0 < t.length := List.length_pos_iff.mpr h1
           omega
       simp only [hbl, List.isEmpty_iff]
       split <;> split <;> simp_all)

theorem editorInsertTable_regenerated (h : Gen.Code.editorInsertTable_extracted = true)
    (hwf : cx.WF) (ed : Editor α) (pos : Int) (data : List (List (List α))) (width : Int) :
    Gen.Code.editorInsertTable cx ed pos data width = ed.insertTableOpts cx pos data width ed.opts := by
  first
    | exact absurd h (by decide)
    | (unfold Gen.Code.editorInsertTable
       simp only [editorInsertTableOpts_regenerated cx (by decide) hwf, bind_pure])

theorem editorInsertTableOpts_cxA (h : Gen.Code.editorInsertTableOpts_extracted = true) (ed : Editor Int) (pos : Int)
    (data : List (List (List Int))) (width : Int) (o : Options Int) :
    Gen.Code.editorInsertTableOpts cxA ed pos data width o = ed.insertTableOpts cxA pos data width o :=
  editorInsertTableOpts_regenerated cxA h cxA_WF ed pos data width o

end RosedVerif.GenCodeEq
