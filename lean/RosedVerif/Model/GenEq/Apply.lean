/-
Editor.ApplyOpts, Editor.Apply.
-/
import RosedVerif.Model.GenEq.Options
import RosedVerif.Model.GenEq.Lines
set_option linter.unusedVariables false
set_option linter.unusedSectionVars false
set_option linter.unusedSimpArgs false
namespace RosedVerif.GenCodeEq
open RosedVerif

variable {α : Type} [DecidableEq α] (cx : Ctx α)

/-- Go's callback takes an `int` index and may panic: `applyOptsM` with the index cast -/
theorem editorApplyOpts_regenerated (h : Gen.Code.editorApplyOpts_extracted = true) (ed : Editor α)
    (op : Int → List α → R (List (List α))) (o : Options α) :
    Gen.Code.editorApplyOpts cx ed op o = ed.applyOptsM cx (fun i l => op (i : Int) l) o := by
  first
    | exact absurd h (by decide)
    | (unfold Gen.Code.editorApplyOpts Editor.applyOptsM
       simp only [optionsWithDefaults_regenerated cx (by decide), editorLinesSep_regenerated cx (by decide),
         editorWithOptions_regenerated cx (by decide), pure_bind]
       go_norm
       simp only [ite_pure]
       rw [forRangeM_congr _ _ (fun i x acc => op i x >>= fun nl => pure (acc ++ nl)),
         forRangeM_append_mapM op ([] : List α)]
       rotate_left
       · intro k x acc _
         exact bind_congr (m := R) fun nl => by split <;> simp_all
       simp only [bind_assoc, pure_bind, List.nil_append]
       first
         | -- the source as it is: one loop over all lines
           (refine bind_congr (m := R) fun outs => ?_
            go_close)
         | -- for a source with a fast path for a single line in front of the loop: `applied = op(0, lines[0])`
           (generalize (ed.withOpts (o.withDefaults cx)).linesSep (o.withDefaults cx).lineSep = L
            have hfast : (if ((L.length : Nat) : Int) = 1 then
                  (Go.idx L 0 >>= fun t4 => op 0 t4 >>= fun t5 => (pure t5 : R _))
                else ((List.range L.length).mapM (fun (i : Nat) => op (i : Int) (L.getD i [])) >>= fun outs => (pure outs.flatten : R _))) =
                ((List.range L.length).mapM (fun (i : Nat) => op (i : Int) (L.getD i [])) >>= fun outs => (pure outs.flatten : R _)) := by
              split
              · rename_i h1
                match L, h1 with
                | [l], _ => simp [Go.idx]
              · rfl
            rw [hfast]
            simp only [bind_assoc, pure_bind]
            refine bind_congr (m := R) fun outs => ?_
            go_close))

theorem editorApply_regenerated (h : Gen.Code.editorApply_extracted = true) (ed : Editor α)
    (op : Int → List α → R (List (List α))) :
    Gen.Code.editorApply cx ed op = ed.applyOptsM cx (fun i l => op (i : Int) l) ed.opts := by
  first
    | exact absurd h (by decide)
    | (unfold Gen.Code.editorApply
       simp only [editorApplyOpts_regenerated cx (by decide), bind_pure])

end RosedVerif.GenCodeEq
