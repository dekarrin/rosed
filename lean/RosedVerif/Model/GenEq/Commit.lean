/-
Editor.Commit, Editor.CommitAll, Editor.String.
-/
import RosedVerif.Model.GenEq.Options
set_option linter.unusedVariables false
set_option linter.unusedSectionVars false
set_option linter.unusedSimpArgs false
namespace RosedVerif.GenCodeEq
open RosedVerif

variable {α : Type} [DecidableEq α] (cx : Ctx α)

theorem editorCommit_regenerated (h : Gen.Code.editorCommit_extracted = true) (ed : Editor α) :
    Gen.Code.editorCommit cx ed = ed.commit cx := by
  first
    | exact absurd h (by decide)
    | (unfold Gen.Code.editorCommit
       simp only [editorIsSubEditor_regenerated cx (by decide), pure_bind]
       cases ed <;> simp [Editor.commit, Editor.isSub, Go.edRefParent, Go.edRefStart, Go.edRefEnd, Go.strSplice,
         Editor.text])

theorem depth_withText (e : Editor α) (t : List α) : (e.withText t).depth = e.depth := by
  cases e <;> rfl

theorem commit_depth (ed ed' : Editor α) (h : ed.commit cx = pure ed') (hs : ed.isSub = true) :
    ed'.depth + 1 = ed.depth := by
  cases ed with
  | root t o => cases hs
  | sub t o p a b =>
    simp only [Editor.commit] at h
    cases hsp : spliceBytes cx p.text a b t with
    | error e => rw [hsp] at h; cases h
    | ok r => rw [hsp] at h; cases h; simp [Editor.depth, depth_withText]

theorem commitAll_eq_while : ∀ (n : Nat) (ed : Editor α), ed.depth ≤ n →
    commitAllFuel cx n ed = Go.whileM (n + 1) (fun e => pure e.isSub) (fun e => e.commit cx) ed := by
  intro n
  induction n with
  | zero =>
    intro ed hd
    cases ed with
    | root t o => rfl
    | sub t o p a b => simp [Editor.depth] at hd
  | succ n ih =>
    intro ed hd
    unfold Go.whileM commitAllFuel
    simp only [pure_bind]
    cases hs : ed.isSub with
    | false => rfl
    | true =>
      simp only [if_true]
      cases hc : ed.commit cx with
      | error e => rfl
      | ok ed' =>
        have := commit_depth cx ed ed' hc hs
        exact ih ed' (by omega)

theorem editorCommitAll_regenerated (h : Gen.Code.editorCommitAll_extracted = true) (ed : Editor α) :
    Gen.Code.editorCommitAll cx ed = ed.commitAll cx := by
  first
    | exact absurd h (by decide)
    | (unfold Gen.Code.editorCommitAll Editor.commitAll
       rw [commitAll_eq_while cx _ _ (Nat.le_refl _)]
       simp only [editorCommit_regenerated cx (by decide), editorIsSubEditor_regenerated cx (by decide), bind_pure])

theorem editorString_regenerated (h : Gen.Code.editorString_extracted = true) (ed : Editor α) :
    Gen.Code.editorString cx ed = ed.string cx := by
  first
    | exact absurd h (by decide)
    | (unfold Gen.Code.editorString Editor.string
       simp only [editorIsSubEditor_regenerated cx (by decide), editorCommitAll_regenerated cx (by decide), pure_bind]
       cases ed with
       | root t o => rfl
       | sub t o p a b => simp [Editor.isSub])

end RosedVerif.GenCodeEq
