/-
Shared by the pointer-level modules `GenEq/Gem*` (package internal/gem against layer H): the heap monad of the generated
code (`HGo.HM`, Heap/GoHeapPrims.lean) evaluated on a heap, one `run_*` lemma per primitive, the case analysis of a receiver
(zero value, empty cache, filled cache), the loop combinators, and the evaluating tactic `gem_run`.  Ties no Go function itself.
-/
import RosedVerif.Gen.GemCode
import RosedVerif.Model.InstAFacts
import RosedVerif.Model.GenEq.GemSimp
import RosedVerif.Model.GenEq.Prims
set_option linter.unusedVariables false
set_option linter.unusedSectionVars false
set_option linter.unusedSimpArgs false
namespace RosedVerif.GenCodeEq
open RosedVerif RosedVerif.H RosedVerif.HGo

/-- the hand-model computation `m` as a panic-free computation of the generated code's monad: same heap,
same events, result `g` of the hand model's result -/
def okM {α β : Type} (m : M α) (g : α → β) : HM β := fun h => ((m h).1, .ok (g (m h).2.1), (m h).2.2)

theorem okM_run {α β : Type} (m : M α) (g : α → β) (h : Heap) :
    okM m g h = ((m h).1, .ok (g (m h).2.1), (m h).2.2) := rfl

theorem run_pure {α : Type} (a : α) (h : Heap) : (pure a : HM α) h = (h, .ok a, []) := rfl

/-- the events `w` written before, then the outcome `r` of the rest -/
def prep {β : Type} (w : List Wr) (r : Heap × R β × List Wr) : Heap × R β × List Wr := (r.1, r.2.1, w ++ r.2.2)

theorem prep_mk {β : Type} (w w' : List Wr) (h : Heap) (r : R β) : prep w (h, r, w') = (h, r, w ++ w') := rfl
theorem prep_nil {β : Type} (r : Heap × R β × List Wr) : prep [] r = r := by simp [prep]
theorem prep_prep {β : Type} (w w' : List Wr) (r : Heap × R β × List Wr) : prep w (prep w' r) = prep (w ++ w') r := by
  simp [prep]

theorem prep_ite {β : Type} (w : List Wr) (c : Prop) [Decidable c] (a b : Heap × R β × List Wr) :
    prep w (if c then a else b) = if c then prep w a else prep w b := by split <;> rfl

theorem run_bind {α β : Type} (m : HM α) (f : α → HM β) (h : Heap) :
    (m >>= f) h = (match m h with
      | (h1, .ok a, w1) => prep w1 (f a h1)
      | (h1, .error e, w1) => (h1, .error e, w1)) := rfl

/-- `run_bind` when the first computation is known -/
theorem run_bind_ok {α β : Type} {m : HM α} {f : α → HM β} {h h1 : Heap} {a : α} {w1 : List Wr}
    (hm : m h = (h1, .ok a, w1)) : (m >>= f) h = prep w1 (f a h1) := by
  rw [run_bind, hm]

theorem run_bind_error {α β : Type} {m : HM α} {f : α → HM β} {h h1 : Heap} {e : Err} {w1 : List Wr}
    (hm : m h = (h1, .error e, w1)) : (m >>= f) h = (h1, .error e, w1) := by
  rw [run_bind, hm]

theorem run_okM_bind {α β γ : Type} (m : M α) (g : α → β) (f : β → HM γ) (h : Heap) :
    (okM m g >>= f) h = prep (m h).2.2 (f (g (m h).2.1) (m h).1) := rfl

theorem pure_eq_ok {α : Type} (a : α) : (pure a : R α) = Except.ok a := rfl
theorem throw_eq_error {α : Type} (e : Err) : (throw e : R α) = Except.error e := rfl

theorem map_ok {α β : Type} (f : α → β) (a : α) : f <$> (Except.ok a : R α) = Except.ok (f a) := rfl
theorem map_error {α β : Type} (f : α → β) (e : Err) : f <$> (Except.error e : R α) = Except.error e := rfl

theorem run_liftR {α : Type} (r : R α) (h : Heap) : liftR r h = (h, r, []) := rfl
theorem run_panic {α : Type} (e : Err) (h : Heap) : (HGo.panic e : HM α) h = (h, .error e, []) := rfl

theorem run_ite {α : Type} (c : Prop) [Decidable c] (a b : HM α) (h : Heap) :
    (if c then a else b) h = if c then a h else b h := by split <;> rfl

theorem run_newCell (h : Heap) :
    newCell h = (⟨h.cells ++ [none]⟩, .ok (some h.cells.length), [.alloc h.cells.length]) := rfl

theorem run_load (c : Nat) (h : Heap) : load (some c) h = (h, .ok (ofCell (h.get c)), []) := rfl
theorem run_load_none (h : Heap) : load none h = (h, .error .explicit, []) := rfl

theorem all_nonneg_map (l : List Nat) : (l.map Int.ofNat).all (fun x => decide (0 ≤ x)) = true := by
  induction l <;> simp_all

theorem map_toNat_ofNat (l : List Nat) : (l.map Int.ofNat).map Int.toNat = l := by
  induction l <;> simp_all

theorem toCell_ofCell (v : Option (List Nat)) : toCell (ofCell v) = .ok v := by
  cases v with
  | none => rfl
  | some l =>
    have h1 := all_nonneg_map l
    have h2 := map_toNat_ofNat l
    simp only [toCell, ofCell, Option.map_some, h1, h2, if_true]
    rfl

theorem toCell_some_map (l : List Nat) : toCell (some (l.map Int.ofNat)) = .ok (some l) := toCell_ofCell (some l)

theorem toCell_none : toCell none = .ok none := rfl

theorem toCell_replicate (k : Nat) : toCell (some (List.replicate k (0 : Int))) = .ok (some (List.replicate k 0)) := by
  have := toCell_some_map (List.replicate k 0)
  simpa using this

theorem run_store' (c : Nat) (v : Option (List Int)) (h : Heap) :
    store (some c) v h = (match toCell v with
      | .ok v' => (h.set c v', .ok (), [if v'.isSome then .fill c else .clear c])
      | .error e => (h, .error e, [])) := rfl

theorem run_update' (c : Nat) (v : Option (List Int)) (h : Heap) :
    update (some c) v h = (match toCell v with
      | .ok v' => (h.set c v', .ok (), [])
      | .error e => (h, .error e, [])) := rfl

theorem run_newCellOf' (v : Option (List Int)) (h : Heap) :
    newCellOf v h = (match toCell v with
      | .ok v' => (⟨h.cells ++ [v']⟩, .ok (some h.cells.length), [.alloc h.cells.length])
      | .error e => (h, .error e, [])) := rfl

theorem ocopy_some {β : Type} (l : List β) (src : Option (List β)) : ocopy (some l) src = some (Go.copySlice l (olist src)) := rfl
theorem ocopy_none {β : Type} (src : Option (List β)) : ocopy none src = none := rfl

theorem run_store (c : Nat) (v : Option (List Nat)) (h : Heap) :
    store (some c) (ofCell v) h = (h.set c v, .ok (), [if v.isSome then .fill c else .clear c]) := by
  simp [store, toCell_ofCell]

theorem run_store_none (c : Nat) (h : Heap) :
    store (some c) none h = (h.set c none, .ok (), [.clear c]) :=
  run_store c none h

theorem run_update (c : Nat) (v : Option (List Nat)) (h : Heap) :
    update (some c) (ofCell v) h = (h.set c v, .ok (), []) := by
  simp [update, toCell_ofCell]

theorem run_newCellOf (v : Option (List Nat)) (h : Heap) :
    newCellOf (ofCell v) h = (⟨h.cells ++ [v]⟩, .ok (some h.cells.length), [.alloc h.cells.length]) := by
  simp [newCellOf, toCell_ofCell, Heap.alloc]

@[simp] theorem ofCell_none : ofCell none = none := rfl
@[simp] theorem ofCell_some (l : List Nat) : ofCell (some l) = some (l.map Int.ofNat) := rfl
@[simp] theorem ofCell_eq_none (v : Option (List Nat)) : ofCell v = none ↔ v = none := by cases v <;> simp [ofCell]

theorem set_get_self (h : Heap) (c : Nat) (v) (hc : c < h.cells.length) (hg : h.get c = v) : h.set c v = h := by
  cases h with | mk cells =>
  simp only [Heap.get, Heap.set] at *
  congr 1
  rw [← hg]
  simp [List.getD_eq_getElem?_getD, List.getElem?_eq_getElem hc]

theorem set_set (h : Heap) (c : Nat) (v w) : (h.set c v).set c w = h.set c w := by
  simp [Heap.set, List.set_set]

theorem makeSlice_len {β γ : Type} (l : List γ) (z : β) : Go.makeSlice (l.length : Int) z = pure (List.replicate l.length z) :=
  makeSlice_nat l.length z

theorem take_length_map {β γ : Type} (l : List γ) (f : γ → β) : (l.map f).take l.length = l.map f := by
  rw [List.take_of_length_le (by simp)]

theorem copySlice_replicate_map {β γ : Type} (l : List γ) (f : γ → β) (z : β) :
    Go.copySlice (List.replicate l.length z) (l.map f) = l.map f := by
  have := copySlice_replicate (l.map f) z
  simpa using this

theorem replicate_zero_eq_map (k : Nat) : List.replicate k (0 : Int) = (List.replicate k (0 : Nat)).map Int.ofNat := by
  simp

theorem get_lt {h : Heap} {c : Nat} {e : List Nat} (hg : h.get c = some e) : c < h.cells.length := by
  apply Decidable.byContradiction; intro hn
  rw [Heap.get_of_le h c (by omega)] at hg; cases hg

theorem get_append_lt (cells : List (Option (List Nat))) (v) (c : Nat) (hc : c < cells.length) :
    (Heap.mk (cells ++ [v])).get c = (Heap.mk cells).get c := by
  simp [Heap.get, List.getD_eq_getElem?_getD, List.getElem?_append_left hc]

theorem get_append_self (cells : List (Option (List Nat))) (v) :
    (Heap.mk (cells ++ [v])).get cells.length = v := by
  simp [Heap.get, List.getD_eq_getElem?_getD]

theorem set_append_self (cells : List (Option (List Nat))) (v v') :
    (Heap.mk (cells ++ [v])).set cells.length v' = Heap.mk (cells ++ [v']) := by
  simp [Heap.set]

theorem get_set_self (h : Heap) (c : Nat) (v) (hc : c < h.cells.length) : (h.set c v).get c = v := by
  simp [Heap.get_set, hc]

/-- a zero-value receiver: the rest of the function runs on an initialized one, on the heap extended by its empty cell -/
theorem run_initialized_none {β : Type} (rs : List Int) (K : GStr → HM β) (h : Heap) :
    (okM (initialized ⟨rs, none⟩) id >>= K) h =
      prep [.alloc h.cells.length] (K ⟨rs, some h.cells.length⟩ ⟨h.cells ++ [none]⟩) := rfl

theorem run_initialized_some {β : Type} (rs : List Int) (c : Nat) (K : GStr → HM β) (h : Heap) :
    (okM (initialized ⟨rs, some c⟩) id >>= K) h = K ⟨rs, some c⟩ h := by
  rw [run_okM_bind]; exact prep_nil _

/-- a function that begins by initializing its receiver treats the zero value as an initialized receiver on the heap
extended by its empty cell -/
theorem zero_eq {β : Type} {F K : GStr → HM β} (hF : ∀ v, F v = okM (initialized v) id >>= K) (rs : List Int) (h : Heap) :
    F ⟨rs, none⟩ h = prep [.alloc h.cells.length] (F ⟨rs, some h.cells.length⟩ ⟨h.cells ++ [none]⟩) := by
  rw [hF, hF, run_initialized_none, run_initialized_some]

/-- Zero value or initialized receiver.  A statement `Q` about a receiver on a heap holds for every receiver whose cell is
allocated if it holds for the initialized ones, and for the zero value whenever it holds for the initialized receiver on the
heap extended by its empty cell.  `P rs e`: what is known of cached ends `e` of a value with runes `rs`. -/
theorem zero_cases (Q : GStr → Heap → Prop) (P : List Int → List Nat → Prop)
    (zero : ∀ rs h, Q ⟨rs, some h.cells.length⟩ ⟨h.cells ++ [none]⟩ → Q ⟨rs, none⟩ h)
    (init : ∀ rs c h, c < h.cells.length → (∀ e, h.get c = some e → P rs e) → Q ⟨rs, some c⟩ h)
    (s : GStr) (h : Heap) (ha : ∀ c, s.cell = some c → c < h.cells.length)
    (hp : ∀ c e, s.cell = some c → h.get c = some e → P s.runes e) : Q s h := by
  rcases s with ⟨rs, _ | c⟩
  · exact zero rs h (init _ _ _ (by simp) (fun e he => by rw [get_append_self] at he; cases he))
  · exact init rs c h (ha c rfl) (fun e => hp c e rfl)

/-- Zero value, empty cache, filled cache: if moreover `Q` holds for an empty cache whenever it holds after the fill, it is
enough that it holds for the receivers whose cache is filled. -/
theorem receiver_cases (Q : GStr → Heap → Prop) (P : List Int → List Nat → Prop)
    (zero : ∀ rs h, Q ⟨rs, some h.cells.length⟩ ⟨h.cells ++ [none]⟩ → Q ⟨rs, none⟩ h)
    (empty : ∀ rs c h, c < h.cells.length → h.get c = none → Q ⟨rs, some c⟩ (h.set c (some (splitRunes rs))) → Q ⟨rs, some c⟩ h)
    (hP : ∀ rs, P rs (splitRunes rs))
    (filled : ∀ rs c e h, h.get c = some e → P rs e → Q ⟨rs, some c⟩ h)
    (s : GStr) (h : Heap) (ha : ∀ c, s.cell = some c → c < h.cells.length)
    (hp : ∀ c e, s.cell = some c → h.get c = some e → P s.runes e) : Q s h := by
  refine zero_cases Q P zero (fun rs c h hc hp => ?_) s h ha hp
  cases hg : h.get c with
  | some e => exact filled rs c e h hg (hp e hg)
  | none => exact empty rs c h hc hg (filled rs c _ _ (get_set_self _ _ _ hc) (hP rs))

/-- `zero_cases` for "the generated function `F` is the specification `S`": `F` begins by initializing its receiver, `S` treats
the zero value as an initialized receiver -/
theorem zero_cases_eq {β : Type} (F S : GStr → HM β) {K : GStr → HM β} (P : List Int → List Nat → Prop)
    (hF : ∀ v, F v = okM (initialized v) id >>= K)
    (S0 : ∀ rs h, S ⟨rs, none⟩ h = prep [.alloc h.cells.length] (S ⟨rs, some h.cells.length⟩ ⟨h.cells ++ [none]⟩))
    (init : ∀ rs c h, c < h.cells.length → (∀ e, h.get c = some e → P rs e) → F ⟨rs, some c⟩ h = S ⟨rs, some c⟩ h)
    (s : GStr) (h : Heap) (ha : ∀ c, s.cell = some c → c < h.cells.length)
    (hp : ∀ c e, s.cell = some c → h.get c = some e → P s.runes e) : F s h = S s h :=
  zero_cases (fun s h => F s h = S s h) P (fun rs h q => by rw [zero_eq hF, S0, q]) init s h ha hp

/-- `receiver_cases` for "`F` is `S`": both treat an empty cache as a filled one after the fill -/
theorem receiver_cases_eq {β : Type} (F S : GStr → HM β) {K : GStr → HM β} (P : List Int → List Nat → Prop)
    (hF : ∀ v, F v = okM (initialized v) id >>= K)
    (S0 : ∀ rs h, S ⟨rs, none⟩ h = prep [.alloc h.cells.length] (S ⟨rs, some h.cells.length⟩ ⟨h.cells ++ [none]⟩))
    (F1 : ∀ rs c h, c < h.cells.length → h.get c = none →
      F ⟨rs, some c⟩ h = prep [.fill c] (F ⟨rs, some c⟩ (h.set c (some (splitRunes rs)))))
    (S1 : ∀ rs c h, c < h.cells.length → h.get c = none →
      S ⟨rs, some c⟩ h = prep [.fill c] (S ⟨rs, some c⟩ (h.set c (some (splitRunes rs)))))
    (hP : ∀ rs, P rs (splitRunes rs))
    (filled : ∀ rs c e h, h.get c = some e → P rs e → F ⟨rs, some c⟩ h = S ⟨rs, some c⟩ h)
    (s : GStr) (h : Heap) (ha : ∀ c, s.cell = some c → c < h.cells.length)
    (hp : ∀ c e, s.cell = some c → h.get c = some e → P s.runes e) : F s h = S s h :=
  receiver_cases (fun s h => F s h = S s h) P (fun rs h q => by rw [zero_eq hF, S0, q])
    (fun rs c h hc hg q => by rw [F1 rs c h hc hg, S1 rs c h hc hg, q]) hP filled s h ha hp

theorem idx_map_ok (e : List Nat) (i : Int) (h0 : 0 ≤ i) (h1 : i < e.length) :
    Go.idx (e.map Int.ofNat) i = .ok ((e.getD i.toNat 0 : Nat) : Int) := by
  have h2 : i.toNat < e.length := by omega
  unfold Go.idx
  rw [dif_pos (by simp; omega)]
  simp [pure_eq_ok, List.getD_eq_getElem?_getD, List.getElem?_eq_getElem h2]

theorem span_eq (e : List Nat) (k : Nat) : clusterSpan e k = (cOff e k, cOff e (k + 1)) := by
  rw [← clusterSpan_fst]; simp [clusterSpan, cOff]

/-- a range loop as a fold over index and element -/
def rangeFold {β σ : Type} (step : Nat → β → σ → σ) : Nat → List β → σ → σ
  | _, [], s => s
  | k, x :: xs, s => rangeFold step (k + 1) xs (step k x s)

/-- a range loop whose body changes the heap without events or panics, under an invariant `P index state heap` -/
theorem forRangeAux_heap {β σ : Type} (body : Int → β → σ → HM σ) (P : Nat → σ → Heap → Prop) (data : List β)
    (hb : ∀ (k : Nat) (x : β) (s : σ) (h : Heap), data[k]? = some x → P k s h →
      ∃ h' s', body k x s h = (h', .ok s', []) ∧ P (k + 1) s' h') :
    ∀ (xs pre : List β) (s : σ) (h : Heap), data = pre ++ xs → P pre.length s h →
      ∃ h' s', forRangeAux body (pre.length : Int) xs s h = (h', .ok s', []) ∧ P data.length s' h' := by
  intro xs
  induction xs with
  | nil => intro pre s h hd hp; exact ⟨h, s, rfl, by simpa [hd] using hp⟩
  | cons x xs ih =>
    intro pre s h hd hp
    have hk : data[pre.length]? = some x := by rw [hd]; simp
    obtain ⟨h1, s1, e1, p1⟩ := hb pre.length x s h hk hp
    have := ih (pre ++ [x]) s1 h1 (by simp [hd]) (by simpa using p1)
    simp only [List.length_append, List.length_cons, List.length_nil, Nat.zero_add, Int.natCast_add, Int.cast_ofNat_Int] at this
    obtain ⟨h2, s2, e2, p2⟩ := this
    refine ⟨h2, s2, ?_, p2⟩
    unfold forRangeAux
    rw [run_bind_ok e1, prep_nil]
    exact e2

theorem forRangeM_heap {β σ : Type} (body : Int → β → σ → HM σ) (P : Nat → σ → Heap → Prop) (data : List β)
    (hb : ∀ (k : Nat) (x : β) (s : σ) (h : Heap), data[k]? = some x → P k s h →
      ∃ h' s', body k x s h = (h', .ok s', []) ∧ P (k + 1) s' h')
    (s : σ) (h : Heap) (hs : P 0 s h) :
    ∃ h' s', forRangeM data body s h = (h', .ok s', []) ∧ P data.length s' h' :=
  forRangeAux_heap body P data hb data [] s h rfl hs

theorem rangeFold_drop {β σ : Type} (step : Nat → β → σ → σ) (data : List β) (k : Nat) (x : β) (s : σ)
    (hk : data[k]? = some x) : rangeFold step k (data.drop k) s = rangeFold step (k + 1) (data.drop (k + 1)) (step k x s) := by
  obtain ⟨hlt, rfl⟩ := List.getElem?_eq_some_iff.mp hk
  rw [List.drop_eq_getElem_cons hlt]; rfl

/-- a range loop whose body neither touches the heap nor panics, under an invariant `P index state`: the invariant of
`forRangeM_heap` is "the heap is `h`, and what is left to fold gives the final state" -/
theorem forRangeM_inv {β σ : Type} (body : Int → β → σ → HM σ) (step : Nat → β → σ → σ) (P : Nat → σ → Prop)
    (data : List β) (h : Heap)
    (hb : ∀ (k : Nat) (x : β) (s : σ), data[k]? = some x → P k s →
      body k x s h = (h, .ok (step k x s), []) ∧ P (k + 1) (step k x s))
    (s : σ) (hs : P 0 s) : forRangeM data body s h = (h, .ok (rangeFold step 0 data s), []) := by
  obtain ⟨h', s', e1, rfl, -, hfin⟩ := forRangeM_heap body
    (fun k t h' => h' = h ∧ P k t ∧ rangeFold step k (data.drop k) t = rangeFold step 0 data s) data
    (by
      rintro k x t h' hk ⟨rfl, hp, hr⟩
      obtain ⟨e, hp'⟩ := hb k x t hk hp
      exact ⟨h', _, e, rfl, hp', by rw [← hr, rangeFold_drop step data k x t hk]⟩)
    s h ⟨rfl, hs, rfl⟩
  rw [e1, ← hfin, List.drop_length]; rfl

theorem forRangeM_pure {β σ : Type} (body : Int → β → σ → HM σ) (step : Nat → β → σ → σ) (data : List β)
    (hb : ∀ (k : Nat) (x : β) (s : σ) (h : Heap), data[k]? = some x → body k x s h = (h, .ok (step k x s), []))
    (s : σ) (h : Heap) : forRangeM data body s h = (h, .ok (rangeFold step 0 data s), []) :=
  forRangeM_inv body step (fun _ _ => True) data h (fun k x s hk _ => ⟨hb k x s h hk, trivial⟩) s trivial

theorem whileM_zero {σ : Type} (cond : σ → HM Bool) (body : σ → HM σ) (s : σ) :
    whileM 0 cond body s = HGo.panic .fuel := rfl

theorem whileM_succ {σ : Type} (n : Nat) (cond : σ → HM Bool) (body : σ → HM σ) (s : σ) :
    whileM (n + 1) cond body s = (cond s >>= fun b => if b then (body s >>= fun s' => whileM n cond body s') else pure s) := rfl

/-- a `for` loop whose state and heap after `k` rounds are known, `S k` and `Hp k`, and which stops after `m` rounds; condition
and body write no events -/
theorem whileM_steps {σ : Type} (cond : σ → HM Bool) (body : σ → HM σ) (S : Nat → σ) (Hp : Nat → Heap) (m : Nat)
    (hc : ∀ k, k ≤ m → cond (S k) (Hp k) = (Hp k, .ok (decide (k < m)), []))
    (hb : ∀ k, k < m → body (S k) (Hp k) = (Hp (k + 1), .ok (S (k + 1)), []))
    (fuel : Nat) (hf : m + 1 ≤ fuel) (s0 : σ) (h0 : Heap) (hs : s0 = S 0) (hh : h0 = Hp 0) :
    whileM fuel cond body s0 h0 = (Hp m, .ok (S m), []) := by
  have key : ∀ (j k fuel : Nat), k + j = m → j + 1 ≤ fuel → whileM fuel cond body (S k) (Hp k) = (Hp m, .ok (S m), []) := by
    intro j
    induction j with
    | zero =>
      intro k fuel hk hf
      obtain ⟨n, rfl⟩ : ∃ n, fuel = n + 1 := ⟨fuel - 1, by omega⟩
      obtain rfl : k = m := by omega
      rw [whileM_succ, run_bind_ok (hc k (Nat.le_refl _)), prep_nil]
      simp [run_pure]
    | succ j ih =>
      intro k fuel hk hf
      obtain ⟨n, rfl⟩ : ∃ n, fuel = n + 1 := ⟨fuel - 1, by omega⟩
      have hlt : k < m := by omega
      rw [whileM_succ, run_bind_ok (hc k (by omega)), prep_nil]
      simp only [hlt, decide_true, if_true]
      rw [run_bind_ok (hb k hlt), prep_nil]
      exact ih (k + 1) n (by omega) (by omega)
  rw [hs, hh]
  exact key m 0 fuel (by omega) hf

/-- a `for` loop as a pure iteration: `none` = out of fuel -/
def iter {σ : Type} (c : σ → Bool) (f : σ → σ) : Nat → σ → Option σ
  | 0, _ => none
  | n + 1, s => if c s then iter c f n (f s) else some s

/-- a loop whose condition and body neither touch the heap nor panic, under an invariant `P` of the state -/
theorem whileM_pure {σ : Type} (cond : σ → HM Bool) (body : σ → HM σ) (c : σ → Bool) (f : σ → σ) (P : σ → Prop)
    (h : Heap)
    (hc : ∀ s, P s → cond s h = (h, .ok (c s), []))
    (hb : ∀ s, P s → c s = true → body s h = (h, .ok (f s), []))
    (hP : ∀ s, P s → c s = true → P (f s)) :
    ∀ (fuel : Nat) (s : σ), P s →
      whileM fuel cond body s h = (match iter c f fuel s with
        | some s' => (h, .ok s', [])
        | none => (h, .error .fuel, [])) := by
  intro fuel
  induction fuel with
  | zero => intro s _; rfl
  | succ n ih =>
    intro s hs
    rw [whileM_succ, run_bind_ok (hc s hs), prep_nil]
    cases hcs : c s with
    | false => simp [iter, hcs, run_pure]
    | true =>
      simp only [if_true, iter, hcs]
      rw [run_bind_ok (hb s hs hcs), prep_nil]
      exact ih (f s) (hP s hs hcs)

attribute [gem_run] run_okM_bind run_bind prep_mk prep_nil prep_prep run_pure run_liftR run_panic run_ite run_newCell run_load
  run_load_none okM_run Heap.alloc makeSlice_nonneg Go.sliceLen olen olist oidx
  toCell_some_map toCell_none toCell_replicate toCell_ofCell run_store' run_update' run_newCellOf' ocopy_some ocopy_none
  take_length_map Go.copySlice map_ok map_error pure_eq_ok throw_eq_error get_append_self
  set_append_self cellOf omake ofCell_none ofCell_some ofCell_eq_none

-- what the evaluation meets in between: list, option and integer normalisation
attribute [gem_run] List.append_nil List.nil_append List.cons_append List.append_assoc List.length_cons List.length_nil
  List.length_append List.length_map List.length_replicate List.isEmpty_cons List.isEmpty_nil List.isEmpty_iff
  List.length_eq_zero_iff List.getD_eq_getElem?_getD List.map_drop List.map_take List.map_append List.replicate_zero
  List.take_length List.drop_replicate List.map_replicate List.set_cons_zero List.set_cons_succ List.take_zero List.map_id_fun'
  Option.getD_some Option.isSome_some Option.isSome_none id_eq ge_iff_le gt_iff_lt ne_eq ite_not beq_iff_eq BEq.rfl
  Bool.false_eq_true or_true true_or or_self and_self true_and and_true not_false_eq_true
  Int.toNat_natCast Int.cast_ofNat_Int Int.ofNat_eq_natCast Int.natCast_pos Int.natCast_add Int.ofNat_le Int.ofNat_lt
  Int.natCast_nonneg Int.natCast_eq_zero Int.zero_le_ofNat Int.zero_add Int.sub_zero Int.toNat_zero Int.toNat_one
  Int.pred_toNat Int.lt_irrefl Int.sub_pos Int.sub_nonneg Nat.zero_add Nat.sub_self Nat.sub_zero Nat.zero_lt_succ
  Nat.lt_add_one Nat.add_one_sub_one Std.le_refl Prod.mk.injEq Except.ok.injEq

/-- evaluate the generated code on a heap: monad, primitives, heap operations -/
macro "gem_run" : tactic => `(tactic|
  simp only [gem_run, ↓reduceIte, reduceCtorEq, Int.reduceToNat, Int.reduceNeg, Nat.reduceAdd, List.reduceReplicate])

/-- `gem_run` with additional facts -/
macro "gem_run" "[" ts:Lean.Parser.Tactic.simpLemma,* "]" : tactic => `(tactic|
  simp only [gem_run, ↓reduceIte, reduceCtorEq, Int.reduceToNat, Int.reduceNeg, Nat.reduceAdd, List.reduceReplicate, $ts,*])

end RosedVerif.GenCodeEq
