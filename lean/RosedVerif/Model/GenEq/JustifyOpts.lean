/-
Editor.JustifyOpts, Editor.Justify.
-/
import RosedVerif.Model.GenEq.Options
import RosedVerif.Model.GenEq.Block
import RosedVerif.Model.GenEq.ApplyLines
import RosedVerif.Model.GenEq.Justify
import RosedVerif.Model.GenEq.Lines
import RosedVerif.Model.GenEq.Commit
import RosedVerif.Model.GenEq.Apply
import RosedVerif.Model.GenEq.Paras
import RosedVerif.Model.GenEq.InstA
import RosedVerif.Model.GenEq.AffixPlaceholder
set_option linter.unusedVariables false
set_option linter.unusedSectionVars false
set_option linter.unusedSimpArgs false
namespace RosedVerif.GenCodeEq
open RosedVerif

variable {α : Type} [DecidableEq α] (cx : Ctx α)

theorem editorJustifyOpts_regenerated (h : Gen.Code.editorJustifyOpts_extracted = true)
    (hd : DefaultsOk cx) (hpos : ∀ a, 0 < cx.blen a) (hph : cx.PhFresh) (ed : Editor α) (width : Int)
    (o : Options α) : Gen.Code.editorJustifyOpts cx ed width o = ed.justifyOpts cx width o := by
  first
    | exact absurd h (by decide)
    | (unfold Gen.Code.editorJustifyOpts Editor.justifyOpts
       simp only [optionsWithDefaults_regenerated cx (by decide), justifyLine_regenerated cx (by decide),
         blockJoin_regenerated cx (by decide), blockNew_regenerated cx (by decide), blockLen_regenerated cx (by decide),
         blockApply_regenerated cx (by decide),
         editorApplyGParagraphsOpts_regenerated cx (by decide) hd hpos, editorApplyOpts_regenerated cx (by decide),
         editorWithOptions_regenerated cx (by decide), editorLinesTo_regenerated cx (by decide) hpos,
         editorCommit_regenerated cx (by decide), affixPlaceholder_regenerated cx (by decide) hph]
       go_norm
       simp only [Go.stringOfRune]
       generalize o.withDefaults cx = od
       first | refine ite_congr rfl (fun _ => ?_) (fun _ => ?_) | split
       · -- paragraph mode
         simp only [bind_pure]
         congr 1
         funext i para pre suf
         simp only [Block.mapLinesM, bind_assoc, pure_bind]
         generalize Block.new _ od.lineSep = bl
         refine mapM_singletons_bind_congr _ _ _ _ _ ?_ ?_
         · intro i hi
           simp only [ite_pure, pure_bind, ite_bind, Bool.ite_eq_true_distrib, decide_eq_true_eq, Bool.false_eq_true,
             if_false_right, beq_iff_eq]
           all_goals go_close
         · intro ys
           simp only [flatten_map_singleton, ite_pure, pure_bind]
           all_goals go_close
       · -- `do` has distributed the model's continuation over its `if`
         simp only [ite_bind, bind_assoc, pure_bind]
         all_goals go_close)

theorem editorJustify_regenerated (h : Gen.Code.editorJustify_extracted = true)
    (hd : DefaultsOk cx) (hpos : ∀ a, 0 < cx.blen a) (hph : cx.PhFresh) (ed : Editor α) (width : Int) :
    Gen.Code.editorJustify cx ed width = ed.justifyOpts cx width ed.opts := by
  first
    | exact absurd h (by decide)
    | (unfold Gen.Code.editorJustify
       simp only [editorJustifyOpts_regenerated cx (by decide) hd hpos hph, bind_pure])

theorem editorJustifyOpts_cxA (h : Gen.Code.editorJustifyOpts_extracted = true) (ed : Editor Int) (width : Int) (o : Options Int) :
    Gen.Code.editorJustifyOpts cxA ed width o = ed.justifyOpts cxA width o :=
  editorJustifyOpts_regenerated cxA h defaultsOk_cxA cxA_WF.2 phFresh_cxA ed width o

theorem editorJustify_cxA (h : Gen.Code.editorJustify_extracted = true) (ed : Editor Int) (width : Int) :
    Gen.Code.editorJustify cxA ed width = ed.justifyOpts cxA width ed.opts :=
  editorJustify_regenerated cxA h defaultsOk_cxA cxA_WF.2 phFresh_cxA ed width

end RosedVerif.GenCodeEq
