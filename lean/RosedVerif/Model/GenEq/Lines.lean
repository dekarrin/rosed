/-
Editor.linesSep, Editor.lines, Editor.LineCount, Editor.Lines, Editor.LinesFrom, Editor.LinesTo.
-/
import RosedVerif.Model.GenEq.Options
import RosedVerif.Model.GenEq.Chars
set_option linter.unusedVariables false
set_option linter.unusedSectionVars false
set_option linter.unusedSimpArgs false
namespace RosedVerif.GenCodeEq
open RosedVerif

variable {α : Type} [DecidableEq α] (cx : Ctx α)

theorem editorLinesSep_regenerated (h : Gen.Code.editorLinesSep_extracted = true) (ed : Editor α) (sep : List α) :
    Gen.Code.editorLinesSep cx ed sep = pure (ed.linesSep sep) := by
  first
    | exact absurd h (by decide)
    | (unfold Gen.Code.editorLinesSep Editor.linesSep
       go_norm
       by_cases hl : splitOn ed.text sep = []
       · simp [hl]
       · simp only [idx_last _ hl, sliceTo_dropLast _ hl]
         go_norm
         simp [hl, List.getLast?_eq_some_getLast hl]
         go_close)

theorem editorLines_regenerated (h : Gen.Code.editorLines_extracted = true) (ed : Editor α) :
    Gen.Code.editorLines cx ed = pure (ed.lines cx) := by
  first
    | exact absurd h (by decide)
    | (unfold Gen.Code.editorLines Editor.lines
       simp only [optionsWithDefaults_regenerated cx (by decide), editorLinesSep_regenerated cx (by decide)]
       go_norm)

theorem editorLineCount_regenerated (h : Gen.Code.editorLineCount_extracted = true) (ed : Editor α) :
    Gen.Code.editorLineCount cx ed = pure (ed.lineCount cx : Int) := by
  first
    | exact absurd h (by decide)
    | (unfold Gen.Code.editorLineCount Editor.lineCount
       simp only [editorLines_regenerated cx (by decide)]
       go_norm)

/-- the separator-skipping loops of `Lines` (state: byte offset, line index) run until the line index is `T` -/
def lsCond (T : Int) (s : Int × Int) : R Bool := pure (decide (s.2 ≠ T))

/-- one round: find the next separator from the byte offset on and step behind it; `retv` is what the function returns
when there is none -/
def lsBody (text sep : List α) (retv : R (Editor α)) (s : Int × Int) : R ((Int × Int) × Go.Ctl (Editor α)) :=
  byteSlice cx text s.1 (byteLen cx text) >>= fun t =>
    if Go.stringsIndex cx t sep = -1 then retv >>= fun r => pure (s, Go.Ctl.ret r)
    else pure ((s.1 + (Go.stringsIndex cx t sep + ((byteLen cx sep : Nat) : Int)), s.2 + 1), Go.Ctl.next)

theorem byteOff_step (text sep : List α) (pos i : Nat) (hp : pos ≤ text.length)
    (hs : text.drop pos = (text.drop pos).take i ++ sep ++ (text.drop pos).drop (i + sep.length))
    (hle : i + sep.length ≤ (text.drop pos).length) :
    byteOff cx text (pos + i + sep.length) =
      byteOff cx text pos + byteLen cx ((text.drop pos).take i) + byteLen cx sep := by
  have hlen : (text.drop pos).length = text.length - pos := List.length_drop
  have hi : i ≤ (text.drop pos).length := by omega
  have hX : text = (text.take pos ++ (text.drop pos).take i ++ sep) ++ (text.drop pos).drop (i + sep.length) := by
    conv => lhs; rw [← List.take_append_drop pos text, hs]
    simp [List.append_assoc]
  have hXl : (text.take pos ++ (text.drop pos).take i ++ sep).length = pos + i + sep.length := by
    simp [List.length_take, List.length_append]; omega
  unfold byteOff
  conv => lhs; rw [hX, List.take_left' hXl]
  rw [byteLen_append, byteLen_append]

/-- `n` rounds of the loop from atom position `pos`; the target count `T` and the start offset `b0` come with their equations,
so that the caller's terms need not have the form `k + n`, `byteOff ..` -/
theorem ls_loop {γ : Type} (hpos : ∀ a, 0 < cx.blen a) (text sep : List α) (retv : R (Editor α))
    (K : (Int × Int) × Option (Editor α) → R γ) (hK : ∀ s s' v, K (s, some v) = K (s', some v)) (T : Int) :
    ∀ (n fuel pos : Nat) (k b0 : Int), T = k + n → b0 = ((byteOff cx text pos : Nat) : Int) → pos ≤ text.length → n + 1 ≤ fuel →
      Go.whileCtlM fuel (lsCond T) (lsBody cx text sep retv) (b0, k) >>= K =
        match skipSeps text sep n pos with
        | none => retv >>= fun r => K ((0, 0), some r)
        | some p => K ((((byteOff cx text p : Nat) : Int), T), none) := by
  intro n
  induction n with
  | zero =>
    intro fuel pos k b0 hT hb0 hp hf
    subst hb0
    cases fuel with
    | zero => omega
    | succ f => simp [Go.whileCtlM, lsCond, skipSeps, hT]
  | succ n ih =>
    intro fuel pos k b0 hT hb0 hp hf
    subst hb0
    cases fuel with
    | zero => omega
    | succ f =>
      have hne : k ≠ T := by omega
      simp only [Go.whileCtlM, lsCond, pure_bind, hne, ne_eq, not_false_eq_true, decide_true, if_true, lsBody,
        byteSlice_drop cx hpos text pos hp, skipSeps, Go.stringsIndex]
      rcases Option.eq_none_or_eq_some (indexOf sep (text.drop pos)) with hio | ⟨i, hio⟩
      · simp only [hio, if_true, bind_assoc, pure_bind]
        refine bind_congr (m := R) fun r => ?_
        exact hK _ _ _
      · obtain ⟨hs, hle⟩ := indexOf_some_spec sep (text.drop pos) i hio
        have hn1 : ¬ (((byteLen cx ((text.drop pos).take i) : Nat) : Int) = -1) := by omega
        simp only [hio, hn1, if_false, pure_bind]
        have hlen : (text.drop pos).length = text.length - pos := List.length_drop
        have hstep := byteOff_step cx text sep pos i hp hs hle
        exact ih f (pos + i + sep.length) (k + 1) _ (by omega) (by omega) (by omega) (by omega)

theorem skipSeps_le (text sep : List α) : ∀ (n pos p : Nat), pos ≤ text.length → skipSeps text sep n pos = some p →
    p ≤ text.length := by
  intro n
  induction n with
  | zero => intro pos p hp h; simp [skipSeps] at h; omega
  | succ n ih =>
    intro pos p hp h
    simp only [skipSeps] at h
    cases hio : indexOf sep (text.drop pos) with
    | none => simp [hio] at h
    | some i =>
      simp only [hio] at h
      have hle := (indexOf_some_spec sep (text.drop pos) i hio).2
      have hlen : (text.drop pos).length = text.length - pos := List.length_drop
      exact ih (pos + i + sep.length) p (by omega) h

/-- Needs every atom to have a positive byte length (the loops walk byte offsets, the hand model atoms) -/
theorem editorLinesSel_regenerated (h : Gen.Code.editorLinesSel_extracted = true) (hpos : ∀ a, 0 < cx.blen a)
    (ed : Editor α) (s e : Int) :
    Gen.Code.editorLinesSel cx ed s e = ed.linesSel cx s e := by
  first
    | exact absurd h (by decide)
    | (unfold Gen.Code.editorLinesSel Editor.linesSel
       simp only [editorLineCount_regenerated cx (by decide), optionsWithDefaults_regenerated cx (by decide),
         editorSubEd_regenerated cx (by decide),
         ite_pure_bind, pure_bind, Go.strLen, Go.strSlice, List.isEmpty_iff, beq_iff_eq]
       first | refine ite_congr rfl (fun _ => ?_) (fun _ => ?_) | split
       · rfl
       · generalize hst : (if s = Gen.endSentinel then ((ed.lineCount cx : Nat) : Int) else s) = s'
         generalize hen : (if e = Gen.endSentinel then ((ed.lineCount cx : Nat) : Int) else e) = e'
         have hb := rangeToIndexes_bounds ((ed.lineCount cx : Nat) : Int) s' e' (Int.natCast_nonneg _)
         generalize hri : rangeToIndexes ((ed.lineCount cx : Nat) : Int) s' e' = r at hb ⊢
         obtain ⟨st, en⟩ := r
         simp only [] at hb ⊢
         first | refine ite_congr rfl (fun _ => ?_) (fun _ => ?_) | split
         · rfl
         · rename_i hne hlt
           obtain ⟨stN, rfl⟩ : ∃ k : Nat, st = k := ⟨st.toNat, by omega⟩
           obtain ⟨dN, rfl⟩ : ∃ d : Nat, en = (stN : Int) + d := ⟨(en - stN).toNat, by omega⟩
           have hd : ((stN : Int) + (dN : Int) - (stN : Int)).toNat = dN := by omega
           simp only [Int.toNat_natCast, hd]
           refine Eq.trans (ls_loop cx hpos ed.text (Options.withDefaults cx ed.opts).lineSep _ _ (fun _ _ _ => rfl) _ stN (stN + 1) 0 0 0
             (by omega) (by simp [byteOff]) (Nat.zero_le _) (Nat.le_refl _)) ?_
           cases hs1 : skipSeps ed.text (Options.withDefaults cx ed.opts).lineSep stN 0 with
           | none => simp only [bind_pure]
           | some p =>
             have hple := skipSeps_le ed.text (Options.withDefaults cx ed.opts).lineSep stN 0 p (Nat.zero_le _) hs1
             simp only [hd]
             refine Eq.trans (ls_loop cx hpos ed.text (Options.withDefaults cx ed.opts).lineSep _ _ (fun _ _ _ => rfl) _ dN (dN + 1) p
               (stN : Int) _ rfl rfl hple (Nat.le_refl _)) ?_
             cases hs2 : skipSeps ed.text (Options.withDefaults cx ed.opts).lineSep dN p with
             | none => simp only [bind_pure]
             | some q => rfl)

theorem editorLinesFrom_regenerated (h : Gen.Code.editorLinesFrom_extracted = true) (hpos : ∀ a, 0 < cx.blen a)
    (ed : Editor α) (start : Int) :
    Gen.Code.editorLinesFrom cx ed start = ed.linesFrom cx start := by
  first
    | exact absurd h (by decide)
    | (unfold Gen.Code.editorLinesFrom Editor.linesFrom
       simp only [editorLineCount_regenerated cx (by decide), editorLinesSel_regenerated cx (by decide) hpos]
       go_norm
       all_goals simp)

theorem editorLinesTo_regenerated (h : Gen.Code.editorLinesTo_extracted = true) (hpos : ∀ a, 0 < cx.blen a)
    (ed : Editor α) (e : Int) :
    Gen.Code.editorLinesTo cx ed e = ed.linesTo cx e := by
  first
    | exact absurd h (by decide)
    | (unfold Gen.Code.editorLinesTo Editor.linesTo
       simp only [editorLinesSel_regenerated cx (by decide) hpos]
       go_norm
       all_goals simp)

theorem editorLinesSel_cxA (h : Gen.Code.editorLinesSel_extracted = true) (ed : Editor Int) (s e : Int) :
    Gen.Code.editorLinesSel cxA ed s e = ed.linesSel cxA s e := editorLinesSel_regenerated cxA h cxA_WF.2 ed s e

end RosedVerif.GenCodeEq
