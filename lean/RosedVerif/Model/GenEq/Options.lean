/-
Options.WithDefaults, Edit, Editor.IsSubEditor, Editor.WithOptions.
-/
import RosedVerif.Model.GenEq.Core
set_option linter.unusedVariables false
set_option linter.unusedSectionVars false
set_option linter.unusedSimpArgs false
namespace RosedVerif.GenCodeEq
open RosedVerif

variable {α : Type} [DecidableEq α] (cx : Ctx α)

theorem optionsWithDefaults_regenerated (h : Gen.Code.optionsWithDefaults_extracted = true) (o : Options α) :
    Gen.Code.optionsWithDefaults cx o = pure (o.withDefaults cx) := by
  first
    | exact absurd h (by decide)
    | (unfold Gen.Code.optionsWithDefaults Options.withDefaults
       go_norm
       simp only [ite_pure, pure_bind, ite_not]
       -- the three separator steps are the same terms on both sides
       generalize (if o.lineSep = [] then _ else o) = o1
       generalize (if o1.indentStr = [] then _ else o1) = o2
       generalize (if o2.paraSep = [] then _ else o2) = o3
       -- the charset step: lengths compared in `Nat`, the update pulled out of the inner `if`
       simp only [apply_ite Prod.snd, bne_iff_ne, ne_eq, ite_not, Int.natCast_inj, Int.ofNat_lt,
         apply_ite (fun c => ({ o3 with charset := c } : Options α))]
       all_goals go_close)

theorem edit_regenerated (h : Gen.Code.edit_extracted = true) (t : List α) :
    Gen.Code.edit cx t = pure (Editor.root t {}) := by
  first
    | exact absurd h (by decide)
    | rfl

theorem editorIsSubEditor_regenerated (h : Gen.Code.editorIsSubEditor_extracted = true) (ed : Editor α) :
    Gen.Code.editorIsSubEditor cx ed = pure ed.isSub := by
  first
    | exact absurd h (by decide)
    | (unfold Gen.Code.editorIsSubEditor
       cases ed <;> rfl)

theorem editorWithOptions_regenerated (h : Gen.Code.editorWithOptions_extracted = true) (ed : Editor α) (o : Options α) :
    Gen.Code.editorWithOptions cx ed o = pure (ed.withOpts o) := by
  first
    | exact absurd h (by decide)
    | rfl

end RosedVerif.GenCodeEq
