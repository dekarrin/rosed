/-
manip.CombineColumnBlocks.
-/
import RosedVerif.Model.GenEq.Block
set_option linter.unusedVariables false
set_option linter.unusedSectionVars false
set_option linter.unusedSimpArgs false
namespace RosedVerif.GenCodeEq
open RosedVerif

variable {α : Type} [DecidableEq α] (cx : Ctx α)

/-- the first loop of `CombineColumnBlocks`, the widest line of `left` (state: leftColMaxWidth, i) -/
theorem cc1_while (left : Block α) (cond : Int × Int → R Bool) (body : Int × Int → R (Int × Int))
    (hc : ∀ (m : Int) (k : Nat), cond (m, (k : Int)) = pure (decide ((k : Int) < (left.lines.length : Int))))
    (hb : ∀ (m : Int) (k : Nat), body (m, (k : Int)) =
      left.line k >>= fun l => pure ((if (gLen cx l : Int) > m then (gLen cx l : Int) else m), (k : Int) + 1))
    (fuel : Nat) (hf : left.lines.length + 1 ≤ fuel) (m : Int) :
    Go.whileM fuel cond body (m, 0) =
      pure (left.lines.foldl (fun m l => if (gLen cx l : Int) > m then (gLen cx l : Int) else m) m,
        (left.lines.length : Int)) := by
  rw [whileM_count_pure Prod.mk (fun _ => True) (left.lines.length : Int)
    (fun m k => if (gLen cx (left.lines.getD k []) : Int) > m then (gLen cx (left.lines.getD k []) : Int) else m)
    cond body (fun _ _ _ _ => trivial) hc (fun m k hk _ => by rw [hb, block_line_nat left k (by omega), pure_bind])
    fuel m trivial (by omega), Int.toNat_natCast,
    foldl_range_getD (fun (m : Int) l => if (gLen cx l : Int) > m then (gLen cx l : Int) else m) [] left.lines]

/-- one combined row, as in the hand model -/
def ccRow (left right : List (List α)) (total : Int) (i : Nat) : R (List α) := do
  let l := left.getD i []
  let lc : Int := if i < left.length then gLen cx l else 0
  let r := right.getD i []
  let spacer ← repeatStr [cx.sp] (total - lc)
  pure (l ++ spacer ++ r)

/-- the second loop, one row per iteration (state: combined, i) -/
theorem cc2_while (left right : Block α) (total : Int) (n : Nat) (cond : Block α × Int → R Bool)
    (body : Block α × Int → R (Block α × Int))
    (hc : ∀ (b : Block α) (k : Nat), cond (b, (k : Int)) = pure (decide ((k : Int) < (n : Int))))
    (hb : ∀ (b : Block α) (k : Nat), body (b, (k : Int)) =
      ccRow cx left.lines right.lines total k >>= fun row => pure (b.append row, (k : Int) + 1))
    (fuel : Nat) (hf : n + 1 ≤ fuel) (b : Block α) :
    Go.whileM fuel cond body (b, 0) =
      (List.range n).mapM (ccRow cx left.lines right.lines total) >>= fun rows =>
        pure (({ b with lines := b.lines ++ rows } : Block α), (n : Int)) := by
  rw [whileM_count_zero Prod.mk (fun _ => True) (n : Int)
    (fun b k => ccRow cx left.lines right.lines total k >>= fun row => pure (b.append row))
    cond body (fun _ _ _ _ _ _ => trivial) hc (fun b k _ _ => by rw [hb, bind_assoc]; rfl) fuel b trivial (by omega),
    Int.toNat_natCast, foldlM_bind_pure]
  simp only [bind_assoc, pure_bind, foldl_block_append]

theorem combineColumnBlocks_regenerated (h : Gen.Code.combineColumnBlocks_extracted = true)
    (left right : Block α) (m : Int) :
    Gen.Code.combineColumnBlocks cx left right m =
      (fun ls => ({ lines := ls, sep := [], trailing := false } : Block α)) <$>
        combineColumns cx left.lines right.lines m := by
  first
    | exact absurd h (by decide)
    | (unfold Gen.Code.combineColumnBlocks combineColumns
       simp only [blockLen_regenerated cx (by decide), blockLine_regenerated cx (by decide),
         blockCharCount_regenerated cx (by decide), blockAppend_regenerated cx (by decide)]
       go_norm
       by_cases hE : left.lines = [] ∧ right.lines = []
       · simp [hE]
       · have hmax : (if (left.lines.length : Int) < (right.lines.length : Int) then (right.lines.length : Int)
             else (left.lines.length : Int)) = ((max left.lines.length right.lines.length : Nat) : Int) := by
           split <;> omega
         have ht3 : (if left.lines = [] then (pure (decide (right.lines = [])) : R Bool) else pure false) = pure false := by
           split
           · rename_i hl; simp only [hl, true_and] at hE; simp [hE]
           · rfl
         simp only [ht3, hE, if_false, ite_pure, pure_bind, hmax, Int.toNat_natCast, Bool.false_eq_true]
         rw [cc1_while cx left _ _ (fun m k => rfl) ?hb1 _ (Nat.le_refl _)]
         case hb1 => intro m k; simp only [ite_pure, pure_bind]
         simp only [pure_bind]
         rw [cc2_while cx left right
           (left.lines.foldl (fun m l => if (gLen cx l : Int) > m then (gLen cx l : Int) else m) 0 + m)
           (max left.lines.length right.lines.length) _ _ (fun b k => rfl) ?hb2 _ (Nat.le_refl _)]
         case hb2 =>
           intro b k
           have hl' : ((k : Int) < (left.lines.length : Int)) ↔ k < left.lines.length := by omega
           simp only [block_line_eq_idx, bind_pure, idx_or_default, pure_bind]
           by_cases hl : k < left.lines.length <;> simp [ccRow, hl, hl', idx_nat, getD_of_lt]
         simp only [bind_assoc, pure_bind, List.nil_append, map_eq_pure_bind]
         rfl)

end RosedVerif.GenCodeEq
