/-
Editor.InsertTwoColumnsOpts, Editor.InsertTwoColumns.
-/
import RosedVerif.Model.GenEq.Options
import RosedVerif.Model.GenEq.Block
import RosedVerif.Model.GenEq.Wrap
import RosedVerif.Model.GenEq.Combine
import RosedVerif.Model.GenEq.Edit
set_option linter.unusedVariables false
set_option linter.unusedSectionVars false
set_option linter.unusedSimpArgs false
namespace RosedVerif.GenCodeEq
open RosedVerif

variable {α : Type} [DecidableEq α] (cx : Ctx α)

/-! the float primitives on the values the function uses -/

/-- `p <= 0.0` -/
theorem f64Le_zero (p : Pct) : Go.f64Le p (Pct.mk false 0 0) ↔ (p.neg = true ∨ p.num = 0) := by
  obtain ⟨neg, num, exp⟩ := p
  cases neg <;> simp [Go.f64Le, Go.f64Num] <;> omega

/-- `p < 0.0` (for a source that clamps with `<`; the source writes `p <= 0.0`) -/
theorem f64Lt_zero (p : Pct) : Go.f64Lt p (Pct.mk false 0 0) ↔ (p.neg = true ∧ p.num ≠ 0) := by
  obtain ⟨neg, num, exp⟩ := p
  cases neg <;> simp [Go.f64Lt, Go.f64Num] <;> omega

/-- `p > 1.0` -/
theorem f64Lt_one (p : Pct) : Go.f64Lt (Pct.mk false 1 0) p ↔ (p.neg = false ∧ p.num > 2 ^ p.exp) := by
  obtain ⟨neg, num, exp⟩ := p
  have hpos : (0 : Int) < (2 : Int) ^ exp := Int.pow_pos (by decide)
  have hc : ((2 ^ exp : Nat) : Int) = (2 : Int) ^ exp := by simp
  cases neg
  · simp only [Go.f64Lt, Go.f64Num, Bool.false_eq_true, if_false, Int.pow_zero, Int.mul_one, true_and]
    constructor <;> intro h <;> omega
  · simp only [Go.f64Lt, Go.f64Num, if_true, Bool.false_eq_true, if_false, Int.pow_zero, Int.mul_one, false_and,
      iff_false, Bool.true_eq_false]
    omega

theorem mulRoundTrunc_zero (n e : Nat) : mulRoundTrunc n 0 e = 0 := by simp [mulRoundTrunc]

/-- `int(float64(n) * p)` for `n ≥ 0` and a non-negative `p` -/
theorem f64MulTrunc_nonneg (n : Int) (p : Pct) (hn : 0 ≤ n) (hp : p.neg = false ∨ p.num = 0) :
    Go.f64MulTrunc n p = (mulRoundTrunc n.toNat p.num p.exp : Int) := by
  have e : n.natAbs = n.toNat := by omega
  unfold Go.f64MulTrunc
  rcases hp with hp | hp
  · have : decide (n < 0) = false := by simp; omega
    simp [this, hp, e]
  · simp [hp, mulRoundTrunc_zero]

/-- `int(float64(n) * p)` against the model's product: equal numbers, and `p` is the model's dyadic or both are zero -/
theorem f64MulTrunc_eq {n n' : Int} {p : Pct} {num exp : Nat} (hn : n = n') (h0 : 0 ≤ n)
    (hp : (p.neg = false ∧ p.num = num ∧ p.exp = exp) ∨ (p.num = 0 ∧ num = 0)) :
    Go.f64MulTrunc n p = (mulRoundTrunc n'.toNat num exp : Int) := by
  subst hn
  rcases hp with ⟨h1, rfl, rfl⟩ | ⟨h1, rfl⟩
  · exact f64MulTrunc_nonneg n p h0 (Or.inl h1)
  · rw [f64MulTrunc_nonneg n p h0 (Or.inr h1), h1, mulRoundTrunc_zero, mulRoundTrunc_zero]

/-- needs `cx.WF` for `Editor.Insert` (as `editorInsert_regenerated`) -/
theorem editorInsertTwoColumnsOpts_regenerated (h : Gen.Code.editorInsertTwoColumnsOpts_extracted = true)
    (hwf : cx.WF) (ed : Editor α) (pos : Int) (l r : List α) (gap width : Int) (pct : Pct) (o : Options α) :
    Gen.Code.editorInsertTwoColumnsOpts cx ed pos l r gap width pct o =
      ed.insertTwoColumnsOpts cx pos l r gap width pct o := by
  first
    | exact absurd h (by decide)
    | (unfold Gen.Code.editorInsertTwoColumnsOpts Editor.insertTwoColumnsOpts
       simp only [optionsWithDefaults_regenerated cx (by decide), wrap_regenerated cx (by decide),
         blockLine_regenerated cx (by decide), combineColumnBlocks_regenerated cx (by decide),
         blockJoin_regenerated cx (by decide), editorInsert_regenerated cx (by decide) hwf]
       go_norm
       simp only [ite_pure, pure_bind, map_eq_pure_bind, bind_assoc]
       -- the float part: whatever the source feeds into `int(float64(n) * p)` equals the model's clamped product
       generalize hX : Go.f64MulTrunc _ _ = X
       generalize hY : ((mulRoundTrunc _ _ _ : Nat) : Int) = Y
       have hXY : X = Y := by
         rw [← hX, ← hY]
         refine f64MulTrunc_eq ?_ ?_ ?_
         · first | rfl | go_close
         · first | omega | go_close
         · simp only [f64Le_zero, f64Lt_zero, f64Lt_one, beq_iff_eq]
           -- the two clamps of `pct`, decided once each
           by_cases hn : pct.neg = true
           · simp [hn]
           · by_cases hz : pct.num = 0
             · simp [hz]
             · by_cases h1 : 2 ^ pct.exp < pct.num <;> simp [hn, hz, h1]
       subst hXY
       clear hX hY
       -- integer arithmetic, the two wraps, the maximum loop, the combination.  On the source as it is every `first` below
       -- (and in `hXY` above) is closed by its first alternative; the others are for guards and widths that are written
       -- differently and are arithmetically the same
       refine ite_congr (propext (by first | exact Iff.rfl | grind)) (fun _ => rfl) (fun _ => ?_)
       · refine ite_congr (propext ?_) (fun _ => rfl) (fun _ => ?_)
         · first | rfl | go_close
         · refine bind_congr_both ?_ fun ls => ?_
           · first | rfl | ((congr 1) <;> go_close)
           · refine bind_congr_both ?_ fun rs => ?_
             · first | rfl | ((congr 1) <;> go_close)
             · rw [cc1_while cx ⟨ls, [], false⟩ _ _ (fun m k => rfl) ?hb _ (Nat.le_refl _)]
               case hb => intro m k; simp only [Block.line, ite_pure, pure_bind]
               try simp only [pure_bind]
               first
                 | done
                 | (refine bind_congr_both ?_ fun c => rfl
                    first | rfl | ((congr 1) <;> go_close)))

theorem editorInsertTwoColumns_regenerated (h : Gen.Code.editorInsertTwoColumns_extracted = true)
    (hwf : cx.WF) (ed : Editor α) (pos : Int) (l r : List α) (gap width : Int) (pct : Pct) :
    Gen.Code.editorInsertTwoColumns cx ed pos l r gap width pct =
      ed.insertTwoColumnsOpts cx pos l r gap width pct ed.opts := by
  first
    | exact absurd h (by decide)
    | (unfold Gen.Code.editorInsertTwoColumns
       simp only [editorInsertTwoColumnsOpts_regenerated cx (by decide) hwf, bind_pure])

theorem editorInsertTwoColumnsOpts_cxA (h : Gen.Code.editorInsertTwoColumnsOpts_extracted = true) (ed : Editor Int)
    (pos : Int) (l r : List Int) (gap width : Int) (pct : Pct) (o : Options Int) :
    Gen.Code.editorInsertTwoColumnsOpts cxA ed pos l r gap width pct o =
      ed.insertTwoColumnsOpts cxA pos l r gap width pct o :=
  editorInsertTwoColumnsOpts_regenerated cxA h cxA_WF ed pos l r gap width pct o

theorem editorInsertTwoColumns_cxA (h : Gen.Code.editorInsertTwoColumns_extracted = true) (ed : Editor Int)
    (pos : Int) (l r : List Int) (gap width : Int) (pct : Pct) :
    Gen.Code.editorInsertTwoColumns cxA ed pos l r gap width pct =
      ed.insertTwoColumnsOpts cxA pos l r gap width pct ed.opts :=
  editorInsertTwoColumns_regenerated cxA h cxA_WF ed pos l r gap width pct

end RosedVerif.GenCodeEq
