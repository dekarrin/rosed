/-
Facts about the real instance `cxA` used by the `_cxA` corollaries.
-/
import RosedVerif.Model.GenEq.Core
import RosedVerif.Model.InstAFacts
set_option linter.unusedVariables false
set_option linter.unusedSectionVars false
set_option linter.unusedSimpArgs false
namespace RosedVerif.GenCodeEq
open RosedVerif

variable {α : Type} [DecidableEq α] (cx : Ctx α)

theorem defaultsOk_cxA : DefaultsOk cxA := by
  refine ⟨?_, ?_, ?_⟩ <;> decide

/-- the translator maps `" "`, `"-"`, `"\n"`, `"A"`, `"+|-"` to these `Ctx` fields -/
theorem literal_map_cxA :
    cxA.sp = 0x20 ∧ cxA.hy = 0x2D ∧ cxA.nl = 0x0A ∧ cxA.phA = 0x41 ∧ cxA.dCharset = [0x2B, 0x7C, 0x2D] ∧
    cxA.dLineSep = [0x0A] ∧ cxA.dParaSep = [0x0A, 0x0A] ∧ cxA.dIndent = [0x09] := by decide

end RosedVerif.GenCodeEq
