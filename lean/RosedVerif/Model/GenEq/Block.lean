/-
tb.New and the methods of tb.Block: Len, Line, CharCount, Set, Append, Join, Apply.
-/
import RosedVerif.Model.GenEq.Core
set_option linter.unusedVariables false
set_option linter.unusedSectionVars false
set_option linter.unusedSimpArgs false
namespace RosedVerif.GenCodeEq
open RosedVerif

variable {α : Type} [DecidableEq α] (cx : Ctx α)

theorem blockLen_regenerated (h : Gen.Code.blockLen_extracted = true) (b : Block α) :
    Gen.Code.blockLen cx b = pure (b.lines.length : Int) := by
  first
    | exact absurd h (by decide)
    | (unfold Gen.Code.blockLen
       go_norm)

/-- `Block.line` is the index expression on the lines, `Block.set` the element assignment -/
theorem block_line_eq_idx (b : Block α) (pos : Int) : b.line pos = Go.idx b.lines pos := by
  unfold Block.line Go.idx
  by_cases hp : 0 ≤ pos ∧ pos.toNat < b.lines.length
  · rw [dif_pos hp, if_neg (by omega), getD_of_lt [] hp.2]
  · rw [dif_neg hp, if_pos (by omega)]

theorem block_set_eq_sliceSet (b : Block α) (pos : Int) (content : List α) :
    b.set pos content = Go.sliceSet b.lines pos content >>= fun t => pure { b with lines := t } := by
  unfold Block.set Go.sliceSet
  by_cases hp : 0 ≤ pos ∧ pos.toNat < b.lines.length
  · rw [if_pos hp, if_neg (by omega), pure_bind]
  · rw [if_neg hp, if_pos (by omega)]
    rfl

theorem blockLine_regenerated (h : Gen.Code.blockLine_extracted = true) (b : Block α) (pos : Int) :
    Gen.Code.blockLine cx b pos = b.line pos := by
  first
    | exact absurd h (by decide)
    | (unfold Gen.Code.blockLine
       rw [block_line_eq_idx]
       go_norm
       all_goals go_close)

theorem blockCharCount_regenerated (h : Gen.Code.blockCharCount_extracted = true) (b : Block α) (pos : Int) :
    Gen.Code.blockCharCount cx b pos = (do let l ← b.line pos; pure (gLen cx l : Int)) := by
  first
    | exact absurd h (by decide)
    | (unfold Gen.Code.blockCharCount
       rw [blockLine_regenerated cx (by decide)]
       go_norm)

theorem blockSet_regenerated (h : Gen.Code.blockSet_extracted = true) (b : Block α) (pos : Int) (content : List α) :
    Gen.Code.blockSet cx b pos content = b.set pos content := by
  first
    | exact absurd h (by decide)
    | (unfold Gen.Code.blockSet
       rw [block_set_eq_sliceSet]
       go_norm
       all_goals go_close)

theorem blockAppend_regenerated (h : Gen.Code.blockAppend_extracted = true) (b : Block α) (content : List α) :
    Gen.Code.blockAppend cx b content = pure (b.append content) := by
  first
    | exact absurd h (by decide)
    | (unfold Gen.Code.blockAppend Block.append
       go_norm
       go_close)

theorem blockJoin_regenerated (h : Gen.Code.blockJoin_extracted = true) (b : Block α) :
    Gen.Code.blockJoin cx b = pure b.join := by
  first
    | exact absurd h (by decide)
    | (unfold Gen.Code.blockJoin Block.join
       rw [blockLen_regenerated cx (by decide)]
       go_norm
       go_close)

theorem block_line_nat (b : Block α) (k : Nat) (hk : k < b.lines.length) :
    b.line (k : Int) = pure (b.lines.getD k []) := by
  rw [block_line_eq_idx, idx_nat _ k hk, getD_of_lt [] hk]

theorem block_set_nat (b : Block α) (k : Nat) (v : List α) (hk : k < b.lines.length) :
    b.set (k : Int) v = pure { b with lines := b.lines.set k v } := by
  rw [block_set_eq_sliceSet, sliceSet_nat _ k v hk, pure_bind]

theorem foldl_block_lines {γ : Type} (f : List (List α) → γ → List (List α)) : ∀ (l : List γ) (blk : Block α),
    l.foldl (fun b k => ({ b with lines := f b.lines k } : Block α)) blk = { blk with lines := l.foldl f blk.lines } := by
  intro l
  induction l with
  | nil => intro blk; rfl
  | cons x xs ih => intro blk; simp only [List.foldl_cons]; rw [ih]

theorem foldl_block_append (l : List (List α)) : ∀ (b : Block α),
    l.foldl (fun (s : Block α) x => s.append x) b = { b with lines := b.lines ++ l } := by
  induction l with
  | nil => intro b; simp
  | cons x xs ih => intro b; rw [List.foldl_cons, ih]; simp [Block.append, List.append_assoc]

/-- the copy loop of `tb.New`: `for i := range lines { bl.Lines[i] = lines[i] }` into a block with as many lines -/
theorem forRange_copy_block (ls : List (List α)) (body : Int → List α → Block α → R (Block α))
    (hbody : ∀ (k : Nat) (x : List α) (b : Block α) (hk : k < ls.length), x = ls[k] → b.lines.length = ls.length →
      body (k : Int) x b = pure { b with lines := b.lines.set k ls[k] })
    (b0 : Block α) (h0 : b0.lines.length = ls.length) :
    Go.forRangeM ls body b0 = pure { b0 with lines := ls } := by
  rw [forRangeM_fold (fun b : Block α => b.lines.length = ls.length) ls
    (fun b k => { b with lines := b.lines.set k (ls.getD k []) }) body (fun k b _ hb => by simpa using hb)
    (fun k x b hk hx hb => by rw [hbody k x b hk hx hb, getD_of_lt [] hk]) b0 h0,
    foldl_block_lines (fun c k => c.set k (ls.getD k [])),
    foldl_set_range_eq_map (fun j _ => ls.getD j []) [] _ _ h0, map_range_getD]

theorem blockNew_regenerated (h : Gen.Code.blockNew_extracted = true) (text sep : List α) :
    Gen.Code.blockNew cx text sep = pure (Block.new text sep) := by
  first
    | exact absurd h (by decide)
    | (unfold Gen.Code.blockNew Block.new
       go_norm
       split
       · rfl
       · rename_i hs
         have hne := splitOn_ne_nil text sep (Or.inl hs)
         generalize splitOn text sep = L at *
         -- the copy loop, whatever the list and the flag are
         have hcopy : ∀ (ls : List (List α)) (body : Int → List α → Block α → R (Block α)) (tr : Bool),
             (∀ (k : Nat) (x : List α) (b : Block α) (hk : k < ls.length), x = ls[k] → b.lines.length = ls.length →
               body (k : Int) x b = pure { b with lines := b.lines.set k ls[k] }) →
             (Go.makeSlice (ls.length : Int) ([] : List α) >>= fun t5 =>
               Go.forRangeM ls body { lines := t5, sep := sep, trailing := tr }) =
               pure ({ lines := ls, sep := sep, trailing := tr } : Block α) := by
           intro ls body tr hb
           rw [makeSlice_nat, pure_bind, forRange_copy_block ls body hb _ (by simp)]
         have hl : (L.getLast? == some []) = decide (L.getLast hne = []) := by
           rw [List.getLast?_eq_some_getLast hne]
           by_cases hx : L.getLast hne = [] <;> simp [hx]
         -- everything before the loop is free of panics once `lines` is known to be non-empty
         simp only [idx_last L hne, sliceTo_dropLast L hne, pure_bind, bind_assoc, ite_pure, hl]
         rw [hcopy]
         · -- which arm was taken, decided on both sides
           have hI : (1 < (L.length : Int)) ↔ 1 < L.length := by omega
           by_cases h1 : 1 < L.length <;> by_cases h2 : L.getLast hne = [] <;> try simp [hI, h1, h2]
           all_goals go_close
         · intro k x b hk hx hlen
           subst hx
           simp only [idx_nat _ k hk, sliceSet_nat _ k _ (hlen ▸ hk), pure_bind])

/-- Go's callback takes an `int` index, may panic, and may return any number of lines -/
theorem blockApply_regenerated (h : Gen.Code.blockApply_extracted = true) (b : Block α)
    (f : Int → List α → R (List (List α))) :
    Gen.Code.blockApply cx b f = (do
      let outs ← (List.range b.lines.length).mapM (fun (i : Nat) => f (i : Int) (b.lines.getD i []))
      pure { b with lines := outs.flatten }) := by
  first
    | exact absurd h (by decide)
    | (unfold Gen.Code.blockApply
       go_norm
       rw [forRangeM_congr _ _ (fun i x acc => f i x >>= fun t => pure (acc ++ t)), forRangeM_append_mapM f ([] : List α)]
       · simp only [bind_assoc, pure_bind, List.nil_append]
       · intro k x acc _
         exact bind_congr (m := R) fun t => by go_close)
end RosedVerif.GenCodeEq
