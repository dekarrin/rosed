/-
manip.appendWordToWrappedLine, manip.Wrap.
-/
import RosedVerif.Model.GenEq.While
import RosedVerif.Model.GenEq.Block
import RosedVerif.Model.GenEq.Collapse
set_option linter.unusedVariables false
set_option linter.unusedSectionVars false
set_option linter.unusedSimpArgs false
namespace RosedVerif.GenCodeEq
open RosedVerif

variable {α : Type} [DecidableEq α] (cx : Ctx α)

/-- the loop of appendWordToWrappedLine on the model's state (curLine, lines, curWord) -/
def awCond (s : List α × List (List α) × List α) : R Bool := pure (decide (gLen cx s.2.2 > 0))

def awStep (width : Int) (s : List α × List (List α) × List α) : List α × List (List α) × List α :=
  let lineLen : Int := gLen cx s.1
  let added : Int := (gLen cx s.2.2 : Int) + (if lineLen ≠ 0 then 1 else 0)
  if lineLen + added = width then
    ([], s.2.1 ++ [(if lineLen ≠ 0 then s.1 ++ [cx.sp] else s.1) ++ s.2.2], [])
  else if lineLen + added > width then
    if lineLen = 0 then
      ([], s.2.1 ++ [s.1 ++ gSub cx s.2.2 0 (width - 1) ++ [cx.hy]], gSub cx s.2.2 (width - 1) (gLen cx s.2.2))
    else ([], s.2.1 ++ [s.1], s.2.2)
  else ((if lineLen ≠ 0 then s.1 ++ [cx.sp] else s.1) ++ s.2.2, s.2.1, [])

theorem appendWord_eq_while (width : Int) (hw : ¬ width < 2) (fuel : Nat) (lines : List (List α)) (curWord curLine : List α) :
    appendWord cx width fuel lines curWord curLine =
      (fun s => (s.2.1, s.1)) <$> Go.whileM fuel (awCond cx) (fun s => pure (awStep cx width s)) (curLine, lines, curWord) := by
  refine whileM_unique _ _ _ (fun n s => appendWord cx width n s.2.1 s.2.2 s.1) (fun _ => rfl) (fun n s => ?_) fuel
    (curLine, lines, curWord)
  simp only [appendWord, hw, if_false, awCond, awStep, pure_bind, decide_eq_true_eq, beq_iff_eq, bne_iff_ne, ne_eq,
    apply_ite (fun s : List α × List (List α) × List α => appendWord cx width n s.2.1 s.2.2 s.1)]

theorem appendWord_width_lt (width : Int) (hw : width < 2) (fuel : Nat) (l : List (List α)) (w c : List α) :
    appendWord cx width (fuel + 1) l w c = throw .explicit := by
  unfold appendWord; simp [hw]

/-- Go returns `curLine` and updates `*lines`; the hand model returns `(lines, curLine)` over the list of lines -/
theorem appendWordToWrappedLine_regenerated (h : Gen.Code.appendWordToWrappedLine_extracted = true)
    (b : Block α) (curWord curLine : List α) (width : Int) :
    Gen.Code.appendWordToWrappedLine cx b curWord curLine width =
      (fun r => (r.2, ({ b with lines := r.1 } : Block α))) <$>
        appendWord cx width (2 * curWord.length + 2) b.lines curWord curLine := by
  first
    | exact absurd h (by decide)
    | (unfold Gen.Code.appendWordToWrappedLine
       simp only [blockAppend_regenerated cx (by decide)]
       by_cases hw : width < 2
       · rw [show 2 * curWord.length + 2 = (2 * curWord.length + 1) + 1 from rfl, appendWord_width_lt cx width hw]
         simp [hw]; rfl
       · rw [appendWord_eq_while cx width hw]
         simp only [hw, if_false, map_eq_pure_bind, bind_assoc, pure_bind]
         refine whileM_bind_image (fun s => (s.1, ({ b with lines := s.2.1 } : Block α), s.2.2)) ?_ ?_ ?_ _ (_, _, _)
         · intro s; simp [awCond]
         · intro s
           go_norm
           by_cases h0 : (gLen cx s.1 : Int) = 0 <;>
             simp only [h0, awStep, Block.append, ne_eq, not_true_eq_false, not_false_eq_true, if_true, if_false, ite_pure,
               pure_bind, map_pure, beq_iff_eq, gt_iff_lt, Int.add_zero, Int.zero_add, apply_ite Prod.fst, apply_ite Prod.snd,
               ← apply_ite (fun l => ({ lines := l, sep := b.sep, trailing := b.trailing } : Block α))]
           all_goals go_close
         · intro s; rfl)

/-- `CharAt(i)` is the i-th cluster (any segmentation) -/
theorem gCharAt_clusters (s : List α) (i : Nat) (hi : i < (clusters cx s).length) :
    gCharAt cx s i = pure (clusters cx s)[i] := by
  have hl : (cx.ends s).length = (clusters cx s).length := gLen_eq_clusters_length cx s
  unfold gCharAt
  simp only
  rw [if_neg (by omega)]
  simp only [clusters, clustersFrom_getElem, clusterSpan, Int.toNat_natCast]

/-- the loop of Wrap on the model's state (curLine, lines, curWord, i) -/
def wCond (text : List α) (s : List α × List (List α) × List α × Nat) : R Bool :=
  pure (decide (s.2.2.2 < gLen cx text))

def wBody (text : List α) (width : Int) (s : List α × List (List α) × List α × Nat) :
    R (List α × List (List α) × List α × Nat) := do
  let ch ← gCharAt cx text s.2.2.2
  match ch with
  | [] => throw .index
  | c :: _ =>
    if c = cx.sp then
      appendWord cx width (2 * s.2.2.1.length + 2) s.2.1 s.2.2.1 s.1 >>= fun r => pure (r.2, r.1, [], s.2.2.2 + 1)
    else pure (s.1, s.2.1, s.2.2.1 ++ ch, s.2.2.2 + 1)

theorem wrapLoop_eq_while (text : List α) (width : Int) :
    ∀ (fuel i : Nat) (curLine : List α) (lines : List (List α)) (curWord : List α),
    i ≤ (clusters cx text).length → (clusters cx text).length + 1 ≤ fuel + i →
    wrapLoop cx width ((clusters cx text).drop i) lines curWord curLine =
      (fun s => (s.2.1, s.2.2.1, s.1)) <$> Go.whileM fuel (wCond cx text) (wBody cx text width) (curLine, lines, curWord, i) := by
  intro fuel
  induction fuel with
  | zero => intro i curLine lines curWord h1 h2; omega
  | succ n ih =>
    intro i curLine lines curWord h1 h2
    unfold Go.whileM
    simp only [wCond, pure_bind, gLen_eq_clusters_length, decide_eq_true_eq]
    by_cases hlt : i < (clusters cx text).length
    · simp only [hlt, if_true, wBody, gCharAt_clusters cx text i hlt, pure_bind]
      rw [List.drop_eq_getElem_cons hlt]
      unfold wrapLoop
      cases hc : (clusters cx text)[i] with
      | nil => rfl
      | cons c rest =>
        simp only []
        split
        · simp only [bind_assoc, pure_bind, map_bind]
          refine bind_congr (m := R) fun r => ?_
          exact ih (i + 1) r.2 r.1 [] (by omega) (by omega)
        · simp only [pure_bind]
          exact ih (i + 1) curLine lines (curWord ++ c :: rest) (by omega) (by omega)
    · simp [hlt, List.drop_eq_nil_of_le (Nat.le_of_not_lt hlt), wrapLoop]

/-- Go's Wrap returns a Block (separator `lineSep`, no trailing mode); the hand model returns its lines -/
theorem wrap_regenerated (h : Gen.Code.wrap_extracted = true) (text : List α) (width : Int) (lineSep : List α) :
    Gen.Code.wrap cx text width lineSep =
      (fun ls => ({ lines := ls, sep := lineSep, trailing := false } : Block α)) <$> wrapLines cx text width lineSep := by
  first
    | exact absurd h (by decide)
    | (unfold Gen.Code.wrap wrapLines
       simp only [blockAppend_regenerated cx (by decide), collapseSpace_regenerated cx (by decide),
         appendWordToWrappedLine_regenerated cx (by decide)]
       go_norm
       simp only [ite_pure, pure_bind, map_bind]
       generalize (if width < 2 then 2 else width) = w
       refine bind_congr (m := R) fun t1 => ?_
       split
       · rfl
       · have key := wrapLoop_eq_while cx t1 w ((clusters cx t1).length + 1) 0 [] [] [] (Nat.zero_le _) (Nat.le_refl _)
         rw [List.drop_zero] at key
         rw [key]
         simp only [map_eq_pure_bind, bind_assoc, pure_bind]
         refine whileM_bind_image (fun s : List α × List (List α) × List α × Nat =>
           (s.1, ({ lines := s.2.1, sep := lineSep, trailing := false } : Block α), s.2.2.1, (s.2.2.2 : Int))) ?_ ?_ ?_ _ (_, _, _, 0)
         · intro s; simp [wCond]
         · intro s
           simp only [wBody, idx_zero, map_bind]
           refine bind_congr (m := R) fun ch => ?_
           cases ch with
           | nil => rfl
           | cons c rest =>
             simp only [pure_bind]
             split <;> simp only [map_eq_pure_bind, bind_assoc, pure_bind, Int.natCast_add, Int.cast_ofNat_Int]
         · intro s
           simp only [Block.append, ite_bind, map_eq_pure_bind, bind_assoc, pure_bind,
             apply_ite (fun l => ({ lines := l, sep := lineSep, trailing := false } : Block α))]
           all_goals go_close)

end RosedVerif.GenCodeEq
