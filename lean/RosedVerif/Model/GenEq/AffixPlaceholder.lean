/-
`affixPlaceholder` (operations.go): the stand-in Editor.WrapOpts and JustifyOpts pad paragraphs with.
The hand model's search (`Ctx.placeholder`, Model/Basic.lean) is pure (after `|sep|` tests it takes the next
candidate untested), the translated loop runs out of fuel instead; they agree in a context where the search ends
outside the separator (`Ctx.PhFresh`), which instance A is (`phFresh_cxA`: pigeonhole, Model/Placeholder.lean).
-/
import RosedVerif.Model.GenEq.Core
import RosedVerif.Model.Placeholder
set_option linter.unusedVariables false
set_option linter.unusedSectionVars false
set_option linter.unusedSimpArgs false
namespace RosedVerif.GenCodeEq
open RosedVerif

variable {α : Type} [DecidableEq α] (cx : Ctx α)

/-- the loop `for strings.ContainsRune(sep, c) { c++ }`: with one unit of fuel more than the hand
model's search has tests it returns what the search returns, provided that is outside `sep` -/
theorem whileM_phSearch (sep : List α) (cond : α → R Bool) (body : α → R α)
    (hc : ∀ c, cond c = pure (decide (c ∈ sep))) (hb : ∀ c, body c = pure (cx.phNext c)) :
    ∀ (n : Nat) (c : α), phSearch cx sep n c ∉ sep →
      Go.whileM (n + 1) cond body c = pure (phSearch cx sep n c) := by
  intro n
  induction n with
  | zero =>
    intro c hf
    simp only [phSearch] at hf
    simp only [Go.whileM, hc, pure_bind, hf, decide_false, Bool.false_eq_true, if_false, phSearch]
  | succ n ih =>
    intro c hf
    rw [Go.whileM, hc, pure_bind]
    by_cases hm : c ∈ sep
    · simp only [phSearch, hm, if_true] at hf ⊢
      simp only [decide_true, if_true, hb, pure_bind]
      exact ih _ hf
    · simp only [phSearch, hm, if_false, decide_false, Bool.false_eq_true]

/-- `whileM_phSearch` at the fuel and the start value of affixPlaceholder, in a context where the search is known to
end outside the separator (`Ctx.PhFresh`; instance A: `phFresh_cxA`) -/
theorem whileM_placeholder (hph : cx.PhFresh) (sep : List α) (cond : α → R Bool) (body : α → R α)
    (hc : ∀ c, cond c = pure (decide (c ∈ sep))) (hb : ∀ c, body c = pure (cx.phNext c)) :
    Go.whileM (sep.length + 1) cond body cx.phA = pure (cx.placeholder sep) :=
  whileM_phSearch cx sep cond body hc hb sep.length cx.phA (hph sep)

theorem affixPlaceholder_regenerated (h : Gen.Code.affixPlaceholder_extracted = true) (hph : cx.PhFresh)
    (lineSep : List α) : Gen.Code.affixPlaceholder cx lineSep = pure (cx.placeholder lineSep) := by
  first
    | exact absurd h (by decide)
    | (unfold Gen.Code.affixPlaceholder
       go_norm
       -- condition and body restated over the model, loop = the model's search
       simp (disch := intro c; first | rfl | (go_norm; go_close)) only [whileM_placeholder cx hph, pure_bind])

/-- the hypothesis `PhFresh` holds at the real instance (pigeonhole, Model/Placeholder.lean) -/
theorem phFresh_cxA : cxA.PhFresh := _root_.RosedVerif.phFresh_cxA

theorem affixPlaceholder_cxA (h : Gen.Code.affixPlaceholder_extracted = true) (lineSep : List Int) :
    Gen.Code.affixPlaceholder cxA lineSep = pure (cxA.placeholder lineSep) :=
  affixPlaceholder_regenerated cxA h phFresh_cxA lineSep

end RosedVerif.GenCodeEq
