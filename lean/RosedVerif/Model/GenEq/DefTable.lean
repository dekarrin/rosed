/-
Editor.InsertDefinitionsTableOpts, Editor.InsertDefinitionsTable.
-/
import RosedVerif.Model.GenEq.Options
import RosedVerif.Model.GenEq.Block
import RosedVerif.Model.GenEq.BlockOps
import RosedVerif.Model.GenEq.Wrap
import RosedVerif.Model.GenEq.Combine
import RosedVerif.Model.GenEq.Edit
set_option linter.unusedVariables false
set_option linter.unusedSectionVars false
set_option linter.unusedSimpArgs false
namespace RosedVerif.GenCodeEq
open RosedVerif

variable {α : Type} [DecidableEq α] (cx : Ctx α)

/-- the loop body of the hand model's `insertDefTableOpts`, in bind form -/
def defStep (o : Options α) (longest rightWidth : Int) (full : List (List α)) (item : List α × List α) :
    R (List (List α)) :=
  (if (gLen cx item.1 : Int) < longest then repeatStr [cx.sp] (longest - (gLen cx item.1 : Int)) else pure []) >>= fun pad =>
  wrapLines cx item.2 (rightWidth - 2) o.lineSep >>= fun rc =>
  combineColumns cx [[cx.sp, cx.sp] ++ item.1 ++ pad]
    ((List.range (if rc.isEmpty then [[]] else rc).length).map fun i =>
      (if i == 0 then [cx.hy, cx.sp] else [cx.sp, cx.sp]) ++ (if rc.isEmpty then [[]] else rc).getD i []) 2 >>= fun combined =>
  match full.isEmpty, combined with
  | false, c0 :: crest =>
    pure (full.set (full.length - 1) (full.getD (full.length - 1) [] ++ o.paraSep ++ c0) ++ crest)
  | _, _ => pure (full ++ combined)

theorem insertDefTableOpts_eq (ed : Editor α) (pos : Int) (defs : List (List α × List α)) (width : Int) (o : Options α) :
    ed.insertDefTableOptsCore cx pos defs width o =
      (defs.foldlM (defStep cx (o.withDefaults cx)
          (defs.foldl (fun m d => if (gLen cx d.1 : Int) > m then (gLen cx d.1 : Int) else m) (-1))
          (width - (defs.foldl (fun m d => if (gLen cx d.1 : Int) > m then (gLen cx d.1 : Int) else m) (-1) + 2) - 2)) [] >>=
        fun full =>
         if !full.isEmpty then
           ed.insert cx pos (Block.mk full (o.withDefaults cx).lineSep (!(o.withDefaults cx).noTrailing)).join
         else pure ed) := by
  unfold Editor.insertDefTableOptsCore
  simp only []
  congr 2
  funext full item
  unfold defStep
  rw [ite_bind, pure_bind]
  rfl

theorem repeatStr_two (s : List α) : repeatStr s 2 = pure (s ++ s) := by
  simp [repeatStr, List.replicate]

theorem flatten_map_range {γ : Type} (F : Nat → List γ) (G : Nat → γ) (n n' : Nat) (h : ∀ i, F i = [G i]) (hn : n = n') :
    ((List.range n).map F).flatten = (List.range n').map G := by
  rw [hn, funext h, flatten_map_singleton_fun]

theorem block_line_last (ls sep : List _) (tr : Bool) (hb : ls ≠ []) :
    (Block.mk (α := α) ls sep tr).line ((ls.length : Int) - 1) = pure (ls.getD (ls.length - 1) []) := by
  have : 0 < ls.length := List.length_pos_iff.mpr hb
  rw [show (ls.length : Int) - 1 = ((ls.length - 1 : Nat) : Int) by omega]
  exact block_line_nat _ _ (by simp only []; omega)

theorem block_set_last (ls sep : List _) (tr : Bool) (v : List α) (hb : ls ≠ []) :
    (Block.mk (α := α) ls sep tr).set ((ls.length : Int) - 1) v = pure ⟨ls.set (ls.length - 1) v, sep, tr⟩ := by
  have : 0 < ls.length := List.length_pos_iff.mpr hb
  rw [show (ls.length : Int) - 1 = ((ls.length - 1 : Nat) : Int) by omega]
  exact block_set_nat _ _ v (by simp only []; omega)

theorem block_line_zero (ls sep : List _) (tr : Bool) (hb : ls ≠ []) :
    (Block.mk (α := α) ls sep tr).line 0 = pure (ls.getD 0 []) :=
  block_line_nat _ 0 (List.length_pos_iff.mpr hb)

/-- needs `cx.WF` for `Editor.Insert` (as `editorInsert_regenerated`) -/
theorem editorInsertDefinitionsTableOpts_regenerated (h : Gen.Code.editorInsertDefinitionsTableOpts_extracted = true)
    (hwf : cx.WF) (ed : Editor α) (pos : Int) (defs : List (List α × List α)) (width : Int) (o : Options α) :
    Gen.Code.editorInsertDefinitionsTableOpts cx ed pos defs width o = ed.insertDefTableOpts cx pos defs width o := by
  first
    | exact absurd h (by decide)
    | (unfold Editor.insertDefTableOpts
       rw [insertDefTableOpts_eq]
       unfold Gen.Code.editorInsertDefinitionsTableOpts
       simp only [optionsWithDefaults_regenerated cx (by decide), wrap_regenerated cx (by decide),
         blockLen_regenerated cx (by decide), blockLine_regenerated cx (by decide), blockSet_regenerated cx (by decide),
         blockAppend_regenerated cx (by decide), blockApply_regenerated cx (by decide), blockRemove_regenerated cx (by decide),
         blockAppendBlock_regenerated cx (by decide), combineColumnBlocks_regenerated cx (by decide),
         blockJoin_regenerated cx (by decide), editorInsert_regenerated cx (by decide) hwf]
       go_norm
       simp only [ite_pure, pure_bind, map_eq_pure_bind, bind_assoc, bind_pure, repeatStr_two, List.mapM_pure]
       generalize (if width < 0 then (0 : Int) else width) = width
       -- the longest term
       have hL : ∀ f : Int → List α × List α → Int,
           (∀ m d, f m d = if (gLen cx d.1 : Int) > m then (gLen cx d.1 : Int) else m) →
           List.foldl f (-1) defs = List.foldl (fun m d => if (gLen cx d.1 : Int) > m then (gLen cx d.1 : Int) else m) (-1) defs :=
         fun f hf => by rw [show f = _ from funext fun m => funext fun d => hf m d]
       simp only [forRangeM_foldlM, List.foldlM_pure, pure_bind]
       rw [hL]
       rotate_left
       · intro m d; go_close
       clear hL
       generalize List.foldl (fun m d => if (gLen cx d.1 : Int) > m then (gLen cx d.1 : Int) else m) (-1) defs = L
       generalize Options.withDefaults cx o = od
       refine Eq.trans (foldlM_state_congr (fun ls => ({ lines := ls, sep := od.lineSep, trailing := !od.noTrailing } : Block α))
         _ (defStep cx od L (width - (L + 2) - 2)) ?step defs [] _) ?fin
       case fin =>
         refine bind_congr (m := R) fun full => ?_
         -- `len(full) > 0` against `!full.isEmpty`, the arms are the same terms
         first
           | exact ite_congr (propext (by cases full <;> simp)) (fun _ => rfl) (fun _ => rfl)
           | go_close
       case step =>
         intro full item
         unfold defStep
         simp only [bind_assoc, pure_bind, apply_ite Block.lines, Block.append, List.nil_append, List.cons_append,
           List.append_assoc]
         refine bind_congr_both ?_ fun pad => ?_
         · go_close
         · refine bind_congr_both ?_ fun rc => ?_
           · (congr 1) <;> omega
           · refine bind_congr_both ?_ fun c => ?_
             · congr 1
               apply flatten_map_range
               · intro i
                 cases rc <;> cases i <;> simp <;> omega
               · cases rc <;> simp
             · have hfe : full = [] ∨ (full ≠ [] ∧ full.isEmpty = false) := by cases full <;> simp
               rcases c with _ | ⟨c0, crest⟩ <;> rcases hfe with hf | ⟨hf, hfe⟩ <;>
                 simp [*, block_line_last, block_set_last, block_line_zero, List.isEmpty_iff]
               all_goals (split <;> simp_all))

theorem editorInsertDefinitionsTable_regenerated (h : Gen.Code.editorInsertDefinitionsTable_extracted = true)
    (hwf : cx.WF) (ed : Editor α) (pos : Int) (defs : List (List α × List α)) (width : Int) :
    Gen.Code.editorInsertDefinitionsTable cx ed pos defs width = ed.insertDefTableOpts cx pos defs width ed.opts := by
  first
    | exact absurd h (by decide)
    | (unfold Gen.Code.editorInsertDefinitionsTable
       simp only [editorInsertDefinitionsTableOpts_regenerated cx (by decide) hwf, bind_pure])

theorem editorInsertDefinitionsTableOpts_cxA (h : Gen.Code.editorInsertDefinitionsTableOpts_extracted = true)
    (ed : Editor Int) (pos : Int) (defs : List (List Int × List Int)) (width : Int) (o : Options Int) :
    Gen.Code.editorInsertDefinitionsTableOpts cxA ed pos defs width o = ed.insertDefTableOpts cxA pos defs width o :=
  editorInsertDefinitionsTableOpts_regenerated cxA h cxA_WF ed pos defs width o

theorem editorInsertDefinitionsTable_cxA (h : Gen.Code.editorInsertDefinitionsTable_extracted = true)
    (ed : Editor Int) (pos : Int) (defs : List (List Int × List Int)) (width : Int) :
    Gen.Code.editorInsertDefinitionsTable cxA ed pos defs width = ed.insertDefTableOpts cxA pos defs width ed.opts :=
  editorInsertDefinitionsTable_regenerated cxA h cxA_WF ed pos defs width

end RosedVerif.GenCodeEq
