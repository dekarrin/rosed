/-
A `Block.Apply` whose callback maps every line to exactly one line, as in AlignOpts (the callback cannot fail) and
JustifyOpts (it may): the `mapM` of one-element lists, flattened, is the `mapM` of the elements.
-/
import RosedVerif.Model.GenEq.Core
set_option linter.unusedVariables false
set_option linter.unusedSectionVars false
set_option linter.unusedSimpArgs false
namespace RosedVerif.GenCodeEq
open RosedVerif

variable {α : Type} [DecidableEq α] (cx : Ctx α)

/-- a callback that cannot fail (AlignOpts); with `flatten_map_singleton_fun` the `Block.Apply` is a `List.map` -/
theorem mapM_pure_R {β : Type} (f : Nat → β) (l : List Nat) :
    l.mapM (fun i => (pure (f i) : R β)) = pure (l.map f) := List.mapM_pure

theorem flatten_map_singleton {β : Type} (ys : List β) : (ys.map fun y => [y]).flatten = ys :=
  List.flatMap_singleton' ys

/-- a monadic map whose function returns one-element lists (a `Block.Apply` callback that maps every line to one
line), followed by a continuation: the map of the elements -/
theorem mapM_singletons_bind_congr {β γ : Type} (l : List Nat) (F : Nat → R (List β)) (G : Nat → R β)
    (k : List (List β) → R γ) (k' : List β → R γ)
    (hFG : ∀ i, i ∈ l → F i = G i >>= fun y => pure [y]) (hk : ∀ ys, k (ys.map fun y => [y]) = k' ys) :
    l.mapM F >>= k = l.mapM G >>= k' := by
  have hm : ∀ (l : List Nat), (∀ i, i ∈ l → F i = G i >>= fun y => pure [y]) →
      l.mapM F = l.mapM G >>= fun ys => pure (ys.map fun y => [y]) := by
    intro l
    induction l with
    | nil => intro _; simp
    | cons a l ih =>
      intro hl
      simp only [List.mapM_cons, hl a (by simp), ih (fun i hi => hl i (by simp [hi])), bind_assoc, pure_bind, List.map_cons]
  rw [hm l hFG]
  simp only [bind_assoc, pure_bind, hk]

end RosedVerif.GenCodeEq
