/-
The simp set `gem_run`: the equations by which the generated code of package internal/gem is evaluated on a heap
(one per primitive of `HGo.HM`, plus the list and integer facts the evaluation meets).  Its members are tagged in
GenEq/GemCore.lean; an attribute has to be declared in a module before the one that uses it.
-/
import Lean.Meta.Tactic.Simp.RegisterCommand

/-- evaluation of the generated heap-monad code on a heap -/
register_simp_attr gem_run
