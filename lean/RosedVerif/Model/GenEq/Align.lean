/-
manip.CountLeadingWhitespace, CountTrailingWhitespace, AlignLineLeft, AlignLineRight, AlignLineCenter.
-/
import RosedVerif.Model.GenEq.Core
set_option linter.unusedVariables false
set_option linter.unusedSectionVars false
set_option linter.unusedSimpArgs false
namespace RosedVerif.GenCodeEq
open RosedVerif

variable {α : Type} [DecidableEq α] (cx : Ctx α)

theorem countLeadingWhitespace_regenerated (h : Gen.Code.countLeadingWhitespace_extracted = true) (text : List α) :
    Gen.Code.countLeadingWhitespace cx text = pure (countLeadingWs cx text) := by
  first
    | exact absurd h (by decide)
    | (unfold Gen.Code.countLeadingWhitespace countLeadingWs
       go_norm
       split <;> simp_all)

theorem countTrailingWhitespace_regenerated (h : Gen.Code.countTrailingWhitespace_extracted = true) (text : List α) :
    Gen.Code.countTrailingWhitespace cx text = pure (countTrailingWs cx text) := by
  first
    | exact absurd h (by decide)
    | (unfold Gen.Code.countTrailingWhitespace countTrailingWs
       go_norm)

theorem alignLineLeft_regenerated (h : Gen.Code.alignLineLeft_extracted = true) (text : List α) (width : Int) :
    Gen.Code.alignLineLeft cx text width = pure (alignLeft cx text width) := by
  first
    | exact absurd h (by decide)
    | (unfold Gen.Code.alignLineLeft alignLeft alignLeftCore
       rw [countLeadingWhitespace_regenerated cx (by decide)]
       go_norm
       simp only [ite_pure, pure_bind, beq_iff_eq, ite_not]
       all_goals go_close)

theorem alignLineRight_regenerated (h : Gen.Code.alignLineRight_extracted = true) (text : List α) (width : Int) :
    Gen.Code.alignLineRight cx text width = pure (alignRight cx text width) := by
  first
    | exact absurd h (by decide)
    | (unfold Gen.Code.alignLineRight alignRight alignRightCore
       rw [countTrailingWhitespace_regenerated cx (by decide)]
       go_norm
       simp only [ite_pure, pure_bind, beq_iff_eq, ite_not]
       all_goals go_close)

theorem alignLineCenter_regenerated (h : Gen.Code.alignLineCenter_extracted = true) (text : List α) (width : Int) :
    Gen.Code.alignLineCenter cx text width = pure (alignCenter cx text width) := by
  first
    | exact absurd h (by decide)
    | (unfold Gen.Code.alignLineCenter alignCenter alignCenterCore
       rw [countLeadingWhitespace_regenerated cx (by decide), countTrailingWhitespace_regenerated cx (by decide)]
       go_norm
       simp only [ite_pure, pure_bind, beq_iff_eq, ite_not]
       -- the two sides differ in Go's truncating division only, which is taken of a positive number; the term generalized
       -- is the model's, the second alternative is for a source whose clamp or trimming does not normalise to it
       first
         | (generalize (if width < 0 then 0 else width) -
              (gLen cx (if 0 < countTrailingWs cx text then gSub cx text (countLeadingWs cx text) (-countTrailingWs cx text)
                else gSub cx text (countLeadingWs cx text) (gLen cx text)) : Int) = need
            by_cases hn : need ≤ 0
            · simp only [hn, if_true]
            · simp only [hn, if_false, Int.tdiv_eq_ediv_of_nonneg (Int.le_of_lt (Int.not_le.mp hn))])
         | go_close)

end RosedVerif.GenCodeEq
