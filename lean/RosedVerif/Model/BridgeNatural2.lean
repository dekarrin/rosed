/-
Property C03 at the level of the PUBLIC operations, on CODE POINTS, for the operations not covered
by `BridgeNatural.lean`: the editing operations (`Chars`, `Insert`, `Delete`, `Overtype`),
`JustifyOpts` and `IndentOpts`, the three composites, and paragraph mode of the four layout operations.

Setting as in `BridgeNatural.lean`: two stable vocabularies `V`, `V'` and a cluster-for-cluster
substitution `g` from `V` into `V'`.  The model is run on the CODE POINTS of a text over `V` and of
its substituted text (real UAX #29 segmentation on both, instance `cxA`); the results are the same
substitution of one another.  Technique: the A→B bridges of `Bridge*.lean` (code points = flattening
of cluster tokens) on both sides, and in between the naturality of the model at the cluster
instance `cxB` (it commutes with `List.map g`).  For each operation that means: its closed form on
cluster tokens, the closed form on code points (`…_A_closed`), that the closed form commutes with
the substitution (`…_map`) and stays over the vocabulary (`…_over`); `Props/C03.lean` assembles the
statements from these with `BridgeNatural.natural_of_closed`.  For the table and
for paragraph mode the substitution is taken as a homomorphism of the layout primitives in the sense
of `LayoutSim.lean` (`homMap`, `sepHomMap`): the table's `tableText_map` is the simulation of
`TableSim.lean` along it; paragraph mode has no closed form, the loop and the callbacks are simulated
along it, and `natural_of_bridge` takes the place of `natural_of_closed`.
-/
import RosedVerif.Model.BridgeNatural
import RosedVerif.Model.BridgeEdit
namespace RosedVerif
set_option linter.unusedSectionVars false

namespace BridgeNatural2
open BridgeNatural BridgeWrap BridgeOps BridgeEditorOps OpsStructure BridgeComposite BridgeEdit LayoutSim
  BridgeAlign

/-! `Chars` / `CharsFrom` / `CharsTo` / `Insert` / `Delete` / `Overtype` only count clusters: no
hypothesis on `g` beyond `V → V'` is needed. -/

/-- the cluster range `[a, b)` that `Chars(s, e)` / `Delete(s, e)` select in a text of `n`
clusters -/
def selRange (n : Nat) (s e : Int) : Nat × Nat :=
  ((Spec.normRange (n : Int) s e).1.toNat, (Spec.normRange (n : Int) s e).2.toNat)

theorem selRange_spec (n : Nat) (s e : Int) :
    (selRange n s e).1 ≤ (selRange n s e).2 ∧ (selRange n s e).2 ≤ n ∧
      Spec.normRange (n : Int) s e =
        ((((selRange n s e).1 : Nat) : Int), (((selRange n s e).2 : Nat) : Int)) := by
  obtain ⟨a, b, hab, hb, hr⟩ := normRange_nat n s e
  unfold selRange
  rw [hr]
  simp only [Int.toNat_natCast]
  exact ⟨hab, hb, trivial⟩

/-- the cluster position that `Insert(p)` / `Overtype(p)` / `CharsTo(p)` / `CharsFrom(p)` denote in
a text of `n` clusters -/
def posOf (n : Nat) (p : Int) : Nat := (Spec.normPos (n : Int) p).toNat

theorem posOf_le (n : Nat) (p : Int) : posOf n p ≤ n := by
  have := normPos_bounds (n : Int) p (Int.natCast_nonneg _)
  unfold posOf; omega

theorem selRange_to_end (n : Nat) (s : Int) : selRange n s Gen.endSentinel = (posOf n s, n) := by
  unfold selRange posOf
  rw [normRange_to_end _ _ (Int.natCast_nonneg _), Int.toNat_natCast]

theorem selRange_zero (n : Nat) (e : Int) : selRange n 0 e = (0, posOf n e) := by
  unfold selRange posOf
  rw [normRange_zero _ _ (Int.natCast_nonneg _)]
  rfl

/-- the tokens `Chars(s, e)` selects -/
def charsToks (toks : List (List Int)) (s e : Int) : List (List Int) :=
  (toks.drop (selRange toks.length s e).1).take
    ((selRange toks.length s e).2 - (selRange toks.length s e).1)

/-- the token list after `Insert(p, ins)` -/
def insertToks (toks : List (List Int)) (p : Int) (ins : List (List Int)) : List (List Int) :=
  toks.take (posOf toks.length p) ++ ins ++ toks.drop (posOf toks.length p)

/-- the token list after `Delete(s, e)` -/
def deleteToks (toks : List (List Int)) (s e : Int) : List (List Int) :=
  toks.take (selRange toks.length s e).1 ++ toks.drop (selRange toks.length s e).2

/-- the token list after `Overtype(p, ins)`: the tokens before `p`, the new tokens, the tokens from
the normalised position of `wrap64 (p' + |ins|)` on (`p'` the normalised `p`).  Go computes
`p' + |ins|` in 64-bit arithmetic; below `2^63` clusters this is `min (p' + |ins|) n`
(`overtypeToks_of_small`). -/
def overtypeToks (toks : List (List Int)) (p : Int) (ins : List (List Int)) : List (List Int) :=
  toks.take (posOf toks.length p) ++ ins ++
    toks.drop (posOf toks.length
      (wrap64 (Spec.normPos (toks.length : Int) p + (ins.length : Int))))

theorem overtypeToks_of_small (toks : List (List Int)) (p : Int) (ins : List (List Int))
    (hno : (toks.length : Int) + (ins.length : Int) < 2 ^ 63) :
    overtypeToks toks p ins =
      toks.take (posOf toks.length p) ++ ins ++
        toks.drop (min (posOf toks.length p + ins.length) toks.length) := by
  have hb := normPos_bounds (toks.length : Int) p (Int.natCast_nonneg _)
  unfold overtypeToks
  rw [wrap64_of_range _ (by omega) (by omega)]
  congr 2
  unfold posOf
  by_cases h : Spec.normPos (toks.length : Int) p + (ins.length : Int) ≤ (toks.length : Int)
  · rw [normPos_of_mem _ _ (by omega) h]; omega
  · rw [normPos_of_ge _ _ (Int.natCast_nonneg _) (by omega)]; omega

section mapg
variable (g : List Int → List Int)

theorem charsToks_map (toks : List (List Int)) (s e : Int) :
    charsToks (toks.map g) s e = (charsToks toks s e).map g := by
  unfold charsToks
  rw [List.length_map, List.map_take, List.map_drop]

theorem insertToks_map (toks : List (List Int)) (p : Int) (ins : List (List Int)) :
    insertToks (toks.map g) p (ins.map g) = (insertToks toks p ins).map g := by
  unfold insertToks
  rw [List.length_map, List.map_append, List.map_append, List.map_take, List.map_drop]

theorem deleteToks_map (toks : List (List Int)) (s e : Int) :
    deleteToks (toks.map g) s e = (deleteToks toks s e).map g := by
  unfold deleteToks
  rw [List.length_map, List.map_append, List.map_take, List.map_drop]

theorem overtypeToks_map (toks : List (List Int)) (p : Int) (ins : List (List Int)) :
    overtypeToks (toks.map g) p (ins.map g) = (overtypeToks toks p ins).map g := by
  unfold overtypeToks
  rw [List.length_map, List.length_map, List.map_append, List.map_append, List.map_take,
    List.map_drop]

end mapg

section over
variable {V : List (List Int)} {toks : List (List Int)}

theorem charsToks_over (ht : ∀ t ∈ toks, t ∈ V) (s e : Int) : ∀ t ∈ charsToks toks s e, t ∈ V :=
  over_take (over_drop ht _) _

theorem insertToks_over (ht : ∀ t ∈ toks, t ∈ V) {ins : List (List Int)} (hi : ∀ t ∈ ins, t ∈ V)
    (p : Int) : ∀ t ∈ insertToks toks p ins, t ∈ V :=
  over_splice ht hi _ _

theorem deleteToks_over (ht : ∀ t ∈ toks, t ∈ V) (s e : Int) : ∀ t ∈ deleteToks toks s e, t ∈ V :=
  BridgeEdit.over_append (over_take ht _) (over_drop ht _)

theorem overtypeToks_over (ht : ∀ t ∈ toks, t ∈ V) {ins : List (List Int)}
    (hi : ∀ t ∈ ins, t ∈ V) (p : Int) : ∀ t ∈ overtypeToks toks p ins, t ∈ V :=
  over_splice ht hi _ _

end over

section closed
variable {V : List (List Int)}

theorem posNat_of (hV : VocabStable V = true) {toks : List (List Int)}
    (ht : ∀ t ∈ toks, t ∈ V) (p : Int) : Spec.posNat cxA toks.flatten p = posOf toks.length p :=
  BridgeEdit.posNat_flat hV toks ht p

theorem selectClusters_A (hV : VocabStable V = true) {toks : List (List Int)}
    (ht : ∀ t ∈ toks, t ∈ V) (s e : Int) :
    Spec.selectClusters cxA toks.flatten s e =
      ((toks.take (selRange toks.length s e).1).flatten, (charsToks toks s e).flatten,
        (toks.drop (selRange toks.length s e).2).flatten) := by
  have hr := (selRange_spec toks.length s e).2.2
  have h := selectClusters_eq_clusters (cx := cxA) toks.flatten s e _ _
    (by rw [clusters_flat_over hV ht]; exact hr)
  rw [clusters_flat_over hV ht] at h
  exact h

/-- `Chars(s, e)` on code points: the sub-editor holds the selected clusters, and its byte range is
the byte range of the cluster range `selRange` in the parent's text -/
theorem chars_A_closed (hV : VocabStable V = true) (ed : Editor Int) (toks : List (List Int))
    (hed : ed.text = toks.flatten) (ht : ∀ t ∈ toks, t ∈ V) (s e : Int) :
    ed.chars cxA s e =
      .ok (.sub (charsToks toks s e).flatten ed.opts ed
        (byteLen cxA (toks.take (selRange toks.length s e).1).flatten)
        (byteLen cxA (toks.take (selRange toks.length s e).2).flatten)) := by
  rw [Editor.chars_eq_spec cxA_WF.1 _ (cxA_WF.pos _), hed, selectClusters_A hV ht]
  simp only []
  unfold charsToks
  rw [← flatten_take_split toks (selRange_spec toks.length s e).1]

theorem insert_A_closed (hV : VocabStable V = true) (ed : Editor Int) (toks : List (List Int))
    (hed : ed.text = toks.flatten) (ht : ∀ t ∈ toks, t ∈ V) (p : Int) (ins : List (List Int)) :
    ed.insert cxA p ins.flatten = .ok (ed.withText (insertToks toks p ins).flatten) := by
  rw [Editor.insert_eq_spec cxA_WF.1 _ (cxA_WF.pos _), hed, insert_flat hV toks ins ht p, posNat_of hV ht]
  rfl

theorem delete_A_closed (hV : VocabStable V = true) (ed : Editor Int) (toks : List (List Int))
    (hed : ed.text = toks.flatten) (ht : ∀ t ∈ toks, t ∈ V) (s e : Int) :
    ed.delete cxA s e = .ok (ed.withText (deleteToks toks s e).flatten) := by
  rw [Editor.delete_eq_spec cxA_WF, hed, Spec.delete_eq, selectClusters_A hV ht]
  simp only []
  unfold deleteToks
  rw [List.flatten_append]

/-- `Overtype` on code points, with Go's 64-bit wrap-around of `pos + len(text)` modelled: no
bound on the lengths is needed for the closed form -/
theorem overtype_A_closed (hV : VocabStable V = true) (ed : Editor Int) (toks : List (List Int))
    (hed : ed.text = toks.flatten) (ht : ∀ t ∈ toks, t ∈ V) (p : Int) (ins : List (List Int))
    (hi : ∀ t ∈ ins, t ∈ V) :
    ed.overtype cxA p ins.flatten = .ok (ed.withText (overtypeToks toks p ins).flatten) := by
  have hp : Spec.posNat cxA ed.text (Spec.normPos ((clusters cxA ed.text).length : Int) p) =
      Spec.posNat cxA ed.text p := by
    rw [← Spec.posNat_cast, Spec.posNat_of_nat _ _ (Spec.posNat_le _ _)]
  rw [Editor.overtype_unfold]
  unfold overtypeIdx
  rw [Editor.charsTo_eq_spec cxA_WF.1 _ (cxA_WF.pos _), Editor.charsFrom_eq_spec cxA_WF.1 _ (cxA_WF.pos _), hp]
  simp only [hed, clusters_flat_over hV ht, posNat_of hV ht,
    gLen_flatten_stable ins (stableRunes_of_vocab V hV ins hi)]
  unfold overtypeToks
  simp only [List.flatten_append]
  rfl

end closed

end BridgeNatural2

open BridgeNatural BridgeNatural2 BridgeWrap BridgeOps BridgeEditorOps OpsStructure BridgeEdit

/-! `ed`, `ed'` are ANY two editors (roots or sub-editors, any options) whose texts are the code
points of `toks` and of `toks.map g`. -/

section editNatural
variable {V V' : List (List Int)}

/-- `Chars(s, e)` (any integers, `End`, negative positions) on a text and on its
substituted text select the SAME cluster range `[a, b)`; the selected text of the second is the
substitution of the selected text of the first; each sub-editor records the byte range that this
cluster range has in its own parent text. -/
theorem chars_natural_gen (hV : VocabStable V = true) (hV' : VocabStable V' = true)
    (g : List Int → List Int) (hg : ∀ t ∈ V, g t ∈ V')
    (toks : List (List Int)) (ht : ∀ t ∈ toks, t ∈ V) (ed ed' : Editor Int)
    (hed : ed.text = toks.flatten) (hed' : ed'.text = (toks.map g).flatten) (s e : Int) :
    ∃ (sel : List (List Int)) (a b : Nat),
      ed.chars cxA s e = .ok (.sub sel.flatten ed.opts ed
        (byteLen cxA (toks.take a).flatten) (byteLen cxA (toks.take b).flatten)) ∧
      ed'.chars cxA s e = .ok (.sub (sel.map g).flatten ed'.opts ed'
        (byteLen cxA ((toks.map g).take a).flatten) (byteLen cxA ((toks.map g).take b).flatten)) ∧
      clusters cxA sel.flatten = sel ∧ clusters cxA (sel.map g).flatten = sel.map g ∧
      a ≤ b ∧ b ≤ toks.length ∧ sel = (toks.drop a).take (b - a) ∧
      (a, b) = selRange toks.length s e := by
  have h1 := chars_A_closed hV ed toks hed ht s e
  have h2 := chars_A_closed hV' ed' (toks.map g) hed' (over_map hg ht) s e
  rw [charsToks_map, List.length_map] at h2
  obtain ⟨c1, c2⟩ := seg_pair hV hV' hg (charsToks_over ht s e)
  exact ⟨_, _, _, h1, h2, c1, c2, (selRange_spec _ s e).1, (selRange_spec _ s e).2.1, rfl, rfl⟩

/-- `CharsFrom(s)` passes the BYTE length of the text as end position — a different
number for the two texts — but selects the same clusters `[a, n)` in both -/
theorem charsFrom_natural_gen (hV : VocabStable V = true) (hV' : VocabStable V' = true)
    (g : List Int → List Int) (hg : ∀ t ∈ V, g t ∈ V')
    (toks : List (List Int)) (ht : ∀ t ∈ toks, t ∈ V) (ed ed' : Editor Int)
    (hed : ed.text = toks.flatten) (hed' : ed'.text = (toks.map g).flatten) (s : Int) :
    ∃ (sel : List (List Int)) (a b : Nat),
      ed.charsFrom cxA s = .ok (.sub sel.flatten ed.opts ed
        (byteLen cxA (toks.take a).flatten) (byteLen cxA (toks.take b).flatten)) ∧
      ed'.charsFrom cxA s = .ok (.sub (sel.map g).flatten ed'.opts ed'
        (byteLen cxA ((toks.map g).take a).flatten) (byteLen cxA ((toks.map g).take b).flatten)) ∧
      clusters cxA sel.flatten = sel ∧ clusters cxA (sel.map g).flatten = sel.map g ∧
      a ≤ b ∧ b = toks.length ∧ sel = toks.drop a ∧ a = posOf toks.length s := by
  obtain ⟨sel, a, b, h1, h2, c1, c2, hab, -, hsel, hr⟩ :=
    chars_natural_gen hV hV' g hg toks ht ed ed' hed hed' s Gen.endSentinel
  rw [← Editor.charsFrom_eq_chars_end cxA_WF.1 _ (cxA_WF.pos _)] at h1 h2
  rw [selRange_to_end] at hr
  cases hr
  refine ⟨sel, _, _, h1, h2, c1, c2, hab, rfl, ?_, rfl⟩
  rw [hsel]
  exact List.take_of_length_le (by rw [List.length_drop]; exact Nat.le_refl _)

/-- `CharsTo(e)`: the clusters `[0, b)` -/
theorem charsTo_natural_gen (hV : VocabStable V = true) (hV' : VocabStable V' = true)
    (g : List Int → List Int) (hg : ∀ t ∈ V, g t ∈ V')
    (toks : List (List Int)) (ht : ∀ t ∈ toks, t ∈ V) (ed ed' : Editor Int)
    (hed : ed.text = toks.flatten) (hed' : ed'.text = (toks.map g).flatten) (e : Int) :
    ∃ (sel : List (List Int)) (b : Nat),
      ed.charsTo cxA e = .ok (.sub sel.flatten ed.opts ed (0 : Nat)
        (byteLen cxA (toks.take b).flatten)) ∧
      ed'.charsTo cxA e = .ok (.sub (sel.map g).flatten ed'.opts ed' (0 : Nat)
        (byteLen cxA ((toks.map g).take b).flatten)) ∧
      clusters cxA sel.flatten = sel ∧ clusters cxA (sel.map g).flatten = sel.map g ∧
      b ≤ toks.length ∧ sel = toks.take b ∧ b = posOf toks.length e := by
  obtain ⟨sel, a, b, h1, h2, c1, c2, hab, hb, hsel, hr⟩ :=
    chars_natural_gen hV hV' g hg toks ht ed ed' hed hed' 0 e
  rw [selRange_zero] at hr
  cases hr
  refine ⟨sel, _, h1, h2, c1, c2, hb, ?_, rfl⟩
  rw [hsel]
  rfl

/-- `Insert`: every integer position (also `End`, negative, out of range); the inserted
text is substituted as well -/
theorem insert_natural_gen (hV : VocabStable V = true) (hV' : VocabStable V' = true)
    (g : List Int → List Int) (hg : ∀ t ∈ V, g t ∈ V')
    (toks : List (List Int)) (ht : ∀ t ∈ toks, t ∈ V) (ed ed' : Editor Int)
    (hed : ed.text = toks.flatten) (hed' : ed'.text = (toks.map g).flatten)
    (p : Int) (ins : List (List Int)) (hi : ∀ t ∈ ins, t ∈ V) :
    ∃ r : List (List Int),
      ed.insert cxA p ins.flatten = .ok (ed.withText r.flatten) ∧
      ed'.insert cxA p (ins.map g).flatten = .ok (ed'.withText (r.map g).flatten) ∧
      clusters cxA r.flatten = r ∧ clusters cxA (r.map g).flatten = r.map g ∧
      r = insertToks toks p ins := by
  have h2 := insert_A_closed hV' ed' (toks.map g) hed' (over_map hg ht) p (ins.map g)
  rw [insertToks_map] at h2
  obtain ⟨c1, c2⟩ := seg_pair hV hV' hg (insertToks_over ht hi p)
  exact ⟨_, insert_A_closed hV ed toks hed ht p ins, h2, c1, c2, rfl⟩

/-- `Delete`: every integer range -/
theorem delete_natural_gen (hV : VocabStable V = true) (hV' : VocabStable V' = true)
    (g : List Int → List Int) (hg : ∀ t ∈ V, g t ∈ V')
    (toks : List (List Int)) (ht : ∀ t ∈ toks, t ∈ V) (ed ed' : Editor Int)
    (hed : ed.text = toks.flatten) (hed' : ed'.text = (toks.map g).flatten) (s e : Int) :
    ∃ r : List (List Int),
      ed.delete cxA s e = .ok (ed.withText r.flatten) ∧
      ed'.delete cxA s e = .ok (ed'.withText (r.map g).flatten) ∧
      clusters cxA r.flatten = r ∧ clusters cxA (r.map g).flatten = r.map g ∧
      r = deleteToks toks s e := by
  have h2 := delete_A_closed hV' ed' (toks.map g) hed' (over_map hg ht) s e
  rw [deleteToks_map] at h2
  obtain ⟨c1, c2⟩ := seg_pair hV hV' hg (deleteToks_over ht s e)
  exact ⟨_, delete_A_closed hV ed toks hed ht s e, h2, c1, c2, rfl⟩

/-- `Overtype`: every integer position; NO bound on the lengths: Go's 64-bit wrap-around of
`pos + len(text)` happens at the same cluster count on both sides -/
theorem overtype_natural_gen (hV : VocabStable V = true) (hV' : VocabStable V' = true)
    (g : List Int → List Int) (hg : ∀ t ∈ V, g t ∈ V')
    (toks : List (List Int)) (ht : ∀ t ∈ toks, t ∈ V) (ed ed' : Editor Int)
    (hed : ed.text = toks.flatten) (hed' : ed'.text = (toks.map g).flatten)
    (p : Int) (ins : List (List Int)) (hi : ∀ t ∈ ins, t ∈ V) :
    ∃ r : List (List Int),
      ed.overtype cxA p ins.flatten = .ok (ed.withText r.flatten) ∧
      ed'.overtype cxA p (ins.map g).flatten = .ok (ed'.withText (r.map g).flatten) ∧
      clusters cxA r.flatten = r ∧ clusters cxA (r.map g).flatten = r.map g ∧
      r = overtypeToks toks p ins := by
  have h2 := overtype_A_closed hV' ed' (toks.map g) hed' (over_map hg ht) p (ins.map g)
    (over_map hg hi)
  rw [overtypeToks_map] at h2
  obtain ⟨c1, c2⟩ := seg_pair hV hV' hg (overtypeToks_over ht hi p)
  exact ⟨_, overtype_A_closed hV ed toks hed ht p ins hi, h2, c1, c2, rfl⟩

end editNatural

namespace BridgeNatural2
open BridgeComposite LayoutSim BridgeAlign

/-- JustifyLine on cluster tokens: the newline pre-pass is invisible, the rest works on the
specification's collapsed line -/
theorem justifyLine_B_eq_core (l : List (List Int)) (w : Int) :
    justifyLine cxB l w = justifyCore cxB (Spec.collapse tkB l) w := by
  unfold justifyLine
  rw [collapseSpace_triv_all cxB cxB_triv cxB_sp_space,
    collapse_replaceAll'_nl cxB cxB_sp_space (by decide)]
  rfl

theorem interleave_B_map (g : List Int → List Int) (hgsp : g cxB.sp = cxB.sp) :
    ∀ (ws : List (List (List Int))) (es : List Nat),
      interleave cxB (ws.map (List.map g)) es = (interleave cxB ws es).map g
  | [], _ => by simp only [List.map_nil, interleave]
  | [w], es => by simp only [List.map_cons, List.map_nil, interleave]
  | w :: w' :: ws, e :: es => by
    have ih := interleave_B_map g hgsp (w' :: ws) es
    rw [List.map_cons] at ih
    simp only [List.map_cons, interleave, List.map_append, List.map_replicate, hgsp, ih]
  | w :: w' :: ws, [] => by
    have ih := interleave_B_map g hgsp (w' :: ws) []
    rw [List.map_cons] at ih
    simp only [List.map_cons, interleave, List.map_append, List.map_nil, hgsp, ih]

theorem justifyCore_B_map {g : List Int → List Int} (hmap : Spec.TokMap tkB tkB g)
    (c : List (List Int)) (hc : ∀ t ∈ c, cxB.isSpace t = true → t = cxB.sp) (w : Int) :
    justifyCore cxB (c.map g) w = (justifyCore cxB c w).map (List.map g) := by
  have hinj : SepInj g [cxB.sp] c := by
    intro s hs t ht e
    rw [List.mem_singleton] at hs
    subst hs
    have h1 : cxB.isSpace (g t) = true := by rw [← e, hmap.sp]; exact cxB_sp_space
    rw [show cxB.isSpace (g t) = cxB.isSpace t from hmap.ws t] at h1
    exact (hc t ht h1).symm
  have hsplit : splitOn (c.map g) [cxB.sp] = (splitOn c [cxB.sp]).map (List.map g) := by
    have := splitOn_map g c [cxB.sp] hinj
    rw [List.map_cons, List.map_nil, show g cxB.sp = cxB.sp from hmap.sp] at this
    exact this
  unfold justifyCore
  dsimp only
  rw [gLen_triv cxB cxB_triv, gLen_triv cxB cxB_triv, hsplit, List.length_map, List.length_map]
  refine ite_map_eq _ _ _ _ _ _ rfl (ite_map_eq _ _ _ _ _ _ rfl ?_)
  cases distribute (((splitOn c [cxB.sp]).length : Int) - 1)
      (if (((splitOn c [cxB.sp]).length : Int) - 1) % 2 == 0 then 0 else 1)
      (w - (c.length : Int)).toNat 0 false
      (List.replicate (((splitOn c [cxB.sp]).length : Int) - 1).toNat 0) with
  | error e => rfl
  | ok extra => exact congrArg Except.ok (interleave_B_map g hmap.sp _ extra)

/-- **the justified line on clusters commutes with the substitution** (non-injective `g` allowed:
after CollapseSpace the only whitespace cluster left is the space, which `g` fixes) -/
theorem justified_B_map {g : List Int → List Int} (hmap : Spec.TokMap tkB tkB g)
    (l : List (List Int)) (w : Int) :
    justified cxB (l.map g) w = (justified cxB l w).map g := by
  unfold justified
  rw [justifyLine_B_eq_core, justifyLine_B_eq_core, Spec.collapse_map hmap,
    justifyCore_B_map hmap _ (WrapRefine.collapse_mem_ws tkB l)]
  cases justifyCore cxB (Spec.collapse tkB l) w with
  | error e => rfl
  | ok r => rfl

/-- the text `JustifyOpts` (non-paragraph mode) produces on cluster tokens: every line (with
`JustifyLastLine`) or every line but the last (default) is replaced by its justified line -/
def justifyText (ed : Editor (List Int)) (width : Int) (o : Options (List Int)) :
    List (List Int) :=
  joinWith (o.withDefaults cxB).lineSep
    ((if o.justifyLast = true then (inLines cxB ed o).map (fun l => justified cxB l width)
      else mapInit (fun l => justified cxB l width) (inLines cxB ed o)) ++ trailing cxB ed o)

/-- the text `IndentOpts` (non-paragraph mode) produces on cluster tokens -/
def indentText (ed : Editor (List Int)) (level : Int) (o : Options (List Int)) :
    List (List Int) :=
  if level < 1 then ed.text
  else joinWith (o.withDefaults cxB).lineSep
    ((inLines cxB ed o).map
        (fun l => (List.replicate level.toNat (o.withDefaults cxB).indentStr).flatten ++ l) ++
      trailing cxB ed o)

section justifyIndentClosed
variable {V : List (List Int)}

theorem justifyOpts_A_closed (hV : VocabStable V = true) (hsp : [0x20] ∈ V)
    (hspTail : ∀ t ∈ V, (0x20 : Int) ∉ t.tail) (toks : List (List Int)) (ht : ∀ t ∈ toks, t ∈ V)
    (width : Int) (o0 o : Options (List Int)) (hpp : o.preservePara = false)
    (hS : GoodSep V (o.withDefaults cxB).lineSep) :
    Editor.justifyOpts cxA (.root toks.flatten o0.flat) width o.flat =
      .ok (.root (justifyText (.root toks o0) width o).flatten o0.flat) := by
  unfold justifyText
  cases hjl : o.justifyLast with
  | true =>
    rw [if_pos rfl]
    exact (justifyOpts_bridge_all_closed hV hsp hspTail (.root toks o0) ht width o hpp hjl hS).1
  | false =>
    rw [if_neg (by simp)]
    exact justifyOpts_bridge_notLast_closed hV hsp hspTail (.root toks o0) ht width o hpp hjl hS

theorem indentStr_ne (o : Options (List Int))
    (hI : ∀ t ∈ (o.withDefaults cxB).indentStr, t ≠ []) : ∀ t ∈ o.indentStr, t ≠ [] := by
  rw [Options.indentStr_withDefaults] at hI
  intro t ht
  by_cases he : o.indentStr.isEmpty = true
  · rw [List.isEmpty_iff.1 he] at ht; cases ht
  · rw [if_neg he] at hI
    exact hI t ht

theorem indentOpts_A_closed (hV : VocabStable V = true) (toks : List (List Int))
    (ht : ∀ t ∈ toks, t ∈ V) (level : Int) (o0 o : Options (List Int))
    (hpp : o.preservePara = false) (hS : GoodSep V (o.withDefaults cxB).lineSep)
    (hI : ∀ t ∈ (o.withDefaults cxB).indentStr, t ≠ []) :
    Editor.indentOpts cxA (.root toks.flatten o0.flat) level o.flat =
      .ok (.root (indentText (.root toks o0) level o).flatten o0.flat) := by
  unfold indentText
  by_cases hlev : level < 1
  · rw [if_pos hlev]
    unfold Editor.indentOpts
    rw [if_pos hlev]
    rfl
  · rw [if_neg hlev]
    exact indentOpts_bridge_closed hV (.root toks o0) ht level (by omega) o hpp hS
      (indentStr_ne o hI)

end justifyIndentClosed

section justifyIndentOver
variable {V : List (List Int)}

theorem justifyText_over (hsp : [0x20] ∈ V) (ed : Editor (List Int)) (ht : ∀ t ∈ ed.text, t ∈ V)
    (width : Int) (o : Options (List Int)) (hSV : ∀ s ∈ (o.withDefaults cxB).lineSep, s ∈ V) :
    ∀ t ∈ justifyText ed width o, t ∈ V := by
  have hj : ∀ l, (∀ t ∈ l, t ∈ V) → ∀ t ∈ justified cxB l width, t ∈ V :=
    fun _ hl => justified_B_over hsp width hl
  refine lineForm_over ed o hSV ?_
  split
  · exact lines_map_over (inLines_over ed ht o) hj
  · intro l hl
    rcases List.mem_append.1 hl with hl | hl
    · exact lines_map_over (fun l h => inLines_over ed ht o l (List.dropLast_subset _ h)) hj l hl
    · exact inLines_over ed ht o l (List.mem_of_mem_drop hl)

theorem indentText_over (ed : Editor (List Int)) (ht : ∀ t ∈ ed.text, t ∈ V)
    (level : Int) (o : Options (List Int)) (hSV : ∀ s ∈ (o.withDefaults cxB).lineSep, s ∈ V)
    (hIV : ∀ s ∈ (o.withDefaults cxB).indentStr, s ∈ V) :
    ∀ t ∈ indentText ed level o, t ∈ V := by
  unfold indentText
  split
  · exact ht
  · exact lineForm_over ed o hSV (lines_map_over (inLines_over ed ht o) fun _ hl =>
      BridgeEdit.over_append (fun t h => hIV t (gRepeat_mem _ level t h)) hl)

end justifyIndentOver

section justifyIndentMap
variable {V : List (List Int)} {g : List Int → List Int}

theorem mapInit_map {f : List (List Int) → List (List Int)}
    (hf : ∀ l, f (l.map g) = (f l).map g) (ls : List (List (List Int))) :
    mapInit f (ls.map (List.map g)) = (mapInit f ls).map (List.map g) := by
  unfold mapInit
  rw [List.length_map, List.map_append, ← List.map_dropLast, ← List.map_drop, map_map_comm g hf]

theorem justifyText_map (hmap : Spec.TokMap tkB tkB g) (o0 o : Options (List Int))
    (h : SepFix V g (o.withDefaults cxB).lineSep) {toks : List (List Int)}
    (ht : ∀ t ∈ toks, t ∈ V) (width : Int) :
    justifyText (.root (toks.map g) o0) width o = (justifyText (.root toks o0) width o).map g := by
  unfold justifyText
  split
  · exact lineForm_map o0 o h ht (map_map_comm g fun l => justified_B_map hmap l width)
  · exact lineForm_map o0 o h ht (mapInit_map fun l => justified_B_map hmap l width)

theorem indentText_map (o0 o : Options (List Int))
    (h : SepFix V g (o.withDefaults cxB).lineSep)
    (hfixI : ∀ s ∈ (o.withDefaults cxB).indentStr, g s = s) {toks : List (List Int)}
    (ht : ∀ t ∈ toks, t ∈ V) (level : Int) :
    indentText (.root (toks.map g) o0) level o = (indentText (.root toks o0) level o).map g := by
  unfold indentText
  split
  · rfl
  · refine lineForm_map o0 o h ht (map_map_comm g fun l => ?_)
    rw [List.map_append, map_fixed (l := (List.replicate level.toNat _).flatten) fun s hs =>
      hfixI s (gRepeat_mem _ level s hs)]

end justifyIndentMap

end BridgeNatural2

section justifyIndentNatural
variable {V V' : List (List Int)}

/-- `JustifyOpts`, non-paragraph mode, `JustifyLastLine` on or off (any `o.justifyLast`),
every width.  Hypotheses as for `wrapOpts_natural` (no hyphen is produced, so `hghy` is only used
through the token-map structure). -/
theorem justifyOpts_natural (hV : VocabStable V = true) (hsp : [0x20] ∈ V)
    (hspTail : ∀ t ∈ V, (0x20 : Int) ∉ t.tail)
    (hV' : VocabStable V' = true) (hsp' : [0x20] ∈ V') (hspTail' : ∀ t ∈ V', (0x20 : Int) ∉ t.tail)
    (g : List Int → List Int) (hg : ∀ t ∈ V, g t ∈ V')
    (hws : ∀ t, cxB.isSpace (g t) = cxB.isSpace t) (hgsp : g [0x20] = [0x20])
    (hghy : g [0x2D] = [0x2D])
    (toks : List (List Int)) (ht : ∀ t ∈ toks, t ∈ V) (width : Int) (o0 o : Options (List Int))
    (hpp : o.preservePara = false)
    (hS : GoodSep V (o.withDefaults cxB).lineSep) (hS' : GoodSep V' (o.withDefaults cxB).lineSep)
    (hfix : ∀ s ∈ (o.withDefaults cxB).lineSep, g s = s)
    (hinv : ∀ t ∈ V, g t ∈ (o.withDefaults cxB).lineSep → t ∈ (o.withDefaults cxB).lineSep) :
    ∃ r : List (List Int),
      Editor.justifyOpts cxA (.root toks.flatten o0.flat) width o.flat =
        .ok (.root r.flatten o0.flat) ∧
      Editor.justifyOpts cxA (.root (toks.map g).flatten o0.flat) width o.flat =
        .ok (.root (r.map g).flatten o0.flat) := by
  have hmap : Spec.TokMap tkB tkB g := ⟨hws, hgsp, hghy⟩
  refine ⟨_, justifyOpts_A_closed hV hsp hspTail toks ht width o0 o hpp hS, ?_⟩
  rw [← justifyText_map hmap o0 o ⟨hfix, hinv⟩ ht]
  exact justifyOpts_A_closed hV' hsp' hspTail' _ (over_map hg ht) width o0 o hpp hS'

/-- `IndentOpts`, non-paragraph mode, every level (`< 1`: nothing happens on either side).
The indent string is part of the OPTIONS, which are the same in both calls; so `g` has to fix its
tokens (`hfixI`), as it fixes those of the line separator.  No whitespace hypothesis on `g`. -/
theorem indentOpts_natural (hV : VocabStable V = true) (hV' : VocabStable V' = true)
    (g : List Int → List Int) (hg : ∀ t ∈ V, g t ∈ V')
    (toks : List (List Int)) (ht : ∀ t ∈ toks, t ∈ V) (level : Int) (o0 o : Options (List Int))
    (hpp : o.preservePara = false)
    (hS : GoodSep V (o.withDefaults cxB).lineSep) (hS' : GoodSep V' (o.withDefaults cxB).lineSep)
    (hfix : ∀ s ∈ (o.withDefaults cxB).lineSep, g s = s)
    (hinv : ∀ t ∈ V, g t ∈ (o.withDefaults cxB).lineSep → t ∈ (o.withDefaults cxB).lineSep)
    (hI : ∀ s ∈ (o.withDefaults cxB).indentStr, s ≠ [])
    (hfixI : ∀ s ∈ (o.withDefaults cxB).indentStr, g s = s) :
    ∃ r : List (List Int),
      Editor.indentOpts cxA (.root toks.flatten o0.flat) level o.flat =
        .ok (.root r.flatten o0.flat) ∧
      Editor.indentOpts cxA (.root (toks.map g).flatten o0.flat) level o.flat =
        .ok (.root (r.map g).flatten o0.flat) := by
  refine ⟨_, indentOpts_A_closed hV toks ht level o0 o hpp hS hI, ?_⟩
  rw [← indentText_map o0 o ⟨hfix, hinv⟩ hfixI ht]
  exact indentOpts_A_closed hV' _ (over_map hg ht) level o0 o hpp hS' hI

end justifyIndentNatural

namespace BridgeNatural2
open BridgeComposite LayoutSim BridgeAlign

section hom
variable {V : List (List Int)} {g : List Int → List Int}

theorem gLen_B_map (l : List (List Int)) : gLen cxB (l.map g) = gLen cxB l := by
  rw [gLen_triv cxB cxB_triv, gLen_triv cxB cxB_triv, List.length_map]

theorem gSub_B_map (s : List (List Int)) (a b : Int) :
    gSub cxB (s.map g) a b = (gSub cxB s a b).map g := by
  unfold gSub
  simp only [cxB_triv, List.length_map]
  generalize rangeToIndexes (↑(List.range' 1 s.length).length) a b = p
  obtain ⟨st, en⟩ := p
  simp only
  split
  · rfl
  · unfold sliceRunes
    rw [List.map_take, List.map_drop]

theorem takeWhile_ws_map (hws : ∀ t, cxB.isSpace (g t) = cxB.isSpace t) :
    ∀ (l : List (List Int)),
      ((l.map g).takeWhile cxB.isSpace).length = (l.takeWhile cxB.isSpace).length
  | [] => rfl
  | c :: t => by
    simp only [List.map_cons, List.takeWhile_cons, hws]
    split
    · simp only [List.length_cons, takeWhile_ws_map hws t]
    · rfl

theorem countLeadingWs_B_map (hws : ∀ t, cxB.isSpace (g t) = cxB.isSpace t)
    (l : List (List Int)) : countLeadingWs cxB (l.map g) = countLeadingWs cxB l := by
  rw [countLeadingWs_triv cxB cxB_triv, countLeadingWs_triv cxB cxB_triv, takeWhile_ws_map hws]

theorem countTrailingWs_B_map (hws : ∀ t, cxB.isSpace (g t) = cxB.isSpace t)
    (l : List (List Int)) : countTrailingWs cxB (l.map g) = countTrailingWs cxB l := by
  rw [countTrailingWs_triv cxB cxB_triv, countTrailingWs_triv cxB cxB_triv, ← List.map_reverse,
    takeWhile_ws_map hws]

theorem alignLeft_B_map (hmap : Spec.TokMap tkB tkB g) (l : List (List Int)) (w : Int) :
    alignLeft cxB (l.map g) w = (alignLeft cxB l w).map g := by
  rw [alignLeft_triv cxB cxB_triv, alignLeft_triv cxB cxB_triv]
  exact Spec.alignLeft_map hmap w l

theorem alignCenter_B_map (hmap : Spec.TokMap tkB tkB g) (l : List (List Int)) (w : Int) :
    alignCenter cxB (l.map g) w = (alignCenter cxB l w).map g := by
  rw [alignCenter_triv cxB cxB_triv, alignCenter_triv cxB cxB_triv]
  exact Spec.alignCenter_map hmap w l

theorem alignRight_B_map (hmap : Spec.TokMap tkB tkB g) (l : List (List Int)) (w : Int) :
    alignRight cxB (l.map g) w = (alignRight cxB l w).map g := by
  rw [alignRight_triv cxB cxB_triv, alignRight_triv cxB cxB_triv]
  exact Spec.alignRight_map hmap w l

/-- the substitution, on texts over `V`, is a homomorphism of the layout primitives at `cxB` -/
theorem homMap (hmap : Spec.TokMap tkB tkB g) (hsp : [0x20] ∈ V) :
    LayoutSim.Hom cxB cxB (List.map g) (· ∈ V) where
  nil := rfl
  append _ _ := List.map_append
  isEmpty _ _ := List.isEmpty_map
  sp := congrArg (fun x => [x]) hmap.sp
  spQ := hsp
  len b _ := gLen_B_map b
  sub b hb x y := ⟨gSub_B_map b x y, gSub_B_over hb x y⟩
  leadingWs b _ := countLeadingWs_B_map hmap.ws b
  trailingWs b _ := countTrailingWs_B_map hmap.ws b
  left b hb w := ⟨alignLeft_B_map hmap b w, alignLeft_B_over hsp b hb w⟩
  right b hb w := ⟨alignRight_B_map hmap b w, alignRight_B_over hsp b hb w⟩
  center b hb w := ⟨alignCenter_B_map hmap b w, alignCenter_B_over hsp b hb w⟩

theorem sepHomMap {S : List (List Int)} (h : SepFix V g S) (hSV : ∀ t ∈ S, t ∈ V) :
    LayoutSim.SepHom (List.map g) (· ∈ V) S :=
  ⟨hSV, fun b hb => by rw [h.map_eq]; exact h.splitOn hb⟩

end hom

section compositeHelpers
variable {g : List Int → List Int}

theorem getD_map_map (ls : List (List (List Int))) (i : Nat) :
    (ls.map (List.map g)).getD i [] = (ls.getD i []).map g :=
  getD_map_nil (List.map g) rfl ls i

theorem block_join_map {S : List (List Int)} (hS : S.map g = S) (ls : List (List (List Int)))
    (b : Bool) :
    (Block.mk (ls.map (List.map g)) S b).join = (Block.mk ls S b).join.map g := by
  unfold Block.join
  cases ls with
  | nil => cases b <;> simp [hS]
  | cons l ls =>
    simp only [List.map_cons, List.isEmpty_cons, Bool.false_eq_true, ↓reduceIte, List.map_append]
    rw [← List.map_cons, joinWith_map, hS]
    cases b <;> simp [hS]

theorem replicate_sp_map (hgsp : g cxB.sp = cxB.sp) (n : Nat) :
    (List.replicate n cxB.sp).map g = List.replicate n cxB.sp := by
  rw [List.map_replicate, hgsp]

end compositeHelpers

theorem twoColW_bounds (msb width : Int) (pct : Pct) :
    2 ≤ (twoColW msb width pct).1 ∧ 2 ≤ (twoColW msb width pct).2 := by
  unfold twoColW
  generalize (if pct.neg = true ∨ (pct.num == 0) = true then ((0 : Nat), (0 : Nat))
    else if pct.num > 2 ^ pct.exp then (1, 0) else (pct.num, pct.exp)) = ne
  obtain ⟨num, exp⟩ := ne
  simp only
  generalize (if msb < 0 then 0 else msb) = msb'
  have hW : msb' + 4 ≤ (if width < msb' + 2 + 2 then msb' + 2 + 2 else width) := by split <;> omega
  generalize (if width < msb' + 2 + 2 then msb' + 2 + 2 else width) = W at hW ⊢
  generalize ((mulRoundTrunc (W - msb').toNat num exp : Nat) : Int) = m
  have h1 : 2 ≤ (if m < 2 then 2 else m) := by split <;> omega
  generalize (if m < 2 then 2 else m) = m1 at h1 ⊢
  constructor <;> split <;> omega

/-- the block `InsertTwoColumnsOpts` inserts, on cluster tokens -/
def twoColBlock (l r : List (List Int)) (gap width : Int) (pct : Pct) (o : Options (List Int)) :
    List (List Int) :=
  (Block.mk
    (twoColLines cxB l r (if gap < 0 then 0 else gap) (twoColW gap width pct).1
      (twoColW gap width pct).2 (o.withDefaults cxB).lineSep)
    (o.withDefaults cxB).lineSep (!(o.withDefaults cxB).noTrailing)).join

/-- the text after `InsertTwoColumnsOpts`, on cluster tokens -/
def twoColText (toks : List (List Int)) (pos : Int) (l r : List (List Int)) (gap width : Int)
    (pct : Pct) (o : Options (List Int)) : List (List Int) :=
  if l.isEmpty ∧ r.isEmpty then toks else insertToks toks pos (twoColBlock l r gap width pct o)

theorem insertTwoColumnsOpts_B_closed (ed : Editor (List Int)) (pos : Int)
    (l r : List (List Int)) (gap width : Int) (pct : Pct) (o : Options (List Int)) :
    Editor.insertTwoColumnsOpts cxB ed pos l r gap width pct o =
      if l.isEmpty ∧ r.isEmpty then pure ed
      else ed.insert cxB pos (twoColBlock l r gap width pct o) := by
  obtain ⟨hL, hR⟩ := twoColW_bounds gap width pct
  rw [insertTwoColumnsOpts_unfold, if_neg (Int.not_lt.2 hR)]
  exact congrArg (ite _ _)
    (twoColBody_triv cxB cxB_triv cxB_sp_space ed pos l r _ _ _ o (by split <;> omega) hL hR)

section twoCol
variable {V : List (List Int)}

theorem insertTwoColumnsOpts_A_closed (hV : VocabStable V = true) (hsp : [0x20] ∈ V)
    (hhy : [0x2D] ∈ V) (hspTail : ∀ t ∈ V, (0x20 : Int) ∉ t.tail)
    (toks : List (List Int)) (ht : ∀ t ∈ toks, t ∈ V) (o0 : Options (List Int)) (pos : Int)
    (l r : List (List Int)) (hl : ∀ t ∈ l, t ∈ V) (hr : ∀ t ∈ r, t ∈ V) (gap width : Int)
    (pct : Pct) (o : Options (List Int)) (hS : GoodSep V (o.withDefaults cxB).lineSep) :
    Editor.insertTwoColumnsOpts cxA (.root toks.flatten o0.flat) pos l.flatten r.flatten gap width
        pct o.flat =
      .ok (.root (twoColText toks pos l r gap width pct o).flatten o0.flat) := by
  rw [insertTwoColumnsOpts_bridge hV hsp hhy hspTail toks ht o0 pos l r hl hr gap width pct o hS,
    insertTwoColumnsOpts_B_closed]
  unfold twoColText
  split
  · rfl
  · exact insert_root_flat hV toks ht o0 pos _

theorem twoColLines_over (hsp : [0x20] ∈ V) (hhy : [0x2D] ∈ V) {l r : List (List Int)}
    (hl : ∀ t ∈ l, t ∈ V) (hr : ∀ t ∈ r, t ∈ V) (msb lw rw : Int) (S : List (List Int)) :
    ∀ line ∈ twoColLines cxB l r msb lw rw S, ∀ t ∈ line, t ∈ V := by
  intro line hline
  unfold twoColLines at hline
  obtain ⟨i, _, rfl⟩ := List.mem_map.1 hline
  unfold twoColLine
  exact BridgeEdit.over_append (BridgeEdit.over_append (getD_over (colLines_B_over hsp hhy l hl _ _) i)
    (replicate_sp_over hsp _)) (getD_over (colLines_B_over hsp hhy r hr _ _) i)

theorem twoColText_over (hsp : [0x20] ∈ V) (hhy : [0x2D] ∈ V) {toks l r : List (List Int)}
    (ht : ∀ t ∈ toks, t ∈ V) (hl : ∀ t ∈ l, t ∈ V) (hr : ∀ t ∈ r, t ∈ V) (pos gap width : Int)
    (pct : Pct) (o : Options (List Int)) (hSV : ∀ s ∈ (o.withDefaults cxB).lineSep, s ∈ V) :
    ∀ t ∈ twoColText toks pos l r gap width pct o, t ∈ V := by
  unfold twoColText
  split
  · exact ht
  · exact insertToks_over ht
      (join_forall hSV (twoColLines_over hsp hhy hl hr _ _ _ _) _) pos

variable {g : List Int → List Int} {S : List (List Int)}

theorem colLines_map (hmap : Spec.TokMap tkB tkB g) (h : SepFix V g S) {text : List (List Int)}
    (ht : ∀ t ∈ text, t ∈ V) (w : Int) :
    colLines cxB (text.map g) w S = (colLines cxB text w S).map (List.map g) := by
  unfold colLines
  rw [h.replaceAll' hmap.sp ht]
  exact Spec.wrapLines_map hmap _ _

theorem twoColLines_map (hmap : Spec.TokMap tkB tkB g) (h : SepFix V g S) {l r : List (List Int)}
    (hl : ∀ t ∈ l, t ∈ V) (hr : ∀ t ∈ r, t ∈ V) (msb lw rw : Int) :
    twoColLines cxB (l.map g) (r.map g) msb lw rw S =
      (twoColLines cxB l r msb lw rw S).map (List.map g) := by
  unfold twoColLines
  rw [colLines_map hmap h hl, colLines_map hmap h hr, List.length_map, List.length_map,
    List.map_map]
  apply List.map_congr_left
  intro i _
  unfold twoColLine
  rw [colLines_map hmap h hl, colLines_map hmap h hr]
  simp only [Function.comp, getD_map_map, List.length_map, List.map_append,
    replicate_sp_map hmap.sp]

theorem twoColText_map (hmap : Spec.TokMap tkB tkB g) (o : Options (List Int))
    (h : SepFix V g (o.withDefaults cxB).lineSep) {toks l r : List (List Int)}
    (hl : ∀ t ∈ l, t ∈ V) (hr : ∀ t ∈ r, t ∈ V) (pos gap width : Int) (pct : Pct) :
    twoColText (toks.map g) pos (l.map g) (r.map g) gap width pct o =
      (twoColText toks pos l r gap width pct o).map g := by
  unfold twoColText
  simp only [List.isEmpty_map]
  split
  · rfl
  · unfold twoColBlock
    rw [twoColLines_map hmap h hl hr, block_join_map h.map_eq, insertToks_map]

end twoCol

/-- the block `InsertDefinitionsTableOpts` inserts, on cluster tokens (`defs ≠ []`): the
paragraphs, one per definition, joined by the paragraph separator; the lines of a paragraph joined
by the line separator -/
def defTableBlock (defs : List (List (List Int) × List (List Int))) (width : Int)
    (o : Options (List Int)) : List (List Int) :=
  joinWith (o.withDefaults cxB).paraSep (defs.map fun item =>
    joinWith (o.withDefaults cxB).lineSep
      (defParaLines cxB (maxLineLen (defs.map (·.1))) item.1
        (defRc (colLines cxB item.2
          (max (width - ((maxLineLen (defs.map (·.1)) : Int) + 2) - 2 - 2) 2)
          (o.withDefaults cxB).lineSep)))) ++
    (if (o.withDefaults cxB).noTrailing = true then [] else (o.withDefaults cxB).lineSep)

/-- the text after `InsertDefinitionsTableOpts`, on cluster tokens -/
def defTableText (toks : List (List Int)) (pos : Int)
    (defs : List (List (List Int) × List (List Int))) (width : Int) (o : Options (List Int)) :
    List (List Int) :=
  if defs.isEmpty then toks else insertToks toks pos (defTableBlock defs width o)

/-- the substitution applied to terms and definitions -/
def mapDefs (g : List Int → List Int) (defs : List (List (List Int) × List (List Int))) :
    List (List (List Int) × List (List Int)) :=
  defs.map fun d => (d.1.map g, d.2.map g)

theorem mapDefs_flat (g : List Int → List Int) (defs : List (List (List Int) × List (List Int))) :
    (mapDefs g defs).map (fun d => (d.1.flatten, d.2.flatten)) =
      defs.map fun d => ((d.1.map g).flatten, (d.2.map g).flatten) := List.map_map

theorem insertDefTableOpts_B_closed (ed : Editor (List Int)) (pos : Int)
    (defs : List (List (List Int) × List (List Int))) (width : Int) (o : Options (List Int)) :
    Editor.insertDefTableOpts cxB ed pos defs width o =
      if defs.isEmpty then pure ed else ed.insert cxB pos (defTableBlock defs width o) := by
  cases defs with
  | nil => rfl
  | cons d ds =>
    rw [insertDefTableOpts_triv_text cxB cxB_triv cxB_sp_space ed pos (d :: ds) width o (by simp)]
    rfl

section defTable
variable {V : List (List Int)}

theorem insertDefTableOpts_A_closed (hV : VocabStable V = true) (hsp : [0x20] ∈ V)
    (hspTail : ∀ t ∈ V, (0x20 : Int) ∉ t.tail)
    (toks : List (List Int)) (ht : ∀ t ∈ toks, t ∈ V) (o0 : Options (List Int)) (pos : Int)
    (defs : List (List (List Int) × List (List Int)))
    (hd1 : ∀ d ∈ defs, ∀ t ∈ d.1, t ∈ V) (hd2 : ∀ d ∈ defs, ∀ t ∈ d.2, t ∈ V) (width : Int)
    (o : Options (List Int)) (hS : GoodSep V (o.withDefaults cxB).lineSep)
    (hP : ∀ t ∈ (o.withDefaults cxB).paraSep, t ≠ []) :
    Editor.insertDefTableOpts cxA (.root toks.flatten o0.flat) pos
        (defs.map fun d => (d.1.flatten, d.2.flatten)) width o.flat =
      .ok (.root (defTableText toks pos defs width o).flatten o0.flat) := by
  rw [insertDefTableOpts_bridge hV hsp hspTail toks ht o0 pos defs hd1 hd2 width o hS hP,
    insertDefTableOpts_B_closed]
  unfold defTableText
  split
  · rfl
  · exact insert_root_flat hV toks ht o0 pos _

theorem defTableText_over (hsp : [0x20] ∈ V) (hhy : [0x2D] ∈ V) {toks : List (List Int)}
    (ht : ∀ t ∈ toks, t ∈ V) (pos : Int) {defs : List (List (List Int) × List (List Int))}
    (hd1 : ∀ d ∈ defs, ∀ t ∈ d.1, t ∈ V) (hd2 : ∀ d ∈ defs, ∀ t ∈ d.2, t ∈ V) (width : Int)
    (o : Options (List Int)) (hSV : ∀ s ∈ (o.withDefaults cxB).lineSep, s ∈ V)
    (hPV : ∀ s ∈ (o.withDefaults cxB).paraSep, s ∈ V) :
    ∀ t ∈ defTableText toks pos defs width o, t ∈ V := by
  unfold defTableText
  split
  · exact ht
  · refine insertToks_over ht ?_ pos
    unfold defTableBlock
    refine BridgeEdit.over_append (joinWith_forall hPV ?_) ?_
    · intro para hpara
      obtain ⟨item, hitem, rfl⟩ := List.mem_map.1 hpara
      exact joinWith_forall hSV (defParaLines_B_over hsp hhy _ (hd1 item hitem)
        (defRc_B_over (colLines_B_over hsp hhy item.2 (hd2 item hitem) _ _)))
    · intro t h
      split at h
      · cases h
      · exact hSV t h

variable {g : List Int → List Int}

theorem maxLineLen_map_map (ls : List (List (List Int))) :
    maxLineLen (ls.map (List.map g)) = maxLineLen ls := by
  induction ls with
  | nil => rfl
  | cons l ls ih => rw [List.map_cons, maxLineLen_cons, maxLineLen_cons, ih, List.length_map]

theorem defRc_map (rc : List (List (List Int))) :
    defRc (rc.map (List.map g)) = (defRc rc).map (List.map g) := by
  unfold defRc
  rw [List.isEmpty_map]
  split <;> rfl

theorem defRightCol_map (hmap : Spec.TokMap tkB tkB g) (rc : List (List (List Int))) :
    defRightCol cxB (rc.map (List.map g)) = (defRightCol cxB rc).map (List.map g) := by
  unfold defRightCol
  rw [List.length_map, List.map_map]
  apply List.map_congr_left
  intro i _
  simp only [Function.comp, getD_map_map, List.map_append]
  congr 1
  have h1 : g cxB.sp = cxB.sp := hmap.sp
  have h2 : g cxB.hy = cxB.hy := hmap.hy
  split <;> simp only [List.map_cons, List.map_nil, h1, h2]

theorem defParaLines_map (hmap : Spec.TokMap tkB tkB g) (T : Nat) (term : List (List Int))
    (rc : List (List (List Int))) :
    defParaLines cxB T (term.map g) (rc.map (List.map g)) =
      (defParaLines cxB T term rc).map (List.map g) := by
  have h1 : g cxB.sp = cxB.sp := hmap.sp
  unfold defParaLines
  rw [defRightCol_map hmap, List.map_map]
  simp only [List.length_map]
  apply List.map_congr_left
  intro i _
  simp only [Function.comp, getD_map_map, List.map_append]
  congr 1
  split
  · simp only [List.map_append, List.map_cons, List.map_nil, h1, List.map_replicate]
  · rw [replicate_sp_map h1]

theorem defTableBlock_map (hmap : Spec.TokMap tkB tkB g) (o : Options (List Int))
    (h : SepFix V g (o.withDefaults cxB).lineSep)
    (hfixP : ∀ s ∈ (o.withDefaults cxB).paraSep, g s = s)
    {defs : List (List (List Int) × List (List Int))} (hd2 : ∀ d ∈ defs, ∀ t ∈ d.2, t ∈ V)
    (width : Int) :
    defTableBlock (mapDefs g defs) width o = (defTableBlock defs width o).map g := by
  have hT : maxLineLen ((mapDefs g defs).map (·.1)) = maxLineLen (defs.map (·.1)) := by
    unfold mapDefs
    rw [List.map_map, ← maxLineLen_map_map (g := g) (defs.map (·.1)), List.map_map]
    rfl
  unfold defTableBlock
  rw [hT, List.map_append, joinWith_map, map_fixed hfixP, apply_ite (List.map g), h.map_eq]
  refine congrArg (joinWith _ · ++ _) ?_
  unfold mapDefs
  rw [List.map_map, List.map_map]
  refine List.map_congr_left fun item hitem => ?_
  dsimp only [Function.comp]
  rw [joinWith_map, h.map_eq, colLines_map hmap h (hd2 item hitem), defRc_map,
    defParaLines_map hmap]

theorem defTableText_map (hmap : Spec.TokMap tkB tkB g) (o : Options (List Int))
    (h : SepFix V g (o.withDefaults cxB).lineSep)
    (hfixP : ∀ s ∈ (o.withDefaults cxB).paraSep, g s = s) {toks : List (List Int)}
    {defs : List (List (List Int) × List (List Int))} (hd2 : ∀ d ∈ defs, ∀ t ∈ d.2, t ∈ V)
    (pos width : Int) :
    defTableText (toks.map g) pos (mapDefs g defs) width o =
      (defTableText toks pos defs width o).map g := by
  unfold defTableText
  rw [defTableBlock_map hmap o h hfixP hd2, insertToks_map,
    show (mapDefs g defs).isEmpty = defs.isEmpty from List.isEmpty_map]
  exact (apply_ite (List.map g) _ _ _).symm

end defTable

/-- the block `InsertTableOpts` inserts, on cluster tokens -/
def tableBlock (data : List (List (List (List Int)))) (width : Int) (o : Options (List Int)) :
    List (List Int) :=
  if (!(o.withDefaults cxB).noTrailing) = true ∧
      (!(Block.mk (makeTable cxB data width (o.withDefaults cxB).headers
        (o.withDefaults cxB).borders (o.withDefaults cxB).charset)
        (o.withDefaults cxB).lineSep false).join.isEmpty) = true then
    (Block.mk (makeTable cxB data width (o.withDefaults cxB).headers (o.withDefaults cxB).borders
      (o.withDefaults cxB).charset) (o.withDefaults cxB).lineSep false).join ++
      (o.withDefaults cxB).lineSep
  else (Block.mk (makeTable cxB data width (o.withDefaults cxB).headers
    (o.withDefaults cxB).borders (o.withDefaults cxB).charset) (o.withDefaults cxB).lineSep false).join

/-- the text after `InsertTableOpts`, on cluster tokens -/
def tableText (toks : List (List Int)) (pos : Int) (data : List (List (List (List Int))))
    (width : Int) (o : Options (List Int)) : List (List Int) :=
  insertToks toks pos (tableBlock data width o)

theorem insertTableOpts_B_closed (ed : Editor (List Int)) (pos : Int)
    (data : List (List (List (List Int)))) (width : Int) (o : Options (List Int)) :
    Editor.insertTableOpts cxB ed pos data width o =
      ed.insert cxB pos (tableBlock data width o) := rfl

section table
variable {V : List (List Int)}

theorem insertTableOpts_A_closed (hV : VocabStable V = true)
    (hsp : [0x20] ∈ V) (toks : List (List Int)) (ht : ∀ t ∈ toks, t ∈ V)
    (o0 : Options (List Int)) (pos : Int) (data : List (List (List (List Int))))
    (hdata : ∀ row ∈ data, ∀ cell ∈ row, ∀ t ∈ cell, t ∈ V) (width : Int)
    (o : Options (List Int)) (hL : ∀ t ∈ (o.withDefaults cxB).lineSep, t ≠ [])
    (hc : ∀ t ∈ o.charset, t ∈ V) (hcd : ∀ t ∈ (o.withDefaults cxB).charset, t ∈ V)
    (hup : o.headers = true → ∀ t ∈ V, t.map upperRune ∈ V) :
    Editor.insertTableOpts cxA (.root toks.flatten o0.flat) pos (data.map (List.map List.flatten))
        width o.flat =
      .ok (.root (tableText toks pos data width o).flatten o0.flat) := by
  rw [insertTableOpts_bridge hV hsp toks ht o0 pos data hdata width o hL hc hcd hup,
    insertTableOpts_B_closed]
  exact insert_root_flat hV toks ht o0 pos _

theorem tableText_over (hsp : [0x20] ∈ V) {toks : List (List Int)} (ht : ∀ t ∈ toks, t ∈ V)
    (pos : Int) (data : List (List (List (List Int))))
    (hdata : ∀ row ∈ data, ∀ cell ∈ row, ∀ t ∈ cell, t ∈ V) (width : Int)
    (o : Options (List Int)) (hSV : ∀ s ∈ (o.withDefaults cxB).lineSep, s ∈ V)
    (hcd : ∀ t ∈ (o.withDefaults cxB).charset, t ∈ V)
    (hup : o.headers = true → ∀ t ∈ V, t.map upperRune ∈ V) :
    ∀ t ∈ tableText toks pos data width o, t ∈ V :=
  -- `tableBlock` is `blockText` of the lines of `makeTable`
  insertToks_over ht (blockText_sim (homId hsp) ⟨rfl, hSV⟩ _ ⟨(List.map_id _).symm,
    tableLines_B_over hsp data hdata width o hcd hup⟩).2 pos

variable {g : List Int → List Int}

/-- **`manip.MakeTable` on clusters commutes with the substitution**: the character set is fixed by
`g`, and with a header row `g` commutes with upper-casing on the vocabulary -/
theorem makeTable_B_map (hmap : Spec.TokMap tkB tkB g) (hsp : [0x20] ∈ V)
    {data : List (List (List (List Int)))}
    (hdata : ∀ row ∈ data, ∀ cell ∈ row, ∀ t ∈ cell, t ∈ V) (width : Int) (header border : Bool)
    (hup : header = true → ∀ t ∈ V, t.map upperRune ∈ V)
    (hupg : header = true → ∀ t ∈ V, g (t.map upperRune) = (g t).map upperRune)
    {cs : List (List Int)} (hcs : ∀ t ∈ cs, t ∈ V) (hfix : ∀ t ∈ cs, g t = t)
    (h3 : 3 ≤ cs.length) :
    makeTable cxB (data.map (List.map (List.map g))) width header border cs =
      (makeTable cxB data width header border cs).map (List.map g) := by
  have h := (makeTable_sim (homMap hmap hsp) hdata width header border
    (fun hh cell hc => ⟨by
        rw [List.map_map, List.map_map]
        exact List.map_congr_left fun t ht => (hupg hh t (hc t ht)).symm,
      map_upper_over (hup hh) hc⟩) hcs
    (Nat.le_trans h3 (Nat.le_of_eq (gLen_triv cxB cxB_triv cs).symm))).1
  rwa [map_fixed hfix] at h

theorem tableText_map (hmap : Spec.TokMap tkB tkB g) (hsp : [0x20] ∈ V) (o : Options (List Int))
    (hSV : ∀ s ∈ (o.withDefaults cxB).lineSep, s ∈ V)
    (hfix : ∀ s ∈ (o.withDefaults cxB).lineSep, g s = s)
    (hcd : ∀ t ∈ (o.withDefaults cxB).charset, t ∈ V)
    (hfixC : ∀ t ∈ (o.withDefaults cxB).charset, g t = t)
    {toks : List (List Int)} {data : List (List (List (List Int)))}
    (hdata : ∀ row ∈ data, ∀ cell ∈ row, ∀ t ∈ cell, t ∈ V)
    (hup : o.headers = true → ∀ t ∈ V, t.map upperRune ∈ V)
    (hupg : o.headers = true → ∀ t ∈ V, g (t.map upperRune) = (g t).map upperRune)
    (pos width : Int) :
    tableText (toks.map g) pos (data.map (List.map (List.map g))) width o =
      (tableText toks pos data width o).map g := by
  have hover := tableLines_B_over hsp data hdata width o hcd hup
  rw [← Options.headers_withDefaults cxB o] at hup hupg
  unfold tableText
  rw [← insertToks_map]
  exact congrArg (insertToks _ pos) (blockText_sim (homMap hmap hsp) ⟨(map_fixed hfix).symm, hSV⟩ _
    ⟨makeTable_B_map hmap hsp hdata width _ _ hup hupg hcd hfixC
      (Nat.le_of_eq (charset_B_length o).symm), hover⟩).1

end table

end BridgeNatural2

/-! Concrete vocabularies and substitutions: `BridgeOps.demoVocab3`
(`a b ␠ - é(decomposed: e + U+0301) 🇩🇪 TAB LF`) into `BridgeNatural.demoVocabNFC`
(`a b ␠ - é(precomposed U+00E9) TAB LF`) by `BridgeNatural.demoG` (NOT injective: the flag and `a`
are identified). -/

namespace BridgeNatural2
open BridgeComposite LayoutSim

theorem demoG_hg : ∀ t ∈ BridgeOps.demoVocab3, demoG t ∈ demoVocabNFC := by decide

/-- `Chars`, `Insert`, `Delete`, `Overtype` on the demo vocabularies: EVERY text and inserted text
over `demoVocab3`, every integer position / range, any options on either side -/
example (toks ins : List (List Int)) (ht : ∀ t ∈ toks, t ∈ BridgeOps.demoVocab3)
    (hi : ∀ t ∈ ins, t ∈ BridgeOps.demoVocab3) (o0 o0' : Options Int) (s e p : Int) :
    (∃ (sel : List (List Int)) (a b : Nat),
      Editor.chars cxA (.root toks.flatten o0) s e =
        .ok (.sub sel.flatten o0 (.root toks.flatten o0)
          (byteLen cxA (toks.take a).flatten) (byteLen cxA (toks.take b).flatten)) ∧
      Editor.chars cxA (.root (toks.map demoG).flatten o0') s e =
        .ok (.sub (sel.map demoG).flatten o0' (.root (toks.map demoG).flatten o0')
          (byteLen cxA ((toks.map demoG).take a).flatten)
          (byteLen cxA ((toks.map demoG).take b).flatten)) ∧
      sel = (toks.drop a).take (b - a)) ∧
    (∃ r : List (List Int),
      Editor.insert cxA (.root toks.flatten o0) p ins.flatten = .ok (.root r.flatten o0) ∧
      Editor.insert cxA (.root (toks.map demoG).flatten o0') p (ins.map demoG).flatten =
        .ok (.root (r.map demoG).flatten o0')) ∧
    (∃ r : List (List Int),
      Editor.delete cxA (.root toks.flatten o0) s e = .ok (.root r.flatten o0) ∧
      Editor.delete cxA (.root (toks.map demoG).flatten o0') s e =
        .ok (.root (r.map demoG).flatten o0')) ∧
    (∃ r : List (List Int),
      Editor.overtype cxA (.root toks.flatten o0) p ins.flatten = .ok (.root r.flatten o0) ∧
      Editor.overtype cxA (.root (toks.map demoG).flatten o0') p (ins.map demoG).flatten =
        .ok (.root (r.map demoG).flatten o0')) := by
  refine ⟨?_, ?_, ?_, ?_⟩
  · obtain ⟨sel, a, b, h1, h2, _, _, _, _, h3, _⟩ := chars_natural_gen BridgeOps.demoVocab3_stable
      demoVocabNFC_stable demoG demoG_hg toks ht (.root _ o0) (.root _ o0') rfl rfl s e
    exact ⟨sel, a, b, h1, h2, h3⟩
  · obtain ⟨r, h1, h2, _⟩ := insert_natural_gen BridgeOps.demoVocab3_stable demoVocabNFC_stable
      demoG demoG_hg toks ht (.root _ o0) (.root _ o0') rfl rfl p ins hi
    exact ⟨r, h1, h2⟩
  · obtain ⟨r, h1, h2, _⟩ := delete_natural_gen BridgeOps.demoVocab3_stable demoVocabNFC_stable
      demoG demoG_hg toks ht (.root _ o0) (.root _ o0') rfl rfl s e
    exact ⟨r, h1, h2⟩
  · obtain ⟨r, h1, h2, _⟩ := overtype_natural_gen BridgeOps.demoVocab3_stable demoVocabNFC_stable
      demoG demoG_hg toks ht (.root _ o0) (.root _ o0') rfl rfl p ins hi
    exact ⟨r, h1, h2⟩

/-- fully evaluated: in "a é b" (decomposed, 6 code points) and its image (precomposed, 5 code
points) `Chars(2, 3)` selects `é`, at bytes [2, 5) resp. [2, 4); `Delete(-3, End)` leaves "a " -/
example :
    Editor.chars cxA (.root ([[0x61], [0x20], [0x65, 0x301], [0x20], [0x62]] :
      List (List Int)).flatten {}) 2 3 =
        .ok (.sub [0x65, 0x301] {} (.root [0x61, 0x20, 0x65, 0x301, 0x20, 0x62] {}) 2 5) ∧
    Editor.chars cxA (.root (([[0x61], [0x20], [0x65, 0x301], [0x20], [0x62]] :
      List (List Int)).map demoG).flatten {}) 2 3 =
        .ok (.sub [0xE9] {} (.root [0x61, 0x20, 0xE9, 0x20, 0x62] {}) 2 4) ∧
    (Editor.delete cxA (.root ([[0x61], [0x20], [0x65, 0x301], [0x20], [0x62]] :
      List (List Int)).flatten {}) (-3) Gen.endSentinel).map Editor.text = .ok [0x61, 0x20] ∧
    (Editor.delete cxA (.root (([[0x61], [0x20], [0x65, 0x301], [0x20], [0x62]] :
      List (List Int)).map demoG).flatten {}) (-3) Gen.endSentinel).map Editor.text =
        .ok [0x61, 0x20] := by
  refine ⟨?_, ?_, of_okEq (by decide +kernel), of_okEq (by decide +kernel)⟩
  · have h := chars_A_closed BridgeOps.demoVocab3_stable
      (.root ([[0x61], [0x20], [0x65, 0x301], [0x20], [0x62]] : List (List Int)).flatten {})
      [[0x61], [0x20], [0x65, 0x301], [0x20], [0x62]] rfl (by decide) 2 3
    rw [h]
    simp only [Except.ok.injEq, Editor.sub.injEq, Editor.root.injEq]
    decide +kernel
  · have h := chars_A_closed demoVocabNFC_stable
      (.root (([[0x61], [0x20], [0x65, 0x301], [0x20], [0x62]] : List (List Int)).map
        demoG).flatten {})
      (([[0x61], [0x20], [0x65, 0x301], [0x20], [0x62]] : List (List Int)).map demoG) rfl
      (by decide) 2 3
    rw [h]
    simp only [Except.ok.injEq, Editor.sub.injEq, Editor.root.injEq]
    decide +kernel

theorem default_indentStr_B :
    (({} : Options (List Int)).withDefaults cxB).indentStr = [[0x09]] := by
  rw [Options.indentStr_withDefaults]
  exact dIndent_B

theorem default_paraSep_B :
    (({} : Options (List Int)).withDefaults cxB).paraSep = [[0x0A], [0x0A]] := by
  rw [Options.paraSep_withDefaults]
  exact dParaSep_B

/-- the target vocabulary for the table: `é` / `É` precomposed, closed under upper-casing, with the
table characters `+ |` -/
def demoVocabNFC4 : List (List Int) :=
  [[0x61], [0x62], [0x20], [0x2D], [0xE9], [0x1F1E9, 0x1F1EA], [0x9], [0x0A], [0x41], [0x42],
    [0xC9], [0x2B], [0x7C]]

theorem demoVocabNFC4_stable : VocabStable demoVocabNFC4 = true :=
  VocabStable.mono demoWords_stable (by decide)

theorem demoVocabNFC4_upper : ∀ t ∈ demoVocabNFC4, t.map upperRune ∈ demoVocabNFC4 := by
  decide +kernel

/-- decomposed `é` / `É` ↦ precomposed, everything else fixed: commutes with upper-casing -/
def demoG4 (t : List Int) : List Int :=
  if t = [0x65, 0x301] then [0xE9] else if t = [0x45, 0x301] then [0xC9] else t

theorem demoG4_ws : ∀ t, cxB.isSpace (demoG4 t) = cxB.isSpace t := by
  intro t
  unfold demoG4
  split
  · rename_i h; subst h; decide
  · split
    · rename_i h; subst h; decide
    · rfl

theorem demoG4_hg : ∀ t ∈ demoVocab4, demoG4 t ∈ demoVocabNFC4 := by decide

theorem demoG4_upper : ∀ t ∈ demoVocab4, demoG4 (t.map upperRune) = (demoG4 t).map upperRune := by
  decide +kernel

end BridgeNatural2

/-! Paragraph mode (`preservePara = true`): `applyGParagraphsOpts` splits the text at the paragraph
separator `P`, possibly moves a line separator `L` from the start of a paragraph to the end of the
previous one, and hands every paragraph (with what is left of `P` around it, `pre` / `suf`) to a
callback.  `g` has to fix the tokens of BOTH separators and must not send another token of `V` onto
one of them.

The loop and the callbacks are walked in `LayoutSim` along a homomorphism of texts; here it is
`List.map g` at `cxB` (`homMap`, `sepHomMap`). -/

namespace BridgeNatural2
open BridgeComposite BridgeEditorParas LayoutSim

section paraLoop
variable {V : List (List Int)} {g : List Int → List Int}

theorem paraCallsOf_map (od : Options (List Int)) (hL : SepFix V g od.lineSep)
    (hP : SepFix V g od.paraSep) (hLV : ∀ t ∈ od.lineSep, t ∈ V) (hPV : ∀ t ∈ od.paraSep, t ∈ V)
    {toks : List (List Int)} (ht : ∀ t ∈ toks, t ∈ V) :
    paraCallsOf (toks.map g) od = (paraCallsOf toks od).map (mapCall (List.map g)) :=
  (paraCallsOf_sim rfl (fun _ _ => List.map_append) (sepHomMap hL hLV)
    (sepHomMap hP hPV) hL.map_eq.symm hP.map_eq.symm rfl
    (fun b hb => isPrefixOf_map g od.lineSep b (hL.sepInj hb)) ht).1

/-- two runs on cluster tokens, on a root editor with options `o0` and on its substituted text:
both only replace the text, and the second result is the substitution of the first -/
def NatB (g : List Int → List Int) (o0 : Options (List Int)) (y y' : R (Editor (List Int))) :
    Prop :=
  ∃ x : R (List (List Int)), y = x.map (fun r => .root r o0) ∧
    y' = x.map (fun r => .root (r.map g) o0)

theorem NatB.unchanged (toks : List (List Int)) (o0 : Options (List Int)) :
    NatB g o0 (.ok (.root toks o0)) (.ok (.root (toks.map g) o0)) := ⟨.ok toks, rfl, rfl⟩

/-- `applyParasM` on cluster tokens commutes with the substitution when the callback does (on
paragraphs, prefixes and suffixes over `V`) -/
theorem applyParasM_natB (toks : List (List Int)) (ht : ∀ t ∈ toks, t ∈ V)
    (o0 o : Options (List Int))
    (hL : SepFix V g (o.withDefaults cxB).lineSep) (hP : SepFix V g (o.withDefaults cxB).paraSep)
    (hLV : ∀ t ∈ (o.withDefaults cxB).lineSep, t ∈ V)
    (hPV : ∀ t ∈ (o.withDefaults cxB).paraSep, t ∈ V)
    (op : Nat → List (List Int) → List (List Int) → List (List Int) →
      R (List (List (List Int))))
    (hop : ∀ (i : Nat) (para pre suf : List (List Int)), (∀ t ∈ para, t ∈ V) →
      (∀ t ∈ pre, t ∈ V) → (∀ t ∈ suf, t ∈ V) →
      op i (para.map g) (pre.map g) (suf.map g) =
        (op i para pre suf).map (List.map (List.map g))) :
    NatB g o0 (Editor.applyParasM cxB (.root toks o0) op o)
      (Editor.applyParasM cxB (.root (toks.map g) o0) op o) := by
  have e1 : (Editor.root (toks.map g) o0).text = toks.map g := rfl
  have e2 : (Editor.root toks o0).text = toks := rfl
  rw [applyParasM_eq_mapM, applyParasM_eq_mapM, e1, e2,
    paraCallsOf_map (o.withDefaults cxB) hL hP hLV hPV ht,
    mapM_map_bridge' (mapCall (List.map g)) (fun c => op c.1 c.2.1 c.2.2.1 c.2.2.2)
      (fun c => op c.1 c.2.1 c.2.2.1 c.2.2.2) (List.map (List.map g)) _
      (fun c hc => by
        obtain ⟨h1, h2, h3⟩ := paraCallsOf_over toks ht o hLV hPV c hc
        exact hop c.1 c.2.1 c.2.2.1 c.2.2.2 h1 h2 h3)]
  cases (paraCallsOf toks (o.withDefaults cxB)).mapM
    (fun c => op c.1 c.2.1 c.2.2.1 c.2.2.2) with
  | error e => exact ⟨.error e, rfl, rfl⟩
  | ok outs =>
    refine ⟨.ok (joinWith (o.withDefaults cxB).paraSep outs.flatten), rfl, ?_⟩
    show Except.ok (Editor.root (joinWith _ (outs.map (List.map (List.map g))).flatten) o0) =
      Except.ok (Editor.root ((joinWith _ outs.flatten).map g) o0)
    rw [joinWith_map, hP.map_eq, List.map_flatten]

end paraLoop

/-- the step from "bridge on both sides + naturality on cluster tokens + totality on code
points" to the statement on code points -/
theorem natural_of_bridge {a a' : R (Editor Int)} {b b' : R (Editor (List Int))}
    {o0 : Options (List Int)} {g : List Int → List Int}
    (hb1 : a = b.map Editor.flat) (hb2 : a' = b'.map Editor.flat) (hn : NatB g o0 b b')
    (htot : ∃ e, a = .ok e) :
    ∃ r : List (List Int), a = .ok (.root r.flatten o0.flat) ∧
      a' = .ok (.root (r.map g).flatten o0.flat) ∧ b = .ok (.root r o0) := by
  obtain ⟨x, h1, h2⟩ := hn
  obtain ⟨e, he⟩ := htot
  cases x with
  | error err => rw [hb1, h1] at he; cases he
  | ok r => exact ⟨r, by rw [hb1, h1]; rfl, by rw [hb2, h2]; rfl, h1⟩

section indentPara
variable {V : List (List Int)} {g : List Int → List Int}

theorem indentOpts_B_para (ed : Editor (List Int)) (level : Int) (o : Options (List Int))
    (hpp : o.preservePara = true) :
    Editor.indentOpts cxB ed level o =
      if level < 1 then pure ed
      else ed.applyParasM cxB (fun _ para _ _ => pure [indentText (.root para o) level o]) o := by
  rw [indentOpts_para_structure cxB ed level o hpp]
  split
  · rfl
  · rename_i hlev
    unfold repeatStr indentText
    rw [if_neg (by omega)]
    simp only [if_neg hlev]
    rfl

theorem indentOpts_natB (toks : List (List Int)) (ht : ∀ t ∈ toks, t ∈ V)
    (o0 o : Options (List Int)) (hpp : o.preservePara = true)
    (hL : SepFix V g (o.withDefaults cxB).lineSep) (hP : SepFix V g (o.withDefaults cxB).paraSep)
    (hLV : ∀ t ∈ (o.withDefaults cxB).lineSep, t ∈ V)
    (hPV : ∀ t ∈ (o.withDefaults cxB).paraSep, t ∈ V)
    (hfixI : ∀ s ∈ (o.withDefaults cxB).indentStr, g s = s) (level : Int) :
    NatB g o0 (Editor.indentOpts cxB (.root toks o0) level o)
      (Editor.indentOpts cxB (.root (toks.map g) o0) level o) := by
  rw [indentOpts_B_para _ level o hpp, indentOpts_B_para _ level o hpp]
  split
  · exact NatB.unchanged toks o0
  · refine applyParasM_natB toks ht o0 o hL hP hLV hPV _ ?_
    intro i para pre suf hpara _ _
    show Except.ok [indentText (.root (para.map g) o) level o] =
      Except.ok [(indentText (.root para o) level o).map g]
    rw [indentText_map o o hL hfixI hpara]

end indentPara

/-! `WrapOpts` and `JustifyOpts` in paragraph mode pad every paragraph with the placeholder letter
`A` (U+0041) in place of the remains of the paragraph separator, lay it out, and cut the
placeholders out again.  The naturality proofs below treat the placeholders like text, so `g` has
to fix the cluster `A`. -/

section wrapPara
variable {V : List (List Int)} {g : List Int → List Int}

theorem wrapParaCb_B_map (hmap : Spec.TokMap tkB tkB g) (hgA : g [0x41] = [0x41])
    (hsp : [0x20] ∈ V) (hhy : [0x2D] ∈ V) (hA : [0x41] ∈ V) {S : List (List Int)}
    (h : SepFix V g S) (hSV : ∀ t ∈ S, t ∈ V) (width : Int) (i : Nat)
    {para pre suf : List (List Int)} (hpara : ∀ t ∈ para, t ∈ V) (hpre : ∀ t ∈ pre, t ∈ V)
    (hsuf : ∀ t ∈ suf, t ∈ V) :
    wrapParaCb cxB width S i (para.map g) (pre.map g) (suf.map g) =
      (wrapParaCb cxB width S i para pre suf).map (List.map (List.map g)) := by
  have := wrapParaCb_sim (homMap hmap hsp) hSV (TR.single (congrArg (fun x => [x]) hgA) hA)
    (fun b hb => by rw [h.map_eq]; exact h.isSuffixOf hb)
    (fun b hb w => RRel.of_eq_map
      (by rw [h.map_eq, wrapLines_triv cxB cxB_triv cxB_sp_space,
        wrapLines_triv cxB cxB_triv cxB_sp_space, h.replaceAll' hmap.sp hb,
        Spec.wrapLines_map hmap]; rfl)
      (wrapLines_B_over hsp hhy b hb w _)) width i hpara hpre hsuf
  rwa [h.map_eq] at this

theorem wrapOpts_natB (hmap : Spec.TokMap tkB tkB g) (hgA : g [0x41] = [0x41])
    (hsp : [0x20] ∈ V) (hhy : [0x2D] ∈ V) (hA : [0x41] ∈ V) (toks : List (List Int))
    (ht : ∀ t ∈ toks, t ∈ V) (o0 o : Options (List Int)) (hpp : o.preservePara = true)
    (hL : SepFix V g (o.withDefaults cxB).lineSep) (hP : SepFix V g (o.withDefaults cxB).paraSep)
    (hLV : ∀ t ∈ (o.withDefaults cxB).lineSep, t ∈ V)
    (hPV : ∀ t ∈ (o.withDefaults cxB).paraSep, t ∈ V) (width : Int)
    (hAL : (0x41 : Int) ∉ ((o.withDefaults cxB).lineSep).flatten) :
    NatB g o0 (Editor.wrapOpts cxB (.root toks o0) width o)
      (Editor.wrapOpts cxB (.root (toks.map g) o0) width o) := by
  rw [wrapOpts_para cxB _ width o hpp (phA_not_mem_B hAL),
    wrapOpts_para cxB _ width o hpp (phA_not_mem_B hAL)]
  exact applyParasM_natB toks ht o0 o hL hP hLV hPV _ fun i _ _ _ hpara hpre hsuf =>
    wrapParaCb_B_map hmap hgA hsp hhy hA hL hLV _ i hpara hpre hsuf

end wrapPara

section justifyPara
variable {V : List (List Int)} {g : List Int → List Int}

theorem justifyParaCb_B_map (hmap : Spec.TokMap tkB tkB g) (hgA : g [0x41] = [0x41])
    (hsp : [0x20] ∈ V) (hA : [0x41] ∈ V) {S : List (List Int)} (h : SepFix V g S)
    (hSV : ∀ t ∈ S, t ∈ V) (width : Int) (jl : Bool) (i : Nat) {para pre suf : List (List Int)}
    (hpara : ∀ t ∈ para, t ∈ V) (hpre : ∀ t ∈ pre, t ∈ V) (hsuf : ∀ t ∈ suf, t ∈ V) :
    justifyParaCb cxB width S jl i (para.map g) (pre.map g) (suf.map g) =
      (justifyParaCb cxB width S jl i para pre suf).map (List.map (List.map g)) := by
  have := justifyParaCb_sim (homMap hmap hsp) (sepHomMap h hSV)
    (TR.single (congrArg (fun x => [x]) hgA) hA)
    (fun b hb w => by
      rw [(justified_B_post _ w).1, (justified_B_post b w).1]
      exact ⟨justified_B_map hmap b w, justified_B_over hsp w hb⟩)
    width jl i hpara hpre hsuf
  rwa [h.map_eq] at this

theorem justifyOpts_natB (hmap : Spec.TokMap tkB tkB g) (hgA : g [0x41] = [0x41])
    (hsp : [0x20] ∈ V) (hA : [0x41] ∈ V) (toks : List (List Int)) (ht : ∀ t ∈ toks, t ∈ V)
    (o0 o : Options (List Int)) (hpp : o.preservePara = true)
    (hL : SepFix V g (o.withDefaults cxB).lineSep) (hP : SepFix V g (o.withDefaults cxB).paraSep)
    (hLV : ∀ t ∈ (o.withDefaults cxB).lineSep, t ∈ V)
    (hPV : ∀ t ∈ (o.withDefaults cxB).paraSep, t ∈ V) (width : Int)
    (hAL : (0x41 : Int) ∉ ((o.withDefaults cxB).lineSep).flatten) :
    NatB g o0 (Editor.justifyOpts cxB (.root toks o0) width o)
      (Editor.justifyOpts cxB (.root (toks.map g) o0) width o) := by
  rw [justifyOpts_para cxB _ width o hpp (phA_not_mem_B hAL),
    justifyOpts_para cxB _ width o hpp (phA_not_mem_B hAL)]
  exact applyParasM_natB toks ht o0 o hL hP hLV hPV _ fun i _ _ _ hpara hpre hsuf =>
    justifyParaCb_B_map hmap hgA hsp hA hL hLV _ _ i hpara hpre hsuf

end justifyPara

section alignPara
variable {V : List (List Int)} {g : List Int → List Int} {S : List (List Int)}

theorem alignParaCb_B_map (hmap : Spec.TokMap tkB tkB g) (hsp : [0x20] ∈ V)
    (h : SepFix V g S) (hSV : ∀ t ∈ S, t ∈ V) (align width : Int) (i : Nat)
    {para pre suf : List (List Int)} (hpara : ∀ t ∈ para, t ∈ V) (hpre : ∀ t ∈ pre, t ∈ V)
    (hsuf : ∀ t ∈ suf, t ∈ V) :
    alignParaCb cxB align width S i (para.map g) (pre.map g) (suf.map g) =
      (alignParaCb cxB align width S i para pre suf).map (List.map (List.map g)) := by
  have := LayoutSim.alignParaCb_sim (homMap hmap hsp) (sepHomMap h hSV) align width i hpara hpre
    hsuf
  rwa [h.map_eq] at this

theorem alignOpts_natB (hmap : Spec.TokMap tkB tkB g) (hsp : [0x20] ∈ V)
    (toks : List (List Int)) (ht : ∀ t ∈ toks, t ∈ V)
    (o0 o : Options (List Int)) (hpp : o.preservePara = true)
    (hL : SepFix V g (o.withDefaults cxB).lineSep) (hP : SepFix V g (o.withDefaults cxB).paraSep)
    (hLV : ∀ t ∈ (o.withDefaults cxB).lineSep, t ∈ V)
    (hPV : ∀ t ∈ (o.withDefaults cxB).paraSep, t ∈ V) (align width : Int) :
    NatB g o0 (Editor.alignOpts cxB (.root toks o0) align width o)
      (Editor.alignOpts cxB (.root (toks.map g) o0) align width o) := by
  by_cases hal : align = Gen.alignLeft ∨ align = Gen.alignRight ∨ align = Gen.alignCenter
  · rw [BridgeEditorParas.alignOpts_para cxB _ align width o hal hpp,
      BridgeEditorParas.alignOpts_para cxB _ align width o hal hpp]
    exact applyParasM_natB toks ht o0 o hL hP hLV hPV _
      (fun i _ _ _ hpara hpre hsuf => alignParaCb_B_map hmap hsp hL hLV align width i hpara hpre hsuf)
  · rw [alignOpts_other cxB _ align width o hal, alignOpts_other cxB _ align width o hal]
    exact NatB.unchanged toks o0

end alignPara

/-- `BridgeNatural.demoVocabNFC` plus the placeholder letter "A" -/
def demoVocabNFCA : List (List Int) := demoVocabNFC ++ [[0x41]]

theorem demoVocabNFCA_stable : VocabStable demoVocabNFCA = true :=
  VocabStable.mono demoWords_stable (by decide)

theorem demoVocabNFCA_marker_nl : Marker demoVocabNFCA [0x0A] :=
  ⟨0x0A, [], rfl, List.not_mem_nil, by decide⟩

theorem demoVocabNFCA_goodPara : GoodPara demoVocabNFCA [[0x0A]] [[0x0A], [0x0A]] :=
  goodPara_nl demoVocabNFCA_stable demoVocabNFCA_marker_nl (by decide)

/-- what the paragraph-mode statements ask of the two separators, for `demoVocabA`,
`demoVocabNFCA`, `demoG` and the separators U+000A and U+000A U+000A -/
theorem demoA_seps {L P : List (List Int)} (hL : L = [[0x0A]]) (hP : P = [[0x0A], [0x0A]]) :
    GoodPara demoVocabA L P ∧ GoodPara demoVocabNFCA L P ∧
      (∀ s ∈ L, demoG s = s) ∧ (∀ t ∈ demoVocabA, demoG t ∈ L → t ∈ L) ∧
      (∀ s ∈ P, demoG s = s) ∧ ∀ t ∈ demoVocabA, demoG t ∈ P → t ∈ P := by
  subst hL hP
  exact ⟨demoVocabA_goodPara, demoVocabNFCA_goodPara, by decide, by decide, by decide, by decide⟩

end BridgeNatural2

end RosedVerif
