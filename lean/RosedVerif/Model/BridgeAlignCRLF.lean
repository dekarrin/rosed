/-
The A→B bridge for JustifyLine: on a stable vocabulary `V` containing the space token and with
`hspTail` (no U+0020 hidden in a non-head position of a cluster, as for CollapseSpace) JustifyLine
on code points is the flattening of JustifyLine on cluster tokens.

JustifyLine is a newline pre-pass (`strings.ReplaceAll(text, "\n", " ")`), CollapseSpace, and a
core that splits at spaces and distributes padding.  Only the pre-pass looks inside clusters: UAX
#29 (GB3–GB5) leaves exactly one cluster other than LF itself that contains U+000A, namely CR LF.
On code points the pre-pass turns it into CR SPACE — two clusters, both whitespace — which the
cluster loop of CollapseSpace and the regexp `" +"` then merge into one space; on cluster tokens
CR LF is one whitespace token that becomes one space.  The collapsed texts agree, so no hypothesis
about U+000A is needed (`justifyLine_bridge_general`); the statements with such a hypothesis are
instances.

Ingredients for the pre-pass: (1) a self-contained class string containing LF is `[LF]` or
`[CR, LF]` (`selfContained_lf`), lifted to code points with the class tables (`vocab_nl`);
(2) a lone CR is a cluster and there is a boundary before every CR (`breakJunction_cr`);
(3) token lists that contain, besides vocabulary tokens, lone CRs followed by a space are stable
and stay so under the cluster loop (predicate `Ok`);
(4) `Spec.collapse` is insensitive to replacing whitespace tokens by non-empty lists of
whitespace tokens (`collapse_flatMap_ws`).
-/
import RosedVerif.Model.BridgeAlign
import RosedVerif.Model.BridgeStrings
import RosedVerif.Gem.TableProofs
namespace RosedVerif

namespace BridgeAlign
open BridgeWrap BridgeOps

theorem interleave_bridge : ∀ (words : List (List (List Int))) (extra : List Nat),
    interleave cxA (words.map List.flatten) extra = (interleave cxB words extra).flatten
  | [], _ => rfl
  | [w], _ => by simp only [List.map_cons, List.map_nil, interleave]
  | w :: w' :: ws, extra => by
    rw [List.map_cons, List.map_cons, interleave_cons_cons, interleave_cons_cons,
      ← List.map_cons, interleave_bridge (w' :: ws), List.flatten_append, List.flatten_append]
    exact congrArg (_ ++ · ++ _) (replicate_singleton_flatten (0x20 : Int) _).symm

theorem interleave_mem {α : Type} (cx : Ctx α) : ∀ (words : List (List α)) (extra : List Nat),
    ∀ c ∈ interleave cx words extra, c = cx.sp ∨ ∃ w ∈ words, c ∈ w
  | [], _, c, h => by cases h
  | [w], _, c, h => by
    simp only [interleave] at h
    exact Or.inr ⟨w, List.mem_cons_self, h⟩
  | w :: w' :: ws, extra, c, h => by
    rw [interleave_cons_cons, List.mem_append, List.mem_append] at h
    rcases h with (h | h) | h
    · exact Or.inr ⟨w, List.mem_cons_self, h⟩
    · exact Or.inl (List.eq_of_mem_replicate h)
    · exact (interleave_mem cx (w' :: ws) _ c h).imp_right
        fun ⟨v, hv, h⟩ => ⟨v, List.mem_cons_of_mem _ hv, h⟩

theorem justifyCore_bridge (ct : List (List Int)) (hst : StableRunes ct) (hok : ∀ t ∈ ct, SpOK t)
    (w : Int) : justifyCore cxA ct.flatten w = (justifyCore cxB ct w).map List.flatten := by
  unfold justifyCore
  dsimp only
  rw [gLen_flatten_stable ct hst, gLen_triv cxB cxB_triv,
    show splitOn ct.flatten [cxA.sp] = (splitOn ct [cxB.sp]).map List.flatten from
      splitOn_bridge_tokOK 0x20 [] ct hok, List.length_map]
  split
  · rfl
  · split
    · rfl
    · generalize distribute _ _ _ _ _ _ = d
      cases d with
      | error e => rfl
      | ok extra => exact congrArg Except.ok (interleave_bridge _ extra)

/-- JustifyLine bridge, given the bridge for its CollapseSpace pre-pass (hypothesis `hA`) -/
theorem justifyLine_bridge_of_collapse {V : List (List Int)} (hV : VocabStable V = true)
    (hsp : [0x20] ∈ V) (hspTail : ∀ t ∈ V, (0x20 : Int) ∉ t.tail)
    (toks : List (List Int)) (ht : ∀ t ∈ toks, t ∈ V) (w : Int)
    (hA : collapseSpace cxA (replaceAll toks.flatten [cxA.nl] [cxA.sp]) [] =
      .ok (Spec.collapse ⟨cxB.isSpace, cxB.sp, cxB.hy⟩
        (replaceAll toks [cxB.nl] [cxB.sp])).flatten) :
    ∃ r, justifyLine cxB toks w = .ok r ∧ justifyLine cxA toks.flatten w = .ok r.flatten ∧
      ∀ t ∈ r, t ∈ V := by
  have ht' := replaceAll_over hsp toks ht [cxB.nl]
  obtain ⟨ct, c1, _, c3, c4, c5⟩ :=
    collapseSpace_bridge_full hV hsp hspTail (replaceAll toks [cxB.nl] [cxB.sp]) ht'
  rw [← c3] at hA
  have hst := stableRunes_of_vocab V hV ct c4
  obtain ⟨r, hr, hshape⟩ : ∃ r, justifyCore cxB ct w = .ok r ∧
      (r = ct ∨ ∃ extra, r = interleave cxB (splitOn ct [cxB.sp]) extra) := by
    obtain ⟨r, hr, h1, h2⟩ := justifyCore_triv cxB cxB_triv ct w
    refine ⟨r, hr, ?_⟩
    by_cases hc : ((ct.length : Int) ≥ w ∨ cxB.sp ∉ ct)
    · exact Or.inl (h1 hc)
    · obtain ⟨_, _, extra, he, _⟩ := h2 hc
      exact Or.inr ⟨extra, he⟩
  refine ⟨r, ?_, ?_, ?_⟩
  · rw [justifyLine_eq_core, c1]
    exact hr
  · rw [justifyLine_eq_core, hA]
    show justifyCore cxA ct.flatten w = _
    rw [justifyCore_bridge ct hst c5 w, hr]
    rfl
  · rcases hshape with rfl | ⟨extra, rfl⟩
    · exact c4
    · intro t h
      rcases interleave_mem cxB _ _ t h with h | ⟨v, hv, h⟩
      · rw [h]; exact hsp
      · exact c4 t (splitOn_mem ct _ v hv t h)

end BridgeAlign

namespace BridgeAlignCRLF
open BridgeWrap BridgeAlign

section dfa
open Cls

theorem brkDfa_cr (q : St) : brkDfa q cr = true := by
  obtain ⟨last, a, b, c⟩ := q
  cases last with
  | none => rfl
  | some r => cases r <;> rfl

theorem brkDfa_after_lf (q : St) (h : q.last = some lf) (nx : Cls) : brkDfa q nx = true := by
  obtain ⟨last, a, b, c⟩ := q
  simp only at h
  subst h
  rfl

theorem brkDfa_lf_of_ne_cr (q : St) (x : Cls) (h : q.last = some x) (hx : x ≠ cr) :
    brkDfa q lf = true := by
  obtain ⟨last, a, b, c⟩ := q
  simp only at h
  subst h
  cases x <;> first | rfl | exact absurd rfl hx

theorem run_concat (q : St) (l : List Cls) (x : Cls) : run q (l ++ [x]) = δ (run q l) x := by
  rw [run_append]; rfl

theorem eq_nil_or_snoc {β : Type} (l : List β) : l = [] ∨ ∃ L b, l = L ++ [b] := by
  rcases List.eq_nil_or_concat l with h | ⟨L, b, h⟩
  · exact Or.inl h
  · exact Or.inr ⟨L, b, by rw [h, List.concat_eq_append]⟩

/-- inside a single cluster there is no position where the automaton breaks -/
theorem sc_no_break {pre post : List Cls} {x nx : Cls}
    (h : SelfContained (pre ++ x :: nx :: post)) : brkDfa (δ (run St.init pre) x) nx = false := by
  cases hb : brkDfa (δ (run St.init pre) x) nx with
  | false => rfl
  | true =>
    have hm := (mem_splitQ_append_iff St.init 0 none (pre ++ [x]) (nx :: post) (by simp)).2
      (by rw [run_concat]; exact hb)
    rw [List.append_assoc, List.singleton_append, ← split_eq_splitQ, h.2, List.mem_singleton] at hm
    simp only [List.length_append, List.length_cons, List.length_nil] at hm
    omega

/-- **GB3–GB5**: a single cluster containing LF is LF or CR LF -/
theorem selfContained_lf (c : List Cls) (h : SelfContained c) (hm : lf ∈ c) :
    c = [lf] ∨ c = [cr, lf] := by
  obtain ⟨pre, post, rfl⟩ := List.append_of_mem hm
  cases post with
  | cons nx post' =>
    -- nothing follows LF
    exact absurd ((sc_no_break h).symm.trans (brkDfa_after_lf _ rfl nx)) Bool.false_ne_true
  | nil =>
    rcases eq_nil_or_snoc pre with rfl | ⟨pre', x, rfl⟩
    · exact Or.inl rfl
    · rw [List.append_assoc] at h
      -- the element before LF is CR
      have hx : x = cr := Decidable.byContradiction fun hx =>
        absurd ((sc_no_break h).symm.trans (brkDfa_lf_of_ne_cr _ x rfl hx)) Bool.false_ne_true
      subst hx
      rcases eq_nil_or_snoc pre' with rfl | ⟨pre'', y, rfl⟩
      · exact Or.inr rfl
      · -- nothing precedes CR
        rw [List.append_assoc] at h
        exact absurd ((sc_no_break h).symm.trans (brkDfa_cr _)) Bool.false_ne_true

/-- a lone CR is a cluster -/
theorem selfContained_cr : SelfContained [cr] := by decide

/-- **GB5**: there is a boundary before every CR -/
theorem breakJunction_cr {c : List Cls} (h : SelfContained c) : BreakJunction c [cr] := by
  have hb : brkD (run St.init c) (look [cr] none) = true := brkDfa_cr _
  unfold BreakJunction
  rw [split_eq_splitQ, splitQ_append, h.splitQ_eq 0 _ hb, Nat.zero_add]
  rfl

end dfa

section runes
open Cls

/-- a class whose table is the single code point `n` -/
theorem classOf_eq_single {c : Cls} {n : Nat} (hc : c ≠ .other) (ht : goTable c = [(n, n)])
    (r : Int) : classOf r = c ↔ r = n := by
  rw [← beq_iff_eq, classOf_table c hc r, ht]
  simp only [isCb, inRanges, List.any_cons, List.any_nil, Bool.or_false, Bool.and_eq_true,
    decide_eq_true_eq]
  omega

theorem classOf_eq_lf (r : Int) : classOf r = lf ↔ r = 0x0A := classOf_eq_single (by decide) rfl r

theorem classOf_eq_cr (r : Int) : classOf r = cr ↔ r = 0x0D := classOf_eq_single (by decide) rfl r

end runes

/-- in a stable vocabulary the only tokens containing U+000A are LF and CR LF -/
theorem vocab_nl {V : List (List Int)} (hV : VocabStable V = true) {t : List Int} (ht : t ∈ V)
    (hm : (0x0A : Int) ∈ t) : t = [0x0A] ∨ t = [0x0D, 0x0A] := by
  have hm' : Cls.lf ∈ t.map classOf := List.mem_map.2 ⟨0x0A, hm, (classOf_eq_lf _).2 rfl⟩
  rcases selfContained_lf _ (vocab_sc hV ht) hm' with h | h
  · obtain ⟨a, t', rfl, ha, h⟩ := List.map_eq_cons_iff.1 h
    rw [List.map_eq_nil_iff.1 h, (classOf_eq_lf a).1 ha]
    exact Or.inl rfl
  · obtain ⟨a, t', rfl, ha, h⟩ := List.map_eq_cons_iff.1 h
    obtain ⟨b, t'', rfl, hb, h⟩ := List.map_eq_cons_iff.1 h
    rw [List.map_eq_nil_iff.1 h, (classOf_eq_cr a).1 ha, (classOf_eq_lf b).1 hb]
    exact Or.inr rfl

/-- every token is in the vocabulary, except that a lone CR may appear when it is immediately
followed by the space token -/
def Ok (V : List (List Int)) : List (List Int) → Prop
  | [] => True
  | [t] => t ∈ V
  | t :: u :: rest => (t ∈ V ∨ (t = [0x0D] ∧ u = [0x20])) ∧ Ok V (u :: rest)

theorem ok_head {V : List (List Int)} {t : List Int} {rest : List (List Int)}
    (h : Ok V (t :: rest)) : t ∈ V ∨ t = [0x0D] := by
  cases rest with
  | nil => exact Or.inl h
  | cons u rest => exact h.1.elim Or.inl (fun h => Or.inr h.1)

theorem ok_tail {V : List (List Int)} {t : List Int} {rest : List (List Int)}
    (h : Ok V (t :: rest)) : Ok V rest := by
  cases rest with
  | nil => trivial
  | cons u rest => exact h.2

theorem ok_mem {V : List (List Int)} : ∀ {L : List (List Int)}, Ok V L →
    ∀ t ∈ L, t ∈ V ∨ t = [0x0D]
  | [], _, t, ht => by cases ht
  | x :: rest, h, t, ht => by
    rcases List.mem_cons.1 ht with rfl | ht
    · exact ok_head h
    · exact ok_mem (ok_tail h) t ht

theorem ok_cons {V : List (List Int)} {v : List Int} (hv : v ∈ V) {L : List (List Int)}
    (h : Ok V L) : Ok V (v :: L) := by
  cases L with
  | nil => exact hv
  | cons u rest => exact ⟨Or.inl hv, h⟩

theorem ok_of_over {V : List (List Int)} : ∀ {L : List (List Int)}, (∀ t ∈ L, t ∈ V) → Ok V L
  | [], _ => trivial
  | t :: _, h =>
    ok_cons (h t List.mem_cons_self) (ok_of_over fun x hx => h x (List.mem_cons_of_mem _ hx))

/-- replacing any token by the space token keeps `Ok` -/
theorem ok_set_sp {V : List (List Int)} (hsp : [0x20] ∈ V) :
    ∀ (a : List (List Int)) (c : List Int) (b : List (List Int)),
      Ok V (a ++ c :: b) → Ok V (a ++ [0x20] :: b)
  | [], _, _, h => ok_cons hsp (ok_tail h)
  | [x], c, b, h => by
    have h' : (x ∈ V ∨ (x = [0x0D] ∧ c = [0x20])) ∧ Ok V (c :: b) := h
    refine ⟨?_, ok_set_sp hsp [] c b h'.2⟩
    rcases h'.1 with h1 | h1
    · exact Or.inl h1
    · exact Or.inr ⟨h1.1, rfl⟩
  | x :: y :: a, c, b, h => by
    have h' : (x ∈ V ∨ (x = [0x0D] ∧ y = [0x20])) ∧ Ok V (y :: (a ++ c :: b)) := h
    exact ⟨h'.1, ok_set_sp hsp (y :: a) c b h'.2⟩

theorem ok_spaceMap {V : List (List Int)} (hsp : [0x20] ∈ V) (a : List (List Int)) (c : List Int)
    (b : List (List Int)) (h : Ok V (a ++ c :: b)) :
    Ok V (a ++ WrapRefine.spaceMap cxB c :: b) := by
  unfold WrapRefine.spaceMap
  split
  · exact ok_set_sp hsp a c b h
  · exact h

theorem map_classOf_cr : ([0x0D] : List Int).map classOf = [Cls.cr] := by
  simp only [List.map_cons, List.map_nil, (classOf_eq_cr 0x0D).2 rfl]

theorem breakJunction_cr_sp :
    BreakJunction (([0x0D] : List Int).map classOf) (([0x20] : List Int).map classOf) := by
  decide +kernel

/-- an `Ok` list is a stable sequence of clusters -/
theorem stableRunes_of_ok {V : List (List Int)} (hV : VocabStable V = true) :
    ∀ (L : List (List Int)), Ok V L → StableRunes L := by
  have hsc : ∀ t, (t ∈ V ∨ t = [0x0D]) → SelfContained (t.map classOf) := by
    intro t ht
    rcases ht with ht | ht
    · exact vocab_sc hV ht
    · rw [ht, map_classOf_cr]; exact selfContained_cr
  intro L hL
  unfold StableRunes
  rw [stableSeq_iff_R]
  induction L with
  | nil => trivial
  | cons t rest ih =>
    have iht := ih (ok_tail hL)
    cases rest with
    | nil => exact hsc t (ok_head hL)
    | cons u rest' =>
      refine ⟨hsc t (ok_head hL), ?_, iht⟩
      show BreakJunction (t.map classOf) (u.map classOf)
      have hL' : (t ∈ V ∨ (t = [0x0D] ∧ u = [0x20])) ∧ Ok V (u :: rest') := hL
      by_cases hcr : t = [0x0D] ∧ u = [0x20]
      · rw [hcr.1, hcr.2]; exact breakJunction_cr_sp
      · have htV : t ∈ V := hL'.1.elim id (fun h => absurd h hcr)
        rcases ok_head hL'.2 with hu | hu
        · exact vocab_bj hV htV hu
        · rw [hu, map_classOf_cr]
          exact breakJunction_cr (vocab_sc hV htV)

section collapse
variable {α : Type} (tk : Spec.Toks α)
open Spec

/-- "the list starts with a whitespace token" -/
def headWs : List α → Bool
  | [] => false
  | d :: _ => tk.ws d

/-- a whitespace token in front: only whether the rest starts with whitespace, and the collapse
of the rest, matter -/
theorem collapse_ws_cons (c : α) (X : List α) (hc : tk.ws c = true) :
    collapse tk (c :: X) = if headWs tk X then collapse tk X else tk.sp :: collapse tk X := by
  cases X with
  | nil => simp only [headWs, Bool.false_eq_true, ↓reduceIte, collapse, hc]
  | cons d X' =>
    cases hd : tk.ws d with
    | true => simp only [headWs, hd, ↓reduceIte, collapse_ws_ws tk c d X' hc hd]
    | false =>
      simp only [headWs, hd, Bool.false_eq_true, ↓reduceIte, collapse_ws_nonws tk c d X' hc hd,
        collapse_cons_nonws tk d X' hd]

theorem collapse_ws_append (c : α) (hc : tk.ws c = true) : ∀ (u : List α), u ≠ [] →
    (∀ x ∈ u, tk.ws x = true) → ∀ X, collapse tk (u ++ X) = collapse tk (c :: X)
  | [], h, _, _ => absurd rfl h
  | [a], _, hu, X => by
    rw [List.singleton_append, collapse_ws_cons tk a X (hu a List.mem_cons_self),
      collapse_ws_cons tk c X hc]
  | a :: b :: u, _, hu, X => by
    have ha := hu a List.mem_cons_self
    have hb := hu b (List.mem_cons_of_mem _ List.mem_cons_self)
    rw [List.cons_append, List.cons_append, collapse_ws_ws tk a b _ ha hb, ← List.cons_append,
      collapse_ws_append c hc (b :: u) (by simp)
        (fun x hx => hu x (List.mem_cons_of_mem _ hx)) X]

/-- replacing every whitespace token by a non-empty list of whitespace tokens (and leaving the
other tokens alone) is invisible to `collapse` -/
theorem collapse_flatMap_ws (h : α → List α)
    (hws : ∀ t, tk.ws t = true → h t ≠ [] ∧ ∀ x ∈ h t, tk.ws x = true)
    (hid : ∀ t, tk.ws t = false → h t = [t]) : ∀ l : List α,
    collapse tk (l.flatMap h) = collapse tk l ∧ headWs tk (l.flatMap h) = headWs tk l
  | [] => ⟨rfl, rfl⟩
  | t :: l => by
    obtain ⟨ih1, ih2⟩ := collapse_flatMap_ws h hws hid l
    rw [List.flatMap_cons]
    cases ht : tk.ws t with
    | true =>
      obtain ⟨hne, hall⟩ := hws t ht
      constructor
      · rw [collapse_ws_append tk t ht (h t) hne hall, collapse_ws_cons tk t _ ht,
          collapse_ws_cons tk t l ht, ih1, ih2]
      · cases hh : h t with
        | nil => exact absurd hh hne
        | cons x u =>
          have : tk.ws x = true := hall x (by rw [hh]; exact List.mem_cons_self)
          simp only [List.cons_append, headWs, this, ht]
    | false =>
      rw [hid t ht]
      constructor
      · rw [List.singleton_append, collapse_cons_nonws tk t _ ht, collapse_cons_nonws tk t l ht,
          ih1]
      · rfl

end collapse

/-- what `strings.ReplaceAll(text, "\n", " ")` on CODE POINTS does to a cluster: CR LF falls
apart into a lone CR and a space, LF becomes a space, everything else is untouched -/
def nlSplit (t : List Int) : List (List Int) :=
  if t = [0x0D, 0x0A] then [[0x0D], [0x20]] else [if t = cxB.nl then cxB.sp else t]

theorem nlSplit_flatten (t : List Int)
    (h : (0x0A : Int) ∈ t → t = [0x0A] ∨ t = [0x0D, 0x0A]) :
    t.map (fun x => if x = cxA.nl then cxA.sp else x) = (nlSplit t).flatten := by
  unfold nlSplit
  by_cases h1 : t = [0x0D, 0x0A]
  · rw [if_pos h1, h1]; rfl
  · rw [if_neg h1]
    by_cases h2 : t = cxB.nl
    · rw [if_pos h2, h2]; rfl
    · rw [if_neg h2]
      have hm : (0x0A : Int) ∉ t := fun hm => (h hm).elim h2 h1
      simp only [List.flatten_cons, List.flatten_nil, List.append_nil]
      conv => rhs; rw [← List.map_id t]
      apply List.map_congr_left
      intro x hx
      have : x ≠ cxA.nl := by
        intro e'; rw [e'] at hx; exact hm hx
      simp only [if_neg this, id]

theorem replaceAll_nl_general : ∀ (toks : List (List Int)),
    (∀ t ∈ toks, (0x0A : Int) ∈ t → t = [0x0A] ∨ t = [0x0D, 0x0A]) →
    replaceAll toks.flatten [cxA.nl] [cxA.sp] = (toks.flatMap nlSplit).flatten := by
  intro toks h
  rw [replaceAll_single]
  induction toks with
  | nil => rfl
  | cons t rest ih =>
    rw [List.flatten_cons, List.map_append, List.flatMap_cons, List.flatten_append,
      ih (fun x hx => h x (List.mem_cons_of_mem _ hx)), nlSplit_flatten t (h t List.mem_cons_self)]

theorem ok_flatMap_nlSplit {V : List (List Int)} (hsp : [0x20] ∈ V) :
    ∀ (toks : List (List Int)), (∀ t ∈ toks, t ∈ V) → Ok V (toks.flatMap nlSplit)
  | [], _ => trivial
  | t :: rest, h => by
    have ih := ok_flatMap_nlSplit hsp rest (fun x hx => h x (List.mem_cons_of_mem _ hx))
    rw [List.flatMap_cons]
    unfold nlSplit
    split
    · exact ⟨Or.inr ⟨rfl, rfl⟩, ok_cons hsp ih⟩
    · refine ok_cons ?_ ih
      split
      · exact hsp
      · exact h t List.mem_cons_self

theorem collapse_flatMap_nlSplit (toks : List (List Int)) :
    Spec.collapse (WrapRefine.toks cxB) (toks.flatMap nlSplit) =
      Spec.collapse (WrapRefine.toks cxB) toks := by
  refine (collapse_flatMap_ws (WrapRefine.toks cxB) nlSplit ?_ ?_ toks).1
  · intro t ht
    unfold nlSplit
    split
    · exact ⟨by simp, by decide⟩
    · refine ⟨by simp, ?_⟩
      intro x hx
      rw [List.mem_singleton] at hx
      subst hx
      split
      · exact cxB_sp_space
      · exact ht
  · intro t ht
    have h1 : t ≠ [0x0D, 0x0A] := by
      intro e; rw [e] at ht; revert ht; decide
    have h2 : t ≠ cxB.nl := by
      intro e; rw [e] at ht; revert ht; decide
    unfold nlSplit
    rw [if_neg h1, if_neg h2]

/-- CollapseSpace on the code-point text after the newline pre-pass -/
theorem collapseSpace_nlSplit {V : List (List Int)} (hV : VocabStable V = true)
    (hsp : [0x20] ∈ V) (hspTail : ∀ t ∈ V, (0x20 : Int) ∉ t.tail)
    (toks : List (List Int)) (ht : ∀ t ∈ toks, t ∈ V) :
    collapseSpace cxA (toks.flatMap nlSplit).flatten [] =
      .ok (Spec.collapse (WrapRefine.toks cxB) toks).flatten := by
  have hok2 := ok_flatMap_nlSplit hsp toks ht
  have hc := collapse_flatMap_nlSplit toks
  rw [← hc]
  refine collapseSpace_A (Ok V) (stableRunes_of_ok hV) (ok_spaceMap hsp) _ hok2 ?_
  intro t h
  obtain ⟨u, hu, rfl⟩ := List.mem_map.1 h
  rcases ok_mem hok2 u hu with hu | hu
  · exact spaceMap_SpOK hV hspTail hu
  · rw [hu]
    exact ⟨by decide, Or.inl rfl⟩

end BridgeAlignCRLF
open BridgeWrap BridgeAlign BridgeAlignCRLF

/-- **GB3–GB5 on code points**: in a stable vocabulary the only clusters containing U+000A are LF
and CR LF -/
theorem vocabStable_nl {V : List (List Int)} (hV : VocabStable V = true) :
    ∀ t ∈ V, (0x0A : Int) ∈ t → t = [0x0A] ∨ t = [0x0D, 0x0A] :=
  fun _ ht hm => vocab_nl hV ht hm

/-- The JustifyLine bridge for EVERY stable vocabulary containing the space
token and satisfying `hspTail`: no hypothesis about U+000A (CR LF tokens are allowed). -/
theorem justifyLine_bridge_general {V : List (List Int)} (hV : VocabStable V = true)
    (hsp : [0x20] ∈ V) (hspTail : ∀ t ∈ V, (0x20 : Int) ∉ t.tail)
    (toks : List (List Int)) (ht : ∀ t ∈ toks, t ∈ V) (w : Int) :
    ∃ r, justifyLine cxB toks w = .ok r ∧ justifyLine cxA toks.flatten w = .ok r.flatten ∧
      ∀ t ∈ r, t ∈ V := by
  refine justifyLine_bridge_of_collapse hV hsp hspTail toks ht w ?_
  have e : Spec.collapse ⟨cxB.isSpace, cxB.sp, cxB.hy⟩ (replaceAll toks [cxB.nl] [cxB.sp]) =
      Spec.collapse ⟨cxB.isSpace, cxB.sp, cxB.hy⟩ toks :=
    collapse_replaceAll'_nl cxB cxB_sp_space (by decide) toks
  rw [e, replaceAll_nl_general toks (fun t h hm => vocab_nl hV (ht t h) hm)]
  exact collapseSpace_nlSplit hV hsp hspTail toks ht

theorem justifyLine_bridge_general_map {V : List (List Int)} (hV : VocabStable V = true)
    (hsp : [0x20] ∈ V) (hspTail : ∀ t ∈ V, (0x20 : Int) ∉ t.tail)
    (toks : List (List Int)) (ht : ∀ t ∈ toks, t ∈ V) (w : Int) :
    justifyLine cxA toks.flatten w = (justifyLine cxB toks w).map List.flatten := by
  obtain ⟨r, h1, h2, _⟩ := justifyLine_bridge_general hV hsp hspTail toks ht w
  rw [h1, h2]; rfl

theorem justifyLine_bridge_general_post {V : List (List Int)} (hV : VocabStable V = true)
    (hsp : [0x20] ∈ V) (hspTail : ∀ t ∈ V, (0x20 : Int) ∉ t.tail)
    (toks : List (List Int)) (ht : ∀ t ∈ toks, t ∈ V) (w : Int) :
    ∃ out, justifyLine cxA toks.flatten w = .ok out ∧
      JustifyPost cxB (Spec.collapse ⟨cxB.isSpace, cxB.sp, cxB.hy⟩ toks) w (clusters cxA out) := by
  obtain ⟨r, h1, h2, h3⟩ := justifyLine_bridge_general hV hsp hspTail toks ht w
  obtain ⟨r', h1', hpost⟩ := justifyLine_triv cxB cxB_triv cxB_sp_space (by decide) toks w
  rw [h1] at h1'
  cases h1'
  refine ⟨r.flatten, h2, ?_⟩
  rw [clusters_flatten_stable r (stableRunes_of_vocab V hV r h3)]
  exact hpost

/-- for a vocabulary in which U+000A occurs only as the token `[0x0A]` (no CR LF) -/
theorem justifyLine_bridge {V : List (List Int)} (hV : VocabStable V = true)
    (hsp : [0x20] ∈ V) (hspTail : ∀ t ∈ V, (0x20 : Int) ∉ t.tail)
    (hnl : ∀ t ∈ V, (0x0A : Int) ∈ t → t = [0x0A])
    (toks : List (List Int)) (ht : ∀ t ∈ toks, t ∈ V) (w : Int) :
    ∃ r, justifyLine cxB toks w = .ok r ∧ justifyLine cxA toks.flatten w = .ok r.flatten ∧
      ∀ t ∈ r, t ∈ V :=
  justifyLine_bridge_general hV hsp hspTail toks ht w

/-- with the newline condition on the TEXT only (no token of the line other than `[0x0A]`
contains U+000A), whatever the vocabulary contains -/
theorem justifyLine_bridge_text {V : List (List Int)} (hV : VocabStable V = true)
    (hsp : [0x20] ∈ V) (hspTail : ∀ t ∈ V, (0x20 : Int) ∉ t.tail)
    (toks : List (List Int)) (ht : ∀ t ∈ toks, t ∈ V)
    (hnl : ∀ t ∈ toks, (0x0A : Int) ∈ t → t = [0x0A]) (w : Int) :
    ∃ r, justifyLine cxB toks w = .ok r ∧ justifyLine cxA toks.flatten w = .ok r.flatten ∧
      ∀ t ∈ r, t ∈ V :=
  justifyLine_bridge_general hV hsp hspTail toks ht w

theorem justifyLine_bridge_map {V : List (List Int)} (hV : VocabStable V = true)
    (hsp : [0x20] ∈ V) (hspTail : ∀ t ∈ V, (0x20 : Int) ∉ t.tail)
    (hnl : ∀ t ∈ V, (0x0A : Int) ∈ t → t = [0x0A])
    (toks : List (List Int)) (ht : ∀ t ∈ toks, t ∈ V) (w : Int) :
    justifyLine cxA toks.flatten w = (justifyLine cxB toks w).map List.flatten :=
  justifyLine_bridge_general_map hV hsp hspTail toks ht w

/-- the visible width of a justified line is exactly `w` clusters whenever the
collapsed line is shorter than `w` and contains a space -/
theorem justifyLine_bridge_width {V : List (List Int)} (hV : VocabStable V = true)
    (hsp : [0x20] ∈ V) (hspTail : ∀ t ∈ V, (0x20 : Int) ∉ t.tail)
    (hnl : ∀ t ∈ V, (0x0A : Int) ∈ t → t = [0x0A])
    (toks : List (List Int)) (ht : ∀ t ∈ toks, t ∈ V) (w : Int)
    (hlt : ((Spec.collapse ⟨cxB.isSpace, cxB.sp, cxB.hy⟩ toks).length : Int) < w)
    (hmem : cxB.sp ∈ Spec.collapse ⟨cxB.isSpace, cxB.sp, cxB.hy⟩ toks) :
    ∃ out, justifyLine cxA toks.flatten w = .ok out ∧ (gLen cxA out : Int) = w := by
  obtain ⟨out, h1, hpost⟩ := justifyLine_bridge_general_post hV hsp hspTail toks ht w
  refine ⟨out, h1, ?_⟩
  rw [gLen_eq_clusters_length]
  refine (hpost.2 ?_).1
  rintro (h | h)
  · omega
  · exact h hmem

namespace BridgeAlign

/-- "<TAB> é 🇩🇪<LF>ab  " -/
example (w : Int) :
    ∃ r, justifyLine cxB [[0x9], [0x20], [0x65, 0x301], [0x20], [0x1F1E9, 0x1F1EA], [0x0A],
        [0x61], [0x62], [0x20], [0x20]] w = .ok r ∧
      justifyLine cxA ([[0x9], [0x20], [0x65, 0x301], [0x20], [0x1F1E9, 0x1F1EA], [0x0A], [0x61],
        [0x62], [0x20], [0x20]] : List (List Int)).flatten w = .ok r.flatten ∧
      ∀ t ∈ r, t ∈ demoVocab3 :=
  justifyLine_bridge demoVocab3_stable (by decide) demoVocab3_spTail demoVocab3_nlOnly _
    (by decide) w

/-- fully evaluated: "a<TAB>é<LF>b" justified to 8 clusters -/
example : justifyLine cxA [0x61, 0x9, 0x65, 0x301, 0x0A, 0x62] 8 =
    .ok [0x61, 0x20, 0x20, 0x20, 0x65, 0x301, 0x20, 0x20, 0x62] := of_okEq (by decide +kernel)

end BridgeAlign

namespace BridgeAlignCRLF

/-- a vocabulary with BOTH newline clusters -/
def demoVocab4 : List (List Int) :=
  [[0x61], [0x62], [0x20], [0x2D], [0x65, 0x301], [0x1F1E9, 0x1F1EA], [0x9], [0x0A], [0x0D, 0x0A]]

theorem demoVocab4_stable : VocabStable demoVocab4 = true :=
  VocabStable.mono demoWords_stable (by decide)

theorem demoVocab4_spTail : ∀ t ∈ demoVocab4, (0x20 : Int) ∉ t.tail :=
  spTail_of_spOnly (by decide)

/-- "a<CR><LF>é <LF><CR><LF>b" -/
example (w : Int) :
    ∃ r, justifyLine cxB [[0x61], [0x0D, 0x0A], [0x65, 0x301], [0x20], [0x0A], [0x0D, 0x0A],
        [0x62]] w = .ok r ∧
      justifyLine cxA ([[0x61], [0x0D, 0x0A], [0x65, 0x301], [0x20], [0x0A], [0x0D, 0x0A],
        [0x62]] : List (List Int)).flatten w = .ok r.flatten ∧
      ∀ t ∈ r, t ∈ demoVocab4 :=
  justifyLine_bridge_general demoVocab4_stable (by decide) demoVocab4_spTail _ (by decide) w

/-- `hspTail` is still needed for JustifyLine (it starts with CollapseSpace): the stable vocabulary
of `BridgeWrap.spTail_needed` separates the two levels -/
theorem spTail_needed_justify :
    VocabStable [[0x61], [0x20], [0x600, 0x20]] = true ∧
    justifyLine cxA ([[0x600, 0x20], [0x20], [0x61]] : List (List Int)).flatten 0 =
      .ok [0x600, 0x20, 0x61] ∧
    justifyLine cxB [[0x600, 0x20], [0x20], [0x61]] 0 = .ok [[0x600, 0x20], [0x20], [0x61]] :=
  ⟨by decide +kernel, of_okEq (by decide +kernel), of_okEq (by decide +kernel)⟩

/-- CR LF is NOT a counterexample to the bridge (checked by evaluation): the pre-pass gives
"a<CR> b" on code points and "a b" on tokens, and both collapse to "a b" -/
theorem crlf_harmless :
    justifyLine cxA ([[0x61], [0x0D, 0x0A], [0x62], [0x20], [0x61]] : List (List Int)).flatten 8 =
      .ok [0x61, 0x20, 0x20, 0x20, 0x62, 0x20, 0x20, 0x61] ∧
    justifyLine cxB [[0x61], [0x0D, 0x0A], [0x62], [0x20], [0x61]] 8 =
      .ok [[0x61], [0x20], [0x20], [0x20], [0x62], [0x20], [0x20], [0x61]] :=
  ⟨of_okEq (by decide +kernel), of_okEq (by decide +kernel)⟩

end BridgeAlignCRLF
end RosedVerif
