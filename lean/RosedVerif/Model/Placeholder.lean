/-
`Ctx.placeholder sep` (Model/Basic.lean), the stand-in with which Editor.WrapOpts and JustifyOpts pad
a paragraph, is the first of `phA, phNext phA, phNext (phNext phA), …` that does not occur in the
line separator `sep`, searched with `|sep|` tests.  This mirrors fix be85348 (finding D18 of
DESIGN.md §12.4: a hard-coded `A` is read as a line separator when `sep` contains an `A`).  When the
candidates are pairwise different the search ends outside `sep` by pigeonhole (`Ctx.PhFresh`), and
instance A (`phNext r = r + 1`) is such a context, for every separator.
-/
import RosedVerif.Model.InstA
namespace RosedVerif

section
variable {α : Type} [DecidableEq α] (cx : Ctx α)

/-- the `i`-th candidate after `c` -/
def phIter : Nat → α → α
  | 0, c => c
  | i + 1, c => phIter i (cx.phNext c)

/-- the search returns the first candidate outside the separator (or, after `n` tests, the next
one): it is the `k`-th candidate for some `k ≤ n`, every earlier candidate is in `sep`, and if the
search stopped before its fuel ran out the `k`-th is not -/
theorem phSearch_spec (sep : List α) : ∀ (n : Nat) (c : α),
    ∃ k, k ≤ n ∧ phSearch cx sep n c = phIter cx k c ∧ (∀ j, j < k → phIter cx j c ∈ sep) ∧
      (k < n → phIter cx k c ∉ sep)
  | 0, c => ⟨0, Nat.le_refl _, rfl, fun j hj => by omega, fun h => by omega⟩
  | n + 1, c => by
    unfold phSearch
    by_cases hc : c ∈ sep
    · rw [if_pos hc]
      obtain ⟨k, hk, h1, h2, h3⟩ := phSearch_spec sep n (cx.phNext c)
      refine ⟨k + 1, by omega, h1, fun j hj => ?_, fun h => h3 (by omega)⟩
      cases j with
      | zero => exact hc
      | succ j => exact h2 j (by omega)
    · rw [if_neg hc]
      exact ⟨0, by omega, rfl, fun j hj => by omega, fun _ => hc⟩

/-- a search that ends on a member of `sep` went through `n + 1` candidates that are all in `sep` -/
theorem phSearch_mem_all (sep : List α) (n : Nat) (c : α) (h : phSearch cx sep n c ∈ sep) :
    ∀ i, i ≤ n → phIter cx i c ∈ sep := by
  obtain ⟨k, hk, h1, h2, h3⟩ := phSearch_spec cx sep n c
  rw [h1] at h
  obtain rfl : k = n := by
    by_cases hlt : k < n
    · exact absurd h (h3 hlt)
    · omega
  intro i hi
  by_cases hik : i < k
  · exact h2 i hik
  · obtain rfl : i = k := by omega
    exact h

/-- pigeonhole: `|sep| + 1` pairwise different candidates are not all among the `|sep|` atoms of
`sep`, so the search with `|sep|` tests ends outside `sep` -/
theorem phFresh_of_distinct
    (hd : ∀ i j : Nat, i < j → phIter cx i cx.phA ≠ phIter cx j cx.phA) : cx.PhFresh := by
  intro sep hmem
  have hall := phSearch_mem_all cx sep sep.length cx.phA hmem
  have hnd : ((List.range (sep.length + 1)).map fun i => phIter cx i cx.phA).Nodup :=
    List.Pairwise.map _ (fun i j hij => hd i j hij) List.pairwise_lt_range
  have hsub : ((List.range (sep.length + 1)).map fun i => phIter cx i cx.phA) ⊆ sep := by
    intro x hx
    obtain ⟨i, hi, rfl⟩ := List.mem_map.1 hx
    exact hall i (by have := List.mem_range.1 hi; omega)
  have hle := hnd.length_le_of_subset hsub
  simp only [List.length_map, List.length_range] at hle
  omega

end

/-! ## instance A -/

theorem phIter_cxA : ∀ (i : Nat) (c : Int), phIter cxA i c = c + i
  | 0, c => by simp only [phIter, Int.natCast_zero, Int.add_zero]
  | i + 1, c => by
    rw [phIter, phIter_cxA i]
    show c + 1 + (i : Int) = c + ((i + 1 : Nat) : Int)
    omega

/-- on code points the search finds a letter outside the separator, for EVERY separator: the
candidates `0x41, 0x42, …` are pairwise different -/
theorem phFresh_cxA : cxA.PhFresh :=
  phFresh_of_distinct cxA (fun i j hij => by rw [phIter_cxA, phIter_cxA]; omega)

/-- … and it is the first of them: `0x41 + k` with `k ≤ |sep|`, every letter before it occurs in
the separator -/
theorem placeholder_cxA_first (sep : List Int) :
    ∃ k : Nat, k ≤ sep.length ∧ cxA.placeholder sep = 0x41 + (k : Int) ∧
      ∀ j : Nat, j < k → (0x41 + (j : Int)) ∈ sep := by
  obtain ⟨k, hk, h1, h2, -⟩ := phSearch_spec cxA sep sep.length cxA.phA
  refine ⟨k, hk, ?_, fun j hj => ?_⟩
  · rw [← phIter_cxA k 0x41]; exact h1
  · rw [← phIter_cxA j 0x41]; exact h2 j hj

end RosedVerif
