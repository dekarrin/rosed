/-
`strings.Split`, `strings.Join`, `strings.ReplaceAll`, `strings.HasSuffix` on code points and on
cluster tokens: general facts about the list functions that model them, and their agreement on
the two levels for a separator that is
  * a single TOKEN `a :: s'` (one cluster, possibly of several code points, e.g. CR LF) whose first
    rune occurs nowhere else in the vocabulary `V` — `goodSep_tok`, in particular a single-rune
    token `[n]` (e.g. "\n") — `goodSep_rune`;
  * a LIST of such "marker" tokens (e.g. "\n\n", "\r\n\r\n") — `goodSep_markers`.
What the operations need from a separator is collected in `GoodSep V S`.
-/
import RosedVerif.Model.BridgeWrap
import RosedVerif.Model.StringsLemmas
import RosedVerif.Model.AlignRefine
namespace RosedVerif
namespace BridgeOps
open BridgeWrap

section generic
variable {α : Type} [DecidableEq α]

omit [DecidableEq α] in
theorem joinWith_mem (sep : List α) : ∀ (ls : List (List α)) (c : α),
    c ∈ joinWith sep ls → c ∈ sep ∨ ∃ l ∈ ls, c ∈ l
  | [], c, h => by cases h
  | [x], c, h => by
    rw [joinWith_singleton] at h
    exact Or.inr ⟨x, List.mem_cons_self, h⟩
  | x :: y :: t, c, h => by
    rw [joinWith_cons_cons, List.mem_append, List.mem_append] at h
    rcases h with (h | h) | h
    · exact Or.inr ⟨x, List.mem_cons_self, h⟩
    · exact Or.inl h
    · rcases joinWith_mem sep (y :: t) c h with h | ⟨l, hl, h⟩
      · exact Or.inl h
      · exact Or.inr ⟨l, List.mem_cons_of_mem _ hl, h⟩

omit [DecidableEq α] in
theorem mem_joinWith (sep : List α) : ∀ (ls : List (List α)) (l : List α) (c : α),
    l ∈ ls → c ∈ l → c ∈ joinWith sep ls
  | [x], l, c, hl, hc => by
    rw [List.mem_singleton] at hl; subst hl
    rw [joinWith_singleton]; exact hc
  | x :: y :: t, l, c, hl, hc => by
    rw [joinWith_cons_cons, List.mem_append, List.mem_append]
    rcases List.mem_cons.1 hl with hl | hl
    · subst hl; exact Or.inl (Or.inl hc)
    · exact Or.inr (mem_joinWith sep (y :: t) l c hl hc)

/-- the atoms of a piece are atoms of the text: joining the pieces gives the text back -/
theorem splitOn_mem (s sep : List α) : ∀ l ∈ splitOn s sep, ∀ c ∈ l, c ∈ s := fun l hl c hc =>
  joinWith_splitOn_all s sep ▸ mem_joinWith sep _ l c hl hc

theorem replaceAll_mem (s old new : List α) (c : α) (h : c ∈ replaceAll s old new) :
    c ∈ s ∨ c ∈ new := by
  unfold replaceAll at h
  rcases joinWith_mem new _ c h with h | ⟨l, hl, h⟩
  · exact Or.inr h
  · exact Or.inl (splitOn_mem s old l hl c h)

omit [DecidableEq α] in
/-- `strings.Join` commutes with flattening -/
theorem joinWith_flatten (sep : List (List α)) : ∀ (ls : List (List (List α))),
    joinWith sep.flatten (ls.map List.flatten) = (joinWith sep ls).flatten
  | [] => rfl
  | [x] => by simp only [List.map_cons, List.map_nil, joinWith_singleton]
  | x :: y :: t => by
    have ih := joinWith_flatten sep (y :: t)
    rw [List.map_cons] at ih
    rw [List.map_cons, List.map_cons, joinWith_cons_cons, joinWith_cons_cons, ih]
    simp only [List.flatten_append]

omit [DecidableEq α] in
theorem joinWith_append_nil (sep : List α) : ∀ (ls : List (List α)), ls ≠ [] →
    joinWith sep (ls ++ [[]]) = joinWith sep ls ++ sep
  | [], h => absurd rfl h
  | [a], _ => by
    rw [List.singleton_append, joinWith_cons_cons, joinWith_singleton, joinWith_singleton,
      List.append_nil]
  | a :: b :: t, _ => by
    rw [List.cons_append, joinWith_cons_of_ne_nil sep a (by simp),
      joinWith_append_nil sep (b :: t) (by simp), joinWith_cons_cons]
    simp only [List.append_assoc]

omit [DecidableEq α] in
/-- a final separator is an empty final piece -/
theorem joinWith_append_ite (sep : List α) (ls : List (List α)) (hne : ls ≠ []) (c : Prop)
    [Decidable c] :
    joinWith sep ls ++ (if c then sep else []) = joinWith sep (ls ++ if c then [[]] else []) := by
  split
  · rw [joinWith_append_nil _ ls hne]
  · rw [List.append_nil, List.append_nil]

/-- `HasSuffix` with the `BEq` instance the generic model uses -/
theorem isSuffixOf_dec_iff (a b : List α) : a.isSuffixOf b = true ↔ a <:+ b :=
  List.isSuffixOf_iff_suffix

theorem isPrefixOf_dec_iff (a b : List α) : a.isPrefixOf b = true ↔ a <+: b :=
  List.isPrefixOf_iff_prefix

theorem splitOnAux_skip (sep : List α) : ∀ (pre rest cur : List α),
    splitOnAux sep (pre ++ rest) pre.length cur = splitOnAux sep rest 0 cur
  | [], _, _ => rfl
  | c :: pre, rest, cur => by
    rw [List.cons_append, List.length_cons, splitOnAux]
    exact splitOnAux_skip sep pre rest cur

theorem splitOnAux_cons_nomatch (sep : List α) (c : α) (t cur : List α)
    (h : ¬ sep <+: c :: t) :
    splitOnAux sep (c :: t) 0 cur = splitOnAux sep t 0 (c :: cur) := by
  rw [splitOnAux, if_neg]
  rw [isPrefixOf_dec_iff]; exact h

/-- one step of `splitOnAux` at a match: the current piece is closed and the separator skipped -/
theorem splitOnAux_prefix (sep rest cur : List α) (hne : sep ≠ []) :
    splitOnAux sep (sep ++ rest) 0 cur = cur.reverse :: splitOnAux sep rest 0 [] := by
  cases sep with
  | nil => exact absurd rfl hne
  | cons a s' =>
    have hp : (a :: s').isPrefixOf (a :: (s' ++ rest)) = true := by
      rw [List.isPrefixOf_iff_prefix]
      exact List.prefix_append (a :: s') rest
    rw [List.cons_append, splitOnAux, if_pos hp]
    have := splitOnAux_skip (a :: s') s' rest []
    rw [List.length_cons, Nat.add_sub_cancel, this]

/-- a stretch of text without the first atom of the separator contains no match -/
theorem splitOnAux_nohead_append (a : α) (s' t : List α) (ha : a ∉ t) (rest cur : List α) :
    splitOnAux (a :: s') (t ++ rest) 0 cur = splitOnAux (a :: s') rest 0 (t.reverse ++ cur) := by
  induction t generalizing cur with
  | nil => rfl
  | cons c t ih =>
    rw [List.cons_append, splitOnAux_cons_nomatch _ _ _ _
        (fun h => ha (by rw [(List.cons_prefix_cons.1 h).1]; exact List.mem_cons_self)),
      ih (fun e => ha (List.mem_cons_of_mem _ e))]
    simp

omit [DecidableEq α] in
theorem suffix_skip (a : α) (q : List α) : ∀ (t R : List α), a ∉ t →
    (a :: q) <:+ t ++ R → (a :: q) <:+ R
  | [], _, _, h => h
  | c :: t, R, ha, h => by
    rw [List.cons_append, List.suffix_cons_iff] at h
    rcases h with h | h
    · exact absurd (List.cons.inj h).1 (fun e => ha (by simp [e]))
    · exact suffix_skip a q t R (fun e => ha (List.mem_cons_of_mem _ e)) h

/-- `strings.ReplaceAll(s, x, new)` removes every `x` (when `new` has none) -/
theorem replaceAll_single_not_mem (s : List α) (x : α) (new : List α) (hn : x ∉ new) :
    x ∉ replaceAll s [x] new := by
  intro h
  unfold replaceAll at h
  rcases joinWith_mem new _ x h with h | ⟨l, hl, h⟩
  · exact hn h
  · exact splitOnAux_single_not_mem x s [] (by simp) l hl h

/-- `strings.ReplaceAll(s, x, new)` keeps every atom other than `x` -/
theorem mem_replaceAll_single (s : List α) (x : α) (new : List α) (c : α) (hc : c ∈ s)
    (hne : c ≠ x) : c ∈ replaceAll s [x] new := by
  rw [← joinWith_splitOn s [x] (by simp)] at hc
  rcases joinWith_mem [x] _ c hc with h | ⟨l, hl, h⟩
  · rw [List.mem_singleton] at h; exact absurd h hne
  · exact mem_joinWith new _ l c hl h

theorem splitOnAux_joinWith_single (x : α) : ∀ (ls : List (List α)) (l cur : List α),
    (∀ l' ∈ l :: ls, x ∉ l') →
    splitOnAux [x] (joinWith [x] (l :: ls)) 0 cur = (cur.reverse ++ l) :: ls
  | [], l, cur, h => by
    have := splitOnAux_nohead_append x [] l (h l List.mem_cons_self) [] cur
    rw [List.append_nil] at this
    rw [joinWith_singleton, this, splitOnAux]
    simp
  | l' :: ls, l, cur, h => by
    rw [joinWith_cons_cons, List.append_assoc,
      splitOnAux_nohead_append x [] l (h l List.mem_cons_self), List.singleton_append,
      splitOnAux_single_cons, if_pos rfl,
      splitOnAux_joinWith_single x ls l' [] (fun a ha => h a (List.mem_cons_of_mem _ ha))]
    simp

/-- `strings.Split(strings.Join(ls, x), x) = ls` when no part contains the atom `x` -/
theorem splitOn_joinWith_single (x : α) (ls : List (List α)) (hne : ls ≠ [])
    (h : ∀ l ∈ ls, x ∉ l) : splitOn (joinWith [x] ls) [x] = ls := by
  cases ls with
  | nil => exact absurd rfl hne
  | cons l ls =>
    rw [splitOn_single, splitOnAux_joinWith_single x ls l [] h]
    rfl

theorem flatten_single {β : Type} (s : List β) : [s].flatten = s := by simp

theorem flatten_prefix {β : Type} {S toks : List (List β)} (h : S <+: toks) :
    S.flatten <+: toks.flatten := by
  obtain ⟨r, rfl⟩ := h
  rw [List.flatten_append]
  exact List.prefix_append _ _

end generic

/-- what the bridge needs from a (non-empty) line separator `S`, a list of cluster tokens (on code
points the separator is `S.flatten`): splitting and the suffix test agree on the two levels for
every text over `V`.  The `BEq` instances of `isSuffixOf` are spelled out: the model (generic in
`[DecidableEq α]`) compares atoms with `instBEqOfDecidableEq`, which at `α = List Int` is not
syntactically the instance `List.instBEq` that plain `S.isSuffixOf toks` elaborates to. -/
structure GoodSep (V : List (List Int)) (S : List (List Int)) : Prop where
  ne : S ≠ []
  tok_ne : ∀ t ∈ S, t ≠ []
  split : ∀ toks : List (List Int), (∀ t ∈ toks, t ∈ V) →
    splitOn toks.flatten S.flatten = (splitOn toks S).map List.flatten
  suffix : ∀ toks : List (List Int), (∀ t ∈ toks, t ∈ V) →
    @List.isSuffixOf Int instBEqOfDecidableEq S.flatten toks.flatten =
      @List.isSuffixOf (List Int) instBEqOfDecidableEq S toks

/-- a token that is either the separator token `a :: s'` or does not contain its first rune -/
def SepTokOK (a : Int) (s' : List Int) (t : List Int) : Prop := t = a :: s' ∨ a ∉ t

theorem sepTokOK_of_only {V : List (List Int)} {a : Int} {s' : List Int}
    (haOnly : ∀ t ∈ V, a ∈ t → t = a :: s')
    {toks : List (List Int)} (ht : ∀ t ∈ toks, t ∈ V) : ∀ t ∈ toks, SepTokOK a s' t := by
  intro t h
  by_cases hm : a ∈ t
  · exact Or.inl (haOnly t (ht t h) hm)
  · exact Or.inr hm

/-- splitting at one token.  This needs neither `a ∉ s'` nor non-empty tokens; the marker version below needs
both: with several markers an empty token breaks the alignment (`[[a], [], [b]]` against `[[a], [b]]`). -/
theorem splitOnAux_bridge_tok (a : Int) (s' : List Int) : ∀ (toks : List (List Int)),
    (∀ t ∈ toks, SepTokOK a s' t) →
    ∀ (curR : List Int) (curT : List (List Int)), curR.reverse = curT.reverse.flatten →
      splitOnAux (a :: s') toks.flatten 0 curR =
        (splitOnAux [a :: s'] toks 0 curT).map List.flatten
  | [], _, curR, curT, hc => by
    simp only [List.flatten_nil, splitOnAux, List.map_cons, List.map_nil, hc]
  | t :: rest, h, curR, curT, hc => by
    have hr : ∀ t ∈ rest, SepTokOK a s' t := fun x hx => h x (List.mem_cons_of_mem _ hx)
    rcases h t List.mem_cons_self with ht | ht
    · subst ht
      rw [splitOnAux_single_cons, if_pos rfl, List.flatten_cons,
        splitOnAux_prefix _ _ _ (List.cons_ne_nil _ _),
        List.map_cons, hc, splitOnAux_bridge_tok a s' rest hr [] [] rfl]
    · have hne : t ≠ a :: s' := by
        intro e; rw [e] at ht; exact ht List.mem_cons_self
      rw [splitOnAux_single_cons, if_neg (Ne.symm hne), List.flatten_cons,
        splitOnAux_nohead_append a s' t ht]
      refine splitOnAux_bridge_tok a s' rest hr _ _ ?_
      simp only [List.reverse_append, List.reverse_reverse, hc, List.reverse_cons,
        List.flatten_append, List.flatten_cons, List.flatten_nil, List.append_nil]

theorem splitOn_bridge_tokOK (a : Int) (s' : List Int) (toks : List (List Int))
    (h : ∀ t ∈ toks, SepTokOK a s' t) :
    splitOn toks.flatten (a :: s') = (splitOn toks [a :: s']).map List.flatten :=
  splitOnAux_bridge_tok a s' toks h [] [] rfl

theorem replaceAll_bridge_tokOK (a : Int) (s' : List Int) (new : List (List Int))
    (toks : List (List Int)) (h : ∀ t ∈ toks, SepTokOK a s' t) :
    replaceAll toks.flatten (a :: s') new.flatten = (replaceAll toks [a :: s'] new).flatten := by
  unfold replaceAll
  rw [splitOn_bridge_tokOK a s' toks h, joinWith_flatten]

/-- an occurrence of the first separator rune at the start of a suffix of the text is the start
of a separator token -/
theorem suffix_aligned (a : Int) (s' : List Int) (has : a ∉ s') : ∀ (toks : List (List Int)),
    (∀ t ∈ toks, SepTokOK a s' t) → ∀ q, (a :: q) <:+ toks.flatten →
    ∃ init rest, toks = init ++ (a :: s') :: rest ∧ a :: q = (a :: s') ++ rest.flatten
  | [], _, q, h => by
    rw [List.flatten_nil, List.suffix_nil] at h
    cases h
  | t :: r, h, q, hs => by
    have hr : ∀ t ∈ r, SepTokOK a s' t := fun x hx => h x (List.mem_cons_of_mem _ hx)
    have fromIH : (a :: q) <:+ r.flatten →
        ∃ init rest, t :: r = init ++ (a :: s') :: rest ∧ a :: q = (a :: s') ++ rest.flatten := by
      intro hq
      obtain ⟨init, rest, e1, e2⟩ := suffix_aligned a s' has r hr q hq
      exact ⟨t :: init, rest, by rw [e1]; rfl, e2⟩
    rw [List.flatten_cons] at hs
    rcases h t List.mem_cons_self with ht | ht
    · subst ht
      rw [List.cons_append, List.suffix_cons_iff] at hs
      rcases hs with hs | hs
      · exact ⟨[], r, rfl, hs⟩
      · exact fromIH (suffix_skip a q s' _ has hs)
    · exact fromIH (suffix_skip a q t _ ht hs)

/-- `strings.Split(strings.Join(ls, "n"), "n")` on code points gives back the lines `ls` of cluster
tokens, when the rune `n` occurs in them only as the token `[n]` that joins them -/
theorem splitOn_joinWith_flatten (n : Int) (ls : List (List (List Int))) (hne : ls ≠ [])
    (h : ∀ l ∈ ls, ∀ t ∈ l, n ∉ t) :
    splitOn (joinWith [[n]] ls).flatten [n] = ls.map List.flatten := by
  rw [splitOn_bridge_tokOK n [], splitOn_joinWith_single [n] ls hne
    (fun l hl hm => h l hl _ hm List.mem_cons_self)]
  intro t ht
  rcases joinWith_mem _ _ t ht with ht | ⟨l, hl, ht⟩
  · exact Or.inl (List.mem_singleton.1 ht)
  · exact Or.inr (h l hl t ht)

/-- the two `BEq` instances on `List Int` give the same suffix test -/
theorem isSuffixOf_inst (a b : List (List Int)) :
    @List.isSuffixOf (List Int) instBEqOfDecidableEq a b = a.isSuffixOf b := by
  rw [Bool.eq_iff_iff, isSuffixOf_dec_iff, List.isSuffixOf_iff_suffix]

/-- a MARKER token of the vocabulary: its first rune occurs nowhere else in the vocabulary (not in
another token, not further inside the token itself).  Examples: `[0x0A]`, `[0x0D, 0x0A]`. -/
def Marker (V : List (List Int)) (s : List Int) : Prop :=
  ∃ a s', s = a :: s' ∧ a ∉ s' ∧ ∀ t ∈ V, a ∈ t → t = s

theorem Marker.ne_nil {V : List (List Int)} {s : List Int} (h : Marker V s) : s ≠ [] := by
  obtain ⟨a, s', rfl, _⟩ := h
  simp

section markers
variable {V : List (List Int)}

/-- a rune-level match of a list of markers against a text over `V` is a token-level match -/
theorem prefix_aligned : ∀ (S toks : List (List Int)), (∀ s ∈ S, Marker V s) →
    (∀ t ∈ toks, t ∈ V) → (∀ t ∈ toks, t ≠ []) → S.flatten <+: toks.flatten → S <+: toks
  | [], _, _, _, _, _ => List.nil_prefix
  | s :: S', toks, hS, hV', hne, hp => by
    obtain ⟨a, s', rfl, has, honly⟩ := hS s List.mem_cons_self
    cases toks with
    | nil =>
      rw [List.flatten_nil, List.prefix_nil] at hp
      simp at hp
    | cons t r =>
      cases t with
      | nil => exact absurd rfl (hne [] List.mem_cons_self)
      | cons c t' =>
        have hc : a = c := by
          rw [List.flatten_cons, List.flatten_cons, List.cons_append, List.cons_append] at hp
          exact (List.cons_prefix_cons.1 hp).1
        subst hc
        have ht : a :: t' = a :: s' := honly _ (hV' _ List.mem_cons_self) List.mem_cons_self
        rw [ht] at hp ⊢
        rw [List.flatten_cons, List.flatten_cons, List.prefix_append_right_inj] at hp
        have ih := prefix_aligned S' r (fun x hx => hS x (List.mem_cons_of_mem _ hx))
          (fun x hx => hV' x (List.mem_cons_of_mem _ hx))
          (fun x hx => hne x (List.mem_cons_of_mem _ hx)) hp
        exact List.cons_prefix_cons.2 ⟨rfl, ih⟩

theorem splitOnAux_bridge_markers (S : List (List Int)) (hS : ∀ s ∈ S, Marker V s)
    (hSne : S ≠ []) : ∀ (n : Nat) (toks : List (List Int)), toks.length < n →
    (∀ t ∈ toks, t ∈ V) → (∀ t ∈ toks, t ≠ []) →
    ∀ (curR : List Int) (curT : List (List Int)), curR.reverse = curT.reverse.flatten →
      splitOnAux S.flatten toks.flatten 0 curR = (splitOnAux S toks 0 curT).map List.flatten := by
  obtain ⟨s, S', rfl⟩ := List.exists_cons_of_ne_nil hSne
  obtain ⟨a, s', rfl, has, honly⟩ := hS _ List.mem_cons_self
  intro n
  induction n with
  | zero => intro toks hlen; exact absurd hlen (Nat.not_lt_zero _)
  | succ n ih =>
    intro toks hlen hV' hne curR curT hc
    cases toks with
    | nil => simp only [List.flatten_nil, splitOnAux, List.map_cons, List.map_nil, hc]
    | cons t rest =>
      by_cases hm : (a :: s') :: S' <+: t :: rest
      · -- a match on both levels
        obtain ⟨rest', hr⟩ := hm
        have hmem : ∀ x ∈ rest', x ∈ t :: rest := fun x hx => hr ▸ List.mem_append_right _ hx
        have hl := congrArg List.length hr
        rw [List.length_append, List.length_cons] at hl
        rw [← hr, List.flatten_append, splitOnAux_prefix _ _ _ (List.cons_ne_nil _ _),
          splitOnAux_prefix _ _ _ (by simp), List.map_cons, hc,
          ih rest' (by omega) (fun x hx => hV' x (hmem x hx)) (fun x hx => hne x (hmem x hx))
            [] [] rfl]
      · -- no match at the head of `t`, and none inside `t`
        have hm' : ¬ ((a :: s') :: S').flatten <+: (t :: rest).flatten :=
          fun h => hm (prefix_aligned _ _ hS hV' hne h)
        cases t with
        | nil => exact absurd rfl (hne [] List.mem_cons_self)
        | cons c t' =>
          have hat' : a ∉ t' := fun h => has
            ((List.cons.inj (honly _ (hV' _ List.mem_cons_self) (List.mem_cons_of_mem _ h))).2 ▸ h)
          rw [splitOnAux_cons_nomatch _ _ _ _ hm]
          rw [show ((a :: s') :: S').flatten = a :: (s' ++ S'.flatten) from rfl,
            show ((c :: t') :: rest).flatten = c :: (t' ++ rest.flatten) from rfl] at hm' ⊢
          rw [splitOnAux_cons_nomatch _ _ _ _ hm', splitOnAux_nohead_append a _ t' hat']
          refine ih rest (Nat.lt_of_succ_lt_succ hlen)
            (fun x hx => hV' x (List.mem_cons_of_mem _ hx))
            (fun x hx => hne x (List.mem_cons_of_mem _ hx)) _ _ ?_
          simp only [List.reverse_append, List.reverse_reverse, hc, List.reverse_cons,
            List.flatten_append, List.flatten_cons, List.flatten_nil, List.append_nil,
            List.append_assoc, List.cons_append, List.nil_append]

/-- two token lists with the same code points, one made of markers, the other over `V`, agree -/
theorem flatten_inj_markers (S T : List (List Int)) (hS : ∀ s ∈ S, Marker V s)
    (hT : ∀ t ∈ T, t ∈ V) (hne : ∀ t ∈ T, t ≠ []) (h : S.flatten = T.flatten) : S = T := by
  obtain ⟨r, hr⟩ := prefix_aligned S T hS hT hne (by rw [h]; exact List.prefix_refl _)
  have hr' : r.flatten = [] := by
    rw [← hr, List.flatten_append] at h
    exact (List.self_eq_append_right.1 h)
  have : r = [] := (flatten_eq_nil r (fun t ht => hne t (by rw [← hr]; simp [ht]))).1 hr'
  rw [← hr, this, List.append_nil]

theorem isSuffixOf_bridge_markers (S : List (List Int)) (hS : ∀ s ∈ S, Marker V s)
    (hSne : S ≠ []) (toks : List (List Int)) (ht : ∀ t ∈ toks, t ∈ V)
    (hne : ∀ t ∈ toks, t ≠ []) :
    @List.isSuffixOf Int instBEqOfDecidableEq S.flatten toks.flatten =
      @List.isSuffixOf (List Int) instBEqOfDecidableEq S toks := by
  rw [Bool.eq_iff_iff, isSuffixOf_dec_iff, isSuffixOf_dec_iff]
  constructor
  · intro hs
    cases S with
    | nil => exact absurd rfl hSne
    | cons s S' =>
      obtain ⟨a, s', rfl, has, honly⟩ := hS s List.mem_cons_self
      have eS : ((a :: s') :: S').flatten = a :: (s' ++ S'.flatten) := rfl
      rw [eS] at hs
      obtain ⟨init, rest, e1, e2⟩ := suffix_aligned a s' has toks
        (sepTokOK_of_only honly ht) _ hs
      have hmem : ∀ t ∈ (a :: s') :: rest, t ∈ toks := fun t h => by
        rw [e1]; exact List.mem_append_right _ h
      have : (a :: s') :: S' = (a :: s') :: rest :=
        flatten_inj_markers _ _ hS (fun t h => ht t (hmem t h)) (fun t h => hne t (hmem t h))
          (by rw [eS, e2]; rfl)
      rw [this]
      exact ⟨init, e1.symm⟩
  · rintro ⟨p, hp⟩
    rw [← hp, List.flatten_append]
    exact List.suffix_append _ _

end markers

section vocab
variable {V : List (List Int)}

/-- a non-empty list of marker tokens -/
theorem goodSep_markers (hV : VocabStable V = true) (S : List (List Int)) (hSne : S ≠ [])
    (hS : ∀ s ∈ S, Marker V s) : GoodSep V S where
  ne := hSne
  tok_ne := fun t ht => (hS t ht).ne_nil
  split := fun toks ht => by
    have hfne : S.flatten ≠ [] := fun e =>
      hSne ((flatten_eq_nil S (fun t ht => (hS t ht).ne_nil)).1 e)
    rw [splitOn_of_ne_nil _ _ hfne, splitOn_of_ne_nil _ _ hSne]
    exact splitOnAux_bridge_markers S hS hSne _ toks (Nat.lt_succ_self _) ht
      (over_ne_nil hV ht) [] [] rfl
  suffix := fun toks ht => isSuffixOf_bridge_markers S hS hSne toks ht (over_ne_nil hV ht)

/-- a single token (one cluster, possibly several code points, e.g. CR LF) whose first rune
occurs nowhere else in the vocabulary -/
theorem goodSep_tok (hV : VocabStable V = true) (a : Int) (s' : List Int) (has : a ∉ s')
    (haOnly : ∀ t ∈ V, a ∈ t → t = a :: s') : GoodSep V [a :: s'] :=
  goodSep_markers hV _ (List.cons_ne_nil _ _)
    fun _ hs => List.mem_singleton.1 hs ▸ ⟨a, s', rfl, has, haOnly⟩

/-- the single-rune token `[n]` whose rune occurs in no other cluster of the vocabulary -/
theorem goodSep_rune (hV : VocabStable V = true) {n : Int} (hnOnly : ∀ t ∈ V, n ∈ t → t = [n]) :
    GoodSep V [[n]] :=
  goodSep_tok hV n [] List.not_mem_nil hnOnly

variable {n : Int}

theorem splitOn_bridge (hnOnly : ∀ t ∈ V, n ∈ t → t = [n]) (toks : List (List Int))
    (ht : ∀ t ∈ toks, t ∈ V) :
    splitOn toks.flatten [n] = (splitOn toks [[n]]).map List.flatten :=
  splitOn_bridge_tokOK n [] toks (sepTokOK_of_only hnOnly ht)

theorem replaceAll_bridge (hnOnly : ∀ t ∈ V, n ∈ t → t = [n]) (toks : List (List Int))
    (ht : ∀ t ∈ toks, t ∈ V) :
    replaceAll toks.flatten [n] [0x20] = (replaceAll toks [[n]] [[0x20]]).flatten :=
  replaceAll_bridge_tokOK n [] [[0x20]] toks (sepTokOK_of_only hnOnly ht)

theorem replaceAll_over (hsp : [0x20] ∈ V) (toks : List (List Int)) (ht : ∀ t ∈ toks, t ∈ V)
    (sep : List (List Int)) : ∀ t ∈ replaceAll toks sep [[0x20]], t ∈ V := by
  intro t h
  rcases replaceAll_mem toks sep [[0x20]] t h with h | h
  · exact ht t h
  · rw [List.mem_singleton] at h; rw [h]; exact hsp

theorem joinWith_bridge (n : Int) (ls : List (List (List Int))) :
    joinWith [n] (ls.map List.flatten) = (joinWith [[n]] ls).flatten :=
  joinWith_flatten [[n]] ls

/-- `strings.HasSuffix` (with the instances that plain `isSuffixOf` notation elaborates
to; see `GoodSep`) -/
theorem isSuffixOf_bridge' (hV : VocabStable V = true) (hnOnly : ∀ t ∈ V, n ∈ t → t = [n])
    (toks : List (List Int)) (ht : ∀ t ∈ toks, t ∈ V) :
    ([n] : List Int).isSuffixOf toks.flatten = ([[n]] : List (List Int)).isSuffixOf toks := by
  rw [← isSuffixOf_inst]
  exact (goodSep_rune hV hnOnly).suffix toks ht

theorem GoodSep.isEmpty {S : List (List Int)} (h : GoodSep V S) : S.isEmpty = false := by
  cases S with
  | nil => exact absurd rfl h.ne
  | cons _ _ => rfl

theorem GoodSep.flatten_isEmpty {S : List (List Int)} (h : GoodSep V S) :
    S.flatten.isEmpty = false := by
  rw [BridgeWrap.flatten_isEmpty S h.tok_ne]; exact h.isEmpty

/-- `strings.ReplaceAll` for a good separator -/
theorem GoodSep.replaceAll {S : List (List Int)} (h : GoodSep V S) (new : List (List Int))
    (toks : List (List Int)) (ht : ∀ t ∈ toks, t ∈ V) :
    replaceAll toks.flatten S.flatten new.flatten = (replaceAll toks S new).flatten := by
  unfold RosedVerif.replaceAll
  rw [h.split toks ht, joinWith_flatten]

/-- the separator pre-pass of CollapseSpace / Wrap on runes = flattening of the one on tokens -/
theorem GoodSep.replaceAll' {S : List (List Int)} (h : GoodSep V S)
    (toks : List (List Int)) (ht : ∀ t ∈ toks, t ∈ V) :
    replaceAll' cxA toks.flatten S.flatten = (replaceAll' cxB toks S).flatten := by
  unfold RosedVerif.replaceAll'
  rw [h.isEmpty, h.flatten_isEmpty]
  exact h.replaceAll [[0x20]] toks ht

theorem replaceAll'_over (hsp : [0x20] ∈ V) (toks : List (List Int)) (ht : ∀ t ∈ toks, t ∈ V)
    (sep : List (List Int)) : ∀ t ∈ replaceAll' cxB toks sep, t ∈ V := by
  unfold replaceAll'
  split
  · exact ht
  · exact replaceAll_over hsp toks ht sep

theorem replaceAll'_bridge {n : Int} (hnOnly : ∀ t ∈ V, n ∈ t → t = [n])
    (toks : List (List Int)) (ht : ∀ t ∈ toks, t ∈ V) :
    replaceAll' cxA toks.flatten [n] = (replaceAll' cxB toks [[n]]).flatten :=
  replaceAll_bridge hnOnly toks ht

end vocab

end BridgeOps
end RosedVerif
