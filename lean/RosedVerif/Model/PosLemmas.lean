/-
The position family: character selection, Insert/Delete/Overtype and Commit of the model equal their
specification in `Spec/Pos.lean` (properties C04, C05, C09), in any context whose cluster ends
partition every text (`Ctx.WF`).
-/
import RosedVerif.Spec.Pos
import RosedVerif.Model.Bytes
namespace RosedVerif

/-! ## normalisation of positions -/

theorem Spec.normPosRaw_mem (n p : Int) (hn : 0 ≤ n) :
    0 ≤ Spec.normPosRaw n p ∧ Spec.normPosRaw n p ≤ n := by
  unfold Spec.normPosRaw
  simp only
  omega

/-- `util.RangeToIndexes` treats each position as the documented normalisation does -/
theorem clamp_eq_normPosRaw (n p : Int) (hn : 0 ≤ n) :
    (if (if p < 0 then (if p + n < 0 then 0 else p + n) else p) > n then n
      else (if p < 0 then (if p + n < 0 then 0 else p + n) else p)) = Spec.normPosRaw n p := by
  unfold Spec.normPosRaw
  -- decide the two tests of the first step by hand: `omega` on all the `if`s at once is four times dearer
  by_cases hp : p < 0 <;> by_cases hq : p + n < 0 <;> simp only [hp, hq, if_true, if_false] <;> omega

theorem rangeToIndexes_eq (n s e : Int) (hn : 0 ≤ n) :
    rangeToIndexes n s e = Spec.normRangeRaw n s e := by
  simp only [rangeToIndexes, Spec.normRangeRaw, clamp_eq_normPosRaw _ _ hn]

theorem rangeToIndexes_id (n a b : Int) (h0 : 0 ≤ a) (h1 : a ≤ b) (h2 : b ≤ n) :
    rangeToIndexes n a b = (a, b) := by
  unfold rangeToIndexes
  simp only [show ¬ a < 0 by omega, show ¬ b < 0 by omega, show ¬ b > n by omega,
    show ¬ a > n by omega, show ¬ b < a by omega, if_false]

/-- `normRange` is `normRangeRaw` after the End sentinel has been mapped to `n` -/
theorem normRange_eq_raw_l (n s e : Int) :
    Spec.normRange n s e =
      Spec.normRangeRaw n (if s == Gen.endSentinel then n else s)
        (if e == Gen.endSentinel then n else e) := rfl

/-- the model's normalisation (End ↦ n, then `rangeToIndexes`) is the documented one -/
theorem rangeToIndexes_eq_normRange (n s e : Int) (hn : 0 ≤ n) :
    rangeToIndexes n (if s == Gen.endSentinel then n else s)
        (if e == Gen.endSentinel then n else e) = Spec.normRange n s e :=
  (rangeToIndexes_eq _ _ _ hn).trans (normRange_eq_raw_l n s e).symm

theorem normPos_bounds (n p : Int) (hn : 0 ≤ n) : 0 ≤ Spec.normPos n p ∧ Spec.normPos n p ≤ n :=
  Spec.normPosRaw_mem n _ hn

theorem Spec.normRange_bounds (n s e : Int) (hn : 0 ≤ n) :
    0 ≤ (Spec.normRange n s e).1 ∧ (Spec.normRange n s e).1 ≤ (Spec.normRange n s e).2 ∧
      (Spec.normRange n s e).2 ≤ n := by
  have hs := normPos_bounds n s hn
  have he := normPos_bounds n e hn
  simp only [Spec.normRange]
  omega

theorem normRange_nat (n : Nat) (s e : Int) :
    ∃ a b : Nat, a ≤ b ∧ b ≤ n ∧ Spec.normRange (n : Int) s e = ((a : Int), (b : Int)) := by
  obtain ⟨h0, h1, h2⟩ := Spec.normRange_bounds (n : Int) s e (Int.natCast_nonneg n)
  exact ⟨_, _, Int.toNat_le_toNat h1, Int.toNat_le.2 h2,
    Prod.ext (Int.toNat_of_nonneg h0).symm (Int.toNat_of_nonneg (Int.le_trans h0 h1)).symm⟩

/-- the End sentinel is negative -/
theorem normPos_of_nonneg (n p : Int) (h0 : 0 ≤ p) : Spec.normPos n p = Spec.normPosRaw n p := by
  have : (p == Gen.endSentinel) = false := by
    rw [beq_eq_false_iff_ne]; unfold Gen.endSentinel; omega
  unfold Spec.normPos
  rw [this]
  rfl

theorem normPosRaw_of_mem (n p : Int) (h0 : 0 ≤ p) (hn : p ≤ n) : Spec.normPosRaw n p = p := by
  unfold Spec.normPosRaw
  simp only
  omega

theorem normPos_of_mem (n p : Int) (h0 : 0 ≤ p) (hn : p ≤ n) : Spec.normPos n p = p :=
  (normPos_of_nonneg n p h0).trans (normPosRaw_of_mem n p h0 hn)

theorem normPos_of_ge (n p : Int) (hn : 0 ≤ n) (h : n ≤ p) : Spec.normPos n p = n := by
  rw [normPos_of_nonneg n p (by omega)]
  unfold Spec.normPosRaw
  simp only
  omega

/-- a non-negative position is clamped to `n` -/
theorem normPos_clamp (n x : Int) (hn : 0 ≤ n) (hx : 0 ≤ x) :
    Spec.normPos n x = if x > n then n else x := by
  split
  · exact normPos_of_ge n x hn (by omega)
  · exact normPos_of_mem n x hx (by omega)

theorem normPos_end (n : Int) (hn : 0 ≤ n) : Spec.normPos n Gen.endSentinel = n := by
  unfold Spec.normPos
  rw [if_pos (beq_self_eq_true _)]
  exact normPosRaw_of_mem n n hn (Int.le_refl n)

theorem normRange_of_mem (n a b : Int) (h0 : 0 ≤ a) (hab : a ≤ b) (hbn : b ≤ n) :
    Spec.normRange n a b = (a, b) := by
  simp only [Spec.normRange]
  rw [normPos_of_mem n a h0 (Int.le_trans hab hbn), normPos_of_mem n b (Int.le_trans h0 hab) hbn,
    if_neg (Int.not_lt.2 hab)]

theorem normRange_zero (n p : Int) (hn : 0 ≤ n) :
    Spec.normRange n 0 p = (0, Spec.normPos n p) := by
  have h := normPos_bounds n p hn
  simp only [Spec.normRange, normPos_of_mem n 0 (Int.le_refl 0) hn, Prod.mk.injEq, true_and]
  omega

/-- an end position that normalises to `n` -/
theorem normRange_to (n p q : Int) (hn : 0 ≤ n) (hq : Spec.normPos n q = n) :
    Spec.normRange n p q = (Spec.normPos n p, n) := by
  have h := normPos_bounds n p hn
  simp only [Spec.normRange, hq, Prod.mk.injEq, true_and]
  omega

theorem normRange_to_end (n p : Int) (hn : 0 ≤ n) :
    Spec.normRange n p Gen.endSentinel = (Spec.normPos n p, n) :=
  normRange_to n p _ hn (normPos_end n hn)

/-! ## partitions -/

/-- `e` lists the exclusive ends of the clusters of a text of `n` atoms: strictly increasing, inside
`(0, n]`, the last one `n` (so no cluster is empty and the clusters cover the text) -/
structure Part (e : List Nat) (n : Nat) : Prop where
  sorted : e.Pairwise (· < ·)
  pos : ∀ j ∈ e, 0 < j ∧ j ≤ n
  last : n ≠ 0 → e.getLast? = some n

/-- what the position lemmas assume of a context: the segmentation partitions every text, and every
atom has a positive byte length (so byte offsets determine atom positions) -/
def Ctx.WF {α : Type} (cx : Ctx α) : Prop :=
  (∀ s, Part (cx.ends s) s.length) ∧ (∀ a, 0 < cx.blen a)

/-- The selectors ask for the positive byte lengths on the text of their receiver only (so that
they hold in `cxB`, on texts without the empty token). -/
theorem Ctx.WF.pos {α : Type} {cx : Ctx α} (hwf : cx.WF) (t : List α) : ∀ a ∈ t, 0 < cx.blen a :=
  fun a _ => hwf.2 a

section partitions
variable {α : Type}

/-- the generalised invariant for `clustersFrom s prev e` -/
structure PartFrom (prev : Nat) (e : List Nat) (n : Nat) : Prop where
  sorted : (prev :: e).Pairwise (· < ·)
  le : ∀ j ∈ prev :: e, j ≤ n
  last : (prev :: e).getLast? = some n

theorem getD_mem_p (e : List Nat) (k : Nat) (hk : k < e.length) : e.getD k 0 ∈ e := by
  rw [List.getD_eq_getElem?_getD, List.getElem?_eq_getElem hk]
  exact List.getElem_mem hk

theorem Part.nil_of_zero {e : List Nat} (h : Part e 0) : e = [] := by
  cases e with
  | nil => rfl
  | cons x xs =>
    have := h.pos x (List.mem_cons_self)
    omega

theorem Part.toFrom {e : List Nat} {n : Nat} (h : Part e n) : PartFrom 0 e n := by
  refine ⟨?_, ?_, ?_⟩
  · exact List.pairwise_cons.2 ⟨fun a ha => (h.pos a ha).1, h.sorted⟩
  · intro j hj
    rcases List.mem_cons.1 hj with rfl | hj
    · exact Nat.zero_le _
    · exact (h.pos j hj).2
  · by_cases hn : n = 0
    · subst hn
      rw [h.nil_of_zero]; rfl
    · rw [List.getLast?_cons, h.last hn]; rfl

theorem PartFrom.tail {prev x : Nat} {es : List Nat} {n : Nat} (h : PartFrom prev (x :: es) n) :
    PartFrom x es n := by
  refine ⟨(List.pairwise_cons.1 h.sorted).2, fun j hj => h.le j (List.mem_cons_of_mem _ hj), ?_⟩
  have := h.last
  rwa [List.getLast?_cons_cons] at this

theorem PartFrom.lt_head {prev x : Nat} {es : List Nat} {n : Nat} (h : PartFrom prev (x :: es) n) :
    prev < x := (List.pairwise_cons.1 h.sorted).1 x List.mem_cons_self

theorem PartFrom.length_le {prev : Nat} {e : List Nat} {n : Nat} (h : PartFrom prev e n) :
    prev + e.length ≤ n := by
  induction e generalizing prev with
  | nil => exact h.le prev List.mem_cons_self
  | cons x es ih =>
    have := ih h.tail
    have := h.lt_head
    simp only [List.length_cons]; omega

theorem Part.length_le {e : List Nat} {n : Nat} (h : Part e n) : e.length ≤ n := by
  have := h.toFrom.length_le; omega

/-- rune offset at which cluster `k` starts (`= n` for `k = e.length`) -/
def cOff (e : List Nat) (k : Nat) : Nat := if k = 0 then 0 else e.getD (k - 1) 0

theorem clusterSpan_fst (e : List Nat) (k : Nat) : (clusterSpan e k).1 = cOff e k := by
  cases k <;> rfl

/-- the last of the first `k` ends is where cluster `k` starts -/
theorem getLastD_take_eq_cOff (e : List Nat) {k : Nat} (hk : k ≤ e.length) :
    (e.take k).getLastD 0 = cOff e k := by
  cases k with
  | zero => rfl
  | succ k =>
    rw [List.getLastD_eq_getLast?, List.getLast?_eq_getElem?, List.length_take,
      Nat.min_eq_left hk, Nat.add_sub_cancel, List.getElem?_take_of_lt (Nat.lt_succ_self k)]
    exact List.getD_eq_getElem?_getD.symm

theorem clustersFrom_length' (s : List α) (prev : Nat) (e : List Nat) :
    (clustersFrom s prev e).length = e.length := by
  induction e generalizing prev with
  | nil => rfl
  | cons x es ih => simp only [clustersFrom, List.length_cons, ih]

theorem take_clustersFrom (s : List α) (prev : Nat) (e : List Nat) (k : Nat) :
    (clustersFrom s prev e).take k = clustersFrom s prev (e.take k) := by
  induction e generalizing prev k with
  | nil => rw [List.take_nil, clustersFrom, List.take_nil]
  | cons x es ih =>
    cases k with
    | zero => rfl
    | succ k => rw [clustersFrom, List.take_succ_cons, List.take_succ_cons, clustersFrom, ih]

theorem sliceRunes_append (s : List α) {a b c : Nat} (hab : a ≤ b) (hbc : b ≤ c) :
    sliceRunes s a b ++ sliceRunes s b c = sliceRunes s a c := by
  unfold sliceRunes
  rw [show c - a = (b - a) + (c - b) by omega, List.take_add, List.drop_drop,
    Nat.add_sub_cancel' hab]

/-- the clusters between increasing boundaries concatenate to the runes from the first boundary
to the last -/
theorem clustersFrom_flatten_sorted (s : List α) (prev : Nat) (e : List Nat)
    (h : (prev :: e).Pairwise (· < ·)) :
    (clustersFrom s prev e).flatten = sliceRunes s prev (e.getLastD prev) := by
  induction e generalizing prev with
  | nil => simp only [clustersFrom, List.flatten_nil, List.getLastD_nil, sliceRunes, Nat.sub_self,
      List.take_zero]
  | cons x es ih =>
    have hx := List.pairwise_cons.1 h
    have hle : x ≤ es.getLastD x := by
      rcases List.mem_cons.1 (List.getLastD_mem_cons (l := es) (a := x)) with h1 | h1
      · exact Nat.le_of_eq h1.symm
      · exact Nat.le_of_lt ((List.pairwise_cons.1 hx.2).1 _ h1)
    rw [clustersFrom, List.flatten_cons, ih x hx.2, List.getLastD_cons,
      sliceRunes_append s (Nat.le_of_lt (hx.1 x List.mem_cons_self)) hle]

theorem clustersFrom_nonempty_from (s : List α) (prev : Nat) (e : List Nat)
    (h : PartFrom prev e s.length) : ∀ c ∈ clustersFrom s prev e, c ≠ [] := by
  induction e generalizing prev with
  | nil => intro c hc; cases hc
  | cons x es ih =>
    intro c hc
    rcases List.mem_cons.1 hc with rfl | hc
    · have hlt := h.lt_head
      have hle := h.le x (List.mem_cons_of_mem _ List.mem_cons_self)
      intro h0
      have := congrArg List.length h0
      simp only [sliceRunes, List.length_take, List.length_drop, List.length_nil] at this
      omega
    · exact ih x h.tail c hc

variable {s : List α} {e : List Nat}

theorem clustersFrom_flatten (h : Part e s.length) : (clustersFrom s 0 e).flatten = s := by
  have hl := h.toFrom.last
  rw [List.getLast?_cons, Option.some.injEq, ← List.getLastD_eq_getLast?] at hl
  rw [clustersFrom_flatten_sorted s 0 e h.toFrom.sorted, hl, sliceRunes, List.drop_zero,
    Nat.sub_zero, List.take_length]

theorem clustersFrom_length (_h : Part e s.length) : (clustersFrom s 0 e).length = e.length :=
  clustersFrom_length' s 0 e

theorem clustersFrom_nonempty (h : Part e s.length) : ∀ c ∈ clustersFrom s 0 e, c ≠ [] :=
  clustersFrom_nonempty_from s 0 e h.toFrom

theorem clustersFrom_take_cOff (h : Part e s.length) (k : Nat) (hk : k ≤ e.length) :
    ((clustersFrom s 0 e).take k).flatten = s.take (cOff e k) := by
  rw [take_clustersFrom, clustersFrom_flatten_sorted, getLastD_take_eq_cOff e hk, sliceRunes,
    List.drop_zero, Nat.sub_zero]
  exact h.toFrom.sorted.sublist ((List.take_sublist k e).cons_cons 0)

theorem Part.cOff_le (h : Part e s.length) {a : Nat} (ha : a ≤ e.length) :
    cOff e a ≤ s.length := by
  unfold cOff
  split
  · omega
  · exact (h.pos _ (getD_mem_p e (a - 1) (by omega))).2

theorem Part.cOff_mono (h : Part e s.length) {a b : Nat} (hab : a ≤ b) (hb : b ≤ e.length) :
    cOff e a ≤ cOff e b := by
  -- compare the lengths of the two prefixes
  have h1 := congrArg List.length (flatten_take_split (clustersFrom s 0 e) hab)
  rw [clustersFrom_take_cOff h a (by omega), clustersFrom_take_cOff h b hb, List.length_append,
    List.length_take, List.length_take] at h1
  have := h.cOff_le (a := a) (by omega)
  have := h.cOff_le hb
  omega

/-- non-vacuity: the trivial segmentation (every atom its own cluster, instance B) is a partition -/
theorem part_range' (n : Nat) : Part (List.range' 1 n) n := by
  refine ⟨List.pairwise_lt_range', ?_, ?_⟩
  · intro j hj
    rw [List.mem_range'_1] at hj
    omega
  · intro hn
    rw [List.getLast?_range', if_neg hn]
    congr 1
    omega

end partitions

/-! ## the trivial segmentation: every atom is its own cluster -/

section triv
variable {α : Type} (cx : Ctx α)

theorem gLen_triv (htriv : ∀ s, cx.ends s = List.range' 1 s.length) (s : List α) :
    gLen cx s = s.length := by
  simp only [gLen, htriv, List.length_range']

theorem getD_range'_pred {n k : Nat} (h0 : 0 < k) (h : k ≤ n) :
    (List.range' 1 n).getD (k - 1) 0 = k := by
  rw [List.getD_eq_getElem?_getD, List.getElem?_range' (by omega), Option.getD_some]
  omega

theorem gSub_triv (htriv : ∀ s, cx.ends s = List.range' 1 s.length) (s : List α) (a b : Nat)
    (hab : a ≤ b) (hb : b ≤ s.length) :
    gSub cx s (a : Int) (b : Int) = (s.drop a).take (b - a) := by
  unfold gSub
  rw [htriv]
  dsimp only
  rw [List.length_range', rangeToIndexes_id _ _ _ (by omega) (by omega) (by omega)]
  dsimp only
  by_cases h : a = b
  · subst h
    rw [if_pos (beq_self_eq_true _), Nat.sub_self, List.take_zero]
  · rw [if_neg (by rw [beq_iff_eq]; omega), Int.toNat_natCast, Int.toNat_natCast,
      getD_range'_pred (by omega) hb]
    by_cases ha : a = 0
    · subst ha
      rfl
    · rw [if_pos (by omega), getD_range'_pred (by omega) (by omega)]
      rfl

theorem gSub_triv_int (htriv : ∀ s, cx.ends s = List.range' 1 s.length) (s : List α) (a b : Int)
    (h0 : 0 ≤ a) (hab : a ≤ b) (hb : b ≤ s.length) :
    gSub cx s a b = (s.drop a.toNat).take (b.toNat - a.toNat) := by
  have := gSub_triv cx htriv s a.toNat b.toNat (by omega) (by omega)
  rwa [Int.toNat_of_nonneg h0, Int.toNat_of_nonneg (by omega)] at this

end triv

/-! ## selecting a range of pieces

`Spec.selectClusters` and `Spec.selectLines` select the pieces `[s, e)` of a list of pieces (the
clusters, the lines with their terminators) that concatenate to the text. -/

section pieces
variable {α : Type} {cx : Ctx α}

/-- selection of the pieces [s, e): (before, selected, after).  A notion of the proofs, not of the
specification: the common body of `Spec.selectClusters` and `Spec.selectLines` -/
def Spec.selectPieces (ps : List (List α)) (s e : Int) : List α × List α × List α :=
  let (s', e') := Spec.normRange ps.length s e
  (Spec.joinL (ps.take s'.toNat), Spec.joinL ((ps.drop s'.toNat).take (e' - s').toNat),
    Spec.joinL (ps.drop e'.toNat))

theorem Spec.selectClusters_eq_pieces (t : List α) (s e : Int) :
    Spec.selectClusters cx t s e = Spec.selectPieces (clusters cx t) s e := rfl

theorem Spec.selectLines_eq_pieces [DecidableEq α] (text sep : List α) (nt : Bool) (s e : Int) :
    Spec.selectLines text sep nt s e = Spec.selectPieces (Spec.linePieces text sep nt) s e := rfl

theorem Spec.selectPieces_eq {ps : List (List α)} {s e : Int} {a b : Nat}
    (hr : Spec.normRange (ps.length : Int) s e = ((a : Int), (b : Int))) :
    Spec.selectPieces ps s e =
      ((ps.take a).flatten, ((ps.drop a).take (b - a)).flatten, (ps.drop b).flatten) := by
  simp only [Spec.selectPieces, hr, Spec.joinL, Int.toNat_natCast]
  rw [show ((b : Int) - (a : Int)).toNat = b - a by omega]

/-- the three parts of a selection partition the text -/
theorem Spec.selectPieces_concat (ps : List (List α)) (s e : Int) :
    (Spec.selectPieces ps s e).1 ++ (Spec.selectPieces ps s e).2.1 ++
      (Spec.selectPieces ps s e).2.2 = ps.flatten := by
  obtain ⟨a, b, hab, -, hr⟩ := normRange_nat ps.length s e
  rw [Spec.selectPieces_eq hr]
  simp only []
  rw [← flatten_take_split _ hab, ← flatten_take_drop]

/-- a selector of the model that cuts its receiver at the byte offsets of the pieces `a` and `b`
of the normalised range returns the specification's selection -/
theorem Editor.subEd_selectPieces (ed : Editor α) (hpos : ∀ a ∈ ed.text, 0 < cx.blen a)
    {ps : List (List α)} (hfl : ps.flatten = ed.text) (s e : Int) {a b : Nat} (hab : a ≤ b)
    (hr : Spec.normRange (ps.length : Int) s e = ((a : Int), (b : Int))) :
    ed.subEd cx (byteLen cx (ps.take a).flatten) (byteLen cx (ps.take b).flatten) =
      .ok (.sub (Spec.selectPieces ps s e).2.1 ed.opts ed
        (byteLen cx (Spec.selectPieces ps s e).1)
        (byteLen cx ((Spec.selectPieces ps s e).1 ++ (Spec.selectPieces ps s e).2.1))) := by
  rw [Spec.selectPieces_eq hr, flatten_take_split ps hab]
  exact Editor.subEd_parts ed hpos (af := (ps.drop b).flatten)
    (by rw [← flatten_take_split ps hab, ← flatten_take_drop, hfl])

end pieces

/-! ## character selection (C04) -/

section chars
variable {α : Type} (cx : Ctx α)

theorem clusters_length (t : List α) : (clusters cx t).length = (cx.ends t).length :=
  clustersFrom_length' t 0 (cx.ends t)

theorem Editor.charCount_eq (ed : Editor α) : ed.charCount cx = (clusters cx ed.text).length :=
  (clusters_length cx ed.text).symm

theorem gLen_eq_clusters_length (t : List α) : gLen cx t = (clusters cx t).length :=
  (clusters_length cx t).symm

variable {cx}

theorem clusters_flatten (hwf : cx.WF) (t : List α) : (clusters cx t).flatten = t :=
  clustersFrom_flatten (hwf.1 t)

theorem clusters_nonempty (hwf : cx.WF) (t : List α) : ∀ c ∈ clusters cx t, c ≠ [] :=
  clustersFrom_nonempty (hwf.1 t)

theorem clusters_take (hwf : cx.WF) (t : List α) (k : Nat) (hk : k ≤ (clusters cx t).length) :
    ((clusters cx t).take k).flatten = t.take (cOff (cx.ends t) k) :=
  clustersFrom_take_cOff (hwf.1 t) k (by rw [← clusters_length]; exact hk)

theorem clusters_drop (hwf : cx.WF) (t : List α) (k : Nat) (hk : k ≤ (clusters cx t).length) :
    ((clusters cx t).drop k).flatten = t.drop (cOff (cx.ends t) k) := by
  have h1 := flatten_take_drop (clusters cx t) k
  rw [clusters_flatten hwf, clusters_take hwf t k hk] at h1
  exact List.append_cancel_left (h1.symm.trans (List.take_append_drop _ t).symm)

theorem clusters_mid (hwf : cx.WF) (t : List α) {a b : Nat} (hab : a ≤ b)
    (hb : b ≤ (clusters cx t).length) :
    (((clusters cx t).drop a).take (b - a)).flatten =
      sliceRunes t (cOff (cx.ends t) a) (cOff (cx.ends t) b) := by
  have h1 := flatten_take_split (clusters cx t) hab
  rw [clusters_take hwf t b hb, clusters_take hwf t a (by omega)] at h1
  have hm : cOff (cx.ends t) a ≤ cOff (cx.ends t) b :=
    (hwf.1 t).cOff_mono hab (by rw [← clusters_length]; exact hb)
  rw [take_eq_take_append t hm] at h1
  exact (List.append_cancel_left h1).symm

/-- cluster count ≤ rune count ≤ byte count -/
theorem clusters_length_le_byteLen {t : List α} (hp : Part (cx.ends t) t.length)
    (hb : ∀ a ∈ t, 0 < cx.blen a) : (clusters cx t).length ≤ byteLen cx t := by
  rw [clusters_length]
  exact Nat.le_trans hp.length_le (length_le_byteLen hb)

/-- the specification's selection, in terms of clusters -/
theorem selectClusters_eq_clusters (t : List α) (s e : Int) (a b : Nat)
    (hr : Spec.normRange ((clusters cx t).length : Int) s e = ((a : Int), (b : Int))) :
    Spec.selectClusters cx t s e =
      (((clusters cx t).take a).flatten, (((clusters cx t).drop a).take (b - a)).flatten,
        ((clusters cx t).drop b).flatten) :=
  Spec.selectPieces_eq hr

/-- the three parts of a selection partition the text -/
theorem selectClusters_concat (hwf : cx.WF) (t : List α) (s e : Int) :
    (Spec.selectClusters cx t s e).1 ++ (Spec.selectClusters cx t s e).2.1 ++
      (Spec.selectClusters cx t s e).2.2 = t :=
  (Spec.selectPieces_concat (clusters cx t) s e).trans (clusters_flatten hwf t)

/-- the byte offset at which cluster `k` starts; the end of the text from the cluster count on -/
def charOff (cx : Ctx α) (t : List α) (k : Nat) : Nat :=
  if k < (cx.ends t).length then byteOff cx t (cOff (cx.ends t) k) else byteLen cx t

variable (cx) in
/-- `Chars` cuts its receiver where the two clusters of the normalised range start, whatever the
context -/
theorem Editor.chars_eq_charOff (ed : Editor α) (s e : Int) :
    ed.chars cx s e =
      ed.subEd cx (charOff cx ed.text (Spec.normRange ((cx.ends ed.text).length : Int) s e).1.toNat)
        (charOff cx ed.text (Spec.normRange ((cx.ends ed.text).length : Int) s e).2.toNat) := by
  have hb := Spec.normRange_bounds ((cx.ends ed.text).length : Int) s e (Int.natCast_nonneg _)
  unfold Editor.chars charOff
  simp only [rangeToIndexes_eq_normRange _ _ _ (Int.natCast_nonneg _), clusterSpan_fst]
  generalize Spec.normRange _ s e = p at hb ⊢
  obtain ⟨st, en⟩ := p
  dsimp only at hb ⊢
  simp only [Int.toNat_lt hb.1, Int.toNat_lt (Int.le_trans hb.1 hb.2.1)]
  by_cases h1 : st ≥ ((cx.ends ed.text).length : Int)
  · rw [if_pos h1, if_neg (Int.not_lt.2 h1), if_neg (Int.not_lt.2 (Int.le_trans h1 hb.2.1))]
  · rw [if_neg h1, if_pos (Int.not_le.1 h1)]

theorem charOff_eq_byteLen {t : List α} (hp : Part (cx.ends t) t.length) {k : Nat}
    (hk : k ≤ (clusters cx t).length) :
    charOff cx t k = byteLen cx ((clusters cx t).take k).flatten := by
  unfold charOff
  split
  · exact congrArg (byteLen cx) (clustersFrom_take_cOff hp k (clusters_length cx t ▸ hk)).symm
  · rw [List.take_of_length_le (by rw [clusters_length]; omega)]
    exact congrArg (byteLen cx) (clustersFrom_flatten hp).symm

/-- where the segmentation partitions the text these offsets are the byte lengths of the cluster
prefixes `a` and `b` of the normalised range -/
theorem Editor.chars_eq_subEd (ed : Editor α) (hp : Part (cx.ends ed.text) ed.text.length)
    (s e : Int) {a b : Nat} (hab : a ≤ b)
    (hb : b ≤ (clusters cx ed.text).length)
    (hr : Spec.normRange ((clusters cx ed.text).length : Int) s e = ((a : Int), (b : Int))) :
    ed.chars cx s e =
      ed.subEd cx (byteLen cx ((clusters cx ed.text).take a).flatten)
        (byteLen cx ((clusters cx ed.text).take b).flatten) := by
  rw [Editor.chars_eq_charOff, ← clusters_length, hr]
  dsimp only
  rw [Int.toNat_natCast, Int.toNat_natCast, charOff_eq_byteLen hp (Nat.le_trans hab hb),
    charOff_eq_byteLen hp hb]

/-- `Chars(s, e)` is the sub-editor over the selected clusters, cut at the byte range
`[len(before), len(before ++ selected))` of the parent's text (the statement of property C04) -/
theorem Editor.chars_eq_spec (hp : ∀ s, Part (cx.ends s) s.length) (ed : Editor α)
    (hb : ∀ a ∈ ed.text, 0 < cx.blen a) (s e : Int) :
    ed.chars cx s e =
      .ok (.sub (Spec.selectClusters cx ed.text s e).2.1 ed.opts ed
        (byteLen cx (Spec.selectClusters cx ed.text s e).1)
        (byteLen cx ((Spec.selectClusters cx ed.text s e).1 ++
          (Spec.selectClusters cx ed.text s e).2.1))) := by
  obtain ⟨a, b, hab, hb', hr⟩ := normRange_nat (clusters cx ed.text).length s e
  rw [Editor.chars_eq_subEd ed (hp _) s e hab hb' hr, Spec.selectClusters_eq_pieces]
  exact Editor.subEd_selectPieces ed hb (clustersFrom_flatten (hp _)) s e hab hr

/-- same, with the selection named -/
theorem Editor.chars_eq_spec' (hwf : cx.WF) (ed : Editor α) (s e : Int) (bf sel af : List α)
    (h : Spec.selectClusters cx ed.text s e = (bf, sel, af)) :
    ed.chars cx s e = .ok (.sub sel ed.opts ed (byteLen cx bf) (byteLen cx (bf ++ sel))) ∧
      bf ++ sel ++ af = ed.text := by
  have h1 := Editor.chars_eq_spec hwf.1 ed (hwf.pos _) s e
  have h2 := selectClusters_concat hwf ed.text s e
  rw [h] at h1 h2
  exact ⟨h1, h2⟩

/-- `CharsFrom(s)` passes the byte length as the end position; it normalises to the cluster
count, i.e. to `End`. -/
theorem Editor.charsFrom_eq_chars_end (hp : ∀ s, Part (cx.ends s) s.length) (ed : Editor α)
    (hb : ∀ a ∈ ed.text, 0 < cx.blen a) (s : Int) :
    ed.charsFrom cx s = ed.chars cx s Gen.endSentinel := by
  have hle := clusters_length_le_byteLen (hp _) hb
  have hn := Int.natCast_nonneg (cx.ends ed.text).length
  rw [clusters_length] at hle
  unfold Editor.charsFrom
  rw [Editor.chars_eq_charOff, Editor.chars_eq_charOff,
    normRange_to _ _ _ hn (normPos_of_ge _ _ hn (by omega)), normRange_to_end _ _ hn]

/-- the position `p` normalised over the clusters of `t`, as a natural number (a notion of the
proofs: the specification's `Insert`, `Delete` and `Overtype` are stated with `Spec.normPos`) -/
def Spec.posNat (cx : Ctx α) (t : List α) (p : Int) : Nat :=
  (Spec.normPos ((clusters cx t).length : Int) p).toNat

theorem Spec.posNat_le (t : List α) (p : Int) : Spec.posNat cx t p ≤ (clusters cx t).length := by
  have := normPos_bounds ((clusters cx t).length : Int) p (Int.natCast_nonneg _)
  unfold Spec.posNat; omega

theorem Spec.posNat_cast (t : List α) (p : Int) :
    ((Spec.posNat cx t p : Nat) : Int) = Spec.normPos ((clusters cx t).length : Int) p := by
  have := normPos_bounds ((clusters cx t).length : Int) p (Int.natCast_nonneg _)
  unfold Spec.posNat; omega

/-- `CharsTo(p)` selects the clusters before `p` -/
theorem Editor.charsTo_eq_spec (hp : ∀ s, Part (cx.ends s) s.length) (ed : Editor α)
    (hb : ∀ a ∈ ed.text, 0 < cx.blen a) (p : Int) :
    ed.charsTo cx p =
      .ok (.sub ((clusters cx ed.text).take (Spec.posNat cx ed.text p)).flatten ed.opts ed
        (0 : Nat) (byteLen cx ((clusters cx ed.text).take (Spec.posNat cx ed.text p)).flatten)) := by
  have hr : Spec.normRange ((clusters cx ed.text).length : Int) 0 p =
      (((0 : Nat) : Int), ((Spec.posNat cx ed.text p : Nat) : Int)) := by
    rw [normRange_zero _ _ (Int.natCast_nonneg _), Spec.posNat_cast]; rfl
  unfold Editor.charsTo
  rw [Editor.chars_eq_spec hp ed hb, selectClusters_eq_clusters _ _ _ _ _ hr]
  simp only [List.take_zero, List.flatten_nil, List.drop_zero, Nat.sub_zero, List.nil_append,
    byteLen_nil]

/-- `CharsFrom(p)` selects the clusters from `p` on -/
theorem Editor.charsFrom_eq_spec (hp : ∀ s, Part (cx.ends s) s.length) (ed : Editor α)
    (hb : ∀ a ∈ ed.text, 0 < cx.blen a) (p : Int) :
    ed.charsFrom cx p =
      .ok (.sub ((clusters cx ed.text).drop (Spec.posNat cx ed.text p)).flatten ed.opts ed
        (byteLen cx ((clusters cx ed.text).take (Spec.posNat cx ed.text p)).flatten)
        (byteLen cx ed.text)) := by
  have hr : Spec.normRange ((clusters cx ed.text).length : Int) p Gen.endSentinel =
      (((Spec.posNat cx ed.text p : Nat) : Int), (((clusters cx ed.text).length : Nat) : Int)) := by
    rw [normRange_to_end _ _ (Int.natCast_nonneg _), Spec.posNat_cast]
  rw [Editor.charsFrom_eq_chars_end hp ed hb, Editor.chars_eq_spec hp ed hb,
    selectClusters_eq_clusters _ _ _ _ _ hr]
  simp only []
  rw [List.take_of_length_le (by rw [List.length_drop]; exact Nat.le_refl _),
    ← List.flatten_append, List.take_append_drop,
    show (clusters cx ed.text).flatten = ed.text from clustersFrom_flatten (hp _)]

end chars

/-! ## Insert / Delete / Overtype (C09) -/

section edits
variable {α : Type} {cx : Ctx α}

theorem Spec.insert_eq (t : List α) (p : Int) (x : List α) :
    Spec.insert cx t p x =
      ((clusters cx t).take (Spec.posNat cx t p)).flatten ++ x ++
        ((clusters cx t).drop (Spec.posNat cx t p)).flatten := rfl

theorem Editor.insert_eq_spec (hp : ∀ s, Part (cx.ends s) s.length) (ed : Editor α)
    (hb : ∀ a ∈ ed.text, 0 < cx.blen a) (p : Int) (x : List α) :
    ed.insert cx p x = .ok (ed.withText (Spec.insert cx ed.text p x)) := by
  unfold Editor.insert
  rw [Editor.charsTo_eq_spec hp ed hb, Editor.charsFrom_eq_spec hp ed hb, Spec.insert_eq]
  rfl

theorem Spec.delete_eq (t : List α) (s e : Int) :
    Spec.delete cx t s e =
      (Spec.selectClusters cx t s e).1 ++ (Spec.selectClusters cx t s e).2.2 := by
  unfold Spec.delete
  generalize Spec.selectClusters cx t s e = r
  obtain ⟨b, m, a⟩ := r
  rfl

theorem Spec.posNat_of_nat (t : List α) (a : Nat) (ha : a ≤ (clusters cx t).length) :
    Spec.posNat cx t (a : Int) = a := by
  unfold Spec.posNat
  rw [normPos_of_mem _ _ (Int.natCast_nonneg _) (by omega), Int.toNat_natCast]

theorem Editor.delete_eq_spec (hwf : cx.WF) (ed : Editor α) (s e : Int) :
    ed.delete cx s e = .ok (ed.withText (Spec.delete cx ed.text s e)) := by
  obtain ⟨a, b, hab, hb, hr⟩ := normRange_nat (clusters cx ed.text).length s e
  rw [Spec.delete_eq, selectClusters_eq_clusters _ _ _ _ _ hr]
  unfold Editor.delete
  simp only [Editor.charCount_eq, rangeToIndexes_eq_normRange _ _ _ (Int.natCast_nonneg _), hr]
  by_cases h : (a : Int) ≥ (b : Int)
  · obtain rfl : a = b := by omega
    rw [if_pos h, ← List.flatten_append, List.take_append_drop, clusters_flatten hwf,
      Editor.withText_self]
    rfl
  · rw [if_neg h, Editor.charsTo_eq_spec hwf.1 ed (hwf.pos _),
      Editor.charsFrom_eq_spec hwf.1 ed (hwf.pos _),
      Spec.posNat_of_nat _ a (by omega), Spec.posNat_of_nat _ b hb]
    rfl

theorem wrap64_of_range (x : Int) (h0 : 0 ≤ x) (h1 : x < 2 ^ 63) : wrap64 x = x := by
  unfold wrap64
  omega

theorem Spec.overtype_eq (t : List α) (p : Int) (x : List α) :
    Spec.overtype cx t p x =
      ((clusters cx t).take (Spec.posNat cx t p)).flatten ++ x ++
        ((clusters cx t).drop
          (if Spec.normPos ((clusters cx t).length : Int) p + (gLen cx x : Int) >
              ((clusters cx t).length : Int)
            then ((clusters cx t).length : Int)
            else Spec.normPos ((clusters cx t).length : Int) p + (gLen cx x : Int)).toNat).flatten :=
  rfl

/-- the body of `Editor.overtype` after the position has been normalised -/
def overtypeIdx (cx : Ctx α) (ed : Editor α) (pos : Int) (t : List α) : R (Editor α) := do
  let before := (← ed.charsTo cx pos).text
  let after := (← ed.charsFrom cx (wrap64 (pos + gLen cx t))).text
  pure (ed.withText (before ++ t ++ after))

theorem Editor.overtype_unfold (ed : Editor α) (p : Int) (x : List α) :
    ed.overtype cx p x =
      overtypeIdx cx ed (Spec.normPos ((clusters cx ed.text).length : Int) p) x := by
  have : Spec.normPos ((clusters cx ed.text).length : Int) p =
      (Spec.normRange ((clusters cx ed.text).length : Int) p p).1 := rfl
  rw [this, ← rangeToIndexes_eq_normRange _ _ _ (Int.natCast_nonneg _), ← Editor.charCount_eq]
  rfl

/-- provided `pos + len(x)` does not wrap around in 64-bit arithmetic -/
theorem Editor.overtype_eq_spec (hwf : cx.WF) (ed : Editor α) (p : Int) (x : List α)
    (hno : (gLen cx ed.text : Int) + (gLen cx x : Int) < 2 ^ 63) :
    ed.overtype cx p x = .ok (ed.withText (Spec.overtype cx ed.text p x)) := by
  have hb := normPos_bounds ((clusters cx ed.text).length : Int) p (Int.natCast_nonneg _)
  rw [gLen_eq_clusters_length] at hno
  rw [Editor.overtype_unfold, Spec.overtype_eq]
  unfold overtypeIdx
  rw [Editor.charsTo_eq_spec hwf.1 ed (hwf.pos _), Editor.charsFrom_eq_spec hwf.1 ed (hwf.pos _),
    wrap64_of_range _ (by omega) (by omega)]
  have hp : Spec.posNat cx ed.text (Spec.normPos ((clusters cx ed.text).length : Int) p) =
      Spec.posNat cx ed.text p := by
    rw [← Spec.posNat_cast, Spec.posNat_of_nat _ _ (Spec.posNat_le _ _)]
  have hq : Spec.posNat cx ed.text
      (Spec.normPos ((clusters cx ed.text).length : Int) p + (gLen cx x : Int)) =
      (if Spec.normPos ((clusters cx ed.text).length : Int) p + (gLen cx x : Int) >
              ((clusters cx ed.text).length : Int)
            then ((clusters cx ed.text).length : Int)
            else Spec.normPos ((clusters cx ed.text).length : Int) p + (gLen cx x : Int)).toNat :=
    congrArg Int.toNat (normPos_clamp _ _ (Int.natCast_nonneg _)
      (Int.add_nonneg hb.1 (Int.natCast_nonneg _)))
  rw [hp, hq]
  rfl

/-- the hypothesis on wrap-around cannot be dropped from the arithmetic: `wrap64` is not the
identity beyond `2^63` -/
theorem wrap64_wraps : wrap64 (2 ^ 63) = -(2 ^ 63) := by decide

/-- Round trip (Spec level): if inserting `x` at `p` creates no new cluster junction effects,
deleting the inserted clusters gives back the text. -/
theorem Spec.delete_insert_wf (hwf : cx.WF) (t : List α) (p : Int) (x : List α)
    (h : clusters cx (Spec.insert cx t p x) =
      (clusters cx t).take (Spec.posNat cx t p) ++ clusters cx x ++
        (clusters cx t).drop (Spec.posNat cx t p)) :
    Spec.delete cx (Spec.insert cx t p x) (Spec.posNat cx t p : Nat)
      ((Spec.posNat cx t p + (clusters cx x).length : Nat) : Int) = t := by
  have hple := Spec.posNat_le (cx := cx) t p
  have hlen : (clusters cx (Spec.insert cx t p x)).length =
      (clusters cx t).length + (clusters cx x).length := by
    rw [h, List.length_append, List.length_append, List.length_take, List.length_drop]; omega
  have hr : Spec.normRange ((clusters cx (Spec.insert cx t p x)).length : Int)
      (Spec.posNat cx t p : Nat) ((Spec.posNat cx t p + (clusters cx x).length : Nat) : Int) =
      (((Spec.posNat cx t p : Nat) : Int),
        ((Spec.posNat cx t p + (clusters cx x).length : Nat) : Int)) :=
    normRange_of_mem _ _ _ (Int.natCast_nonneg _) (Int.ofNat_le.2 (Nat.le_add_right _ _))
      (Int.ofNat_le.2 (hlen ▸ Nat.add_le_add_right hple _))
  rw [Spec.delete_eq, selectClusters_eq_clusters _ _ _ _ _ hr]
  simp only []
  have htl : ((clusters cx t).take (Spec.posNat cx t p)).length = Spec.posNat cx t p := by
    rw [List.length_take]; omega
  have h1 : (clusters cx (Spec.insert cx t p x)).take (Spec.posNat cx t p) =
      (clusters cx t).take (Spec.posNat cx t p) := by
    rw [h, List.append_assoc, List.take_left' htl]
  have h2 : (clusters cx (Spec.insert cx t p x)).drop (Spec.posNat cx t p + (clusters cx x).length) =
      (clusters cx t).drop (Spec.posNat cx t p) := by
    rw [h]
    exact List.drop_left' (by rw [List.length_append, htl])
  rw [h1, h2, ← List.flatten_append, List.take_append_drop]
  exact clusters_flatten hwf t

end edits

/-! ## Commit (C05) -/

section commit
variable {α : Type} {cx : Ctx α}

theorem Editor.commit_root (t : List α) (o : Options α) :
    (Editor.root t o).commit cx = .ok (Editor.root t o) := rfl

/-- `Chars(s, e)` followed by `Commit` of an edited selection replaces the selection in place -/
theorem Editor.chars_commit (hwf : cx.WF) (ed : Editor α) (s e : Int) (t' : List α) :
    ∃ sub, ed.chars cx s e = .ok sub ∧
      (sub.withText t').commit cx =
        .ok (ed.withText ((Spec.selectClusters cx ed.text s e).1 ++ t' ++
          (Spec.selectClusters cx ed.text s e).2.2)) :=
  ⟨_, Editor.chars_eq_spec hwf.1 ed (hwf.pos _) s e,
    Editor.commit_parts t' ed.opts ed (hwf.pos _) (selectClusters_concat hwf ed.text s e).symm⟩

end commit

end RosedVerif
