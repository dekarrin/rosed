/-
Theory of the string functions (`splitOn`, `joinWith`, `indexOf`) and of the line decomposition
built on them (`Spec.linePieces`, `Spec.bareLines`, `Spec.apply`).
-/
import RosedVerif.Spec.Pos
namespace RosedVerif

variable {α : Type}

/-! ### joinWith -/

@[simp] theorem joinWith_nil (sep : List α) : joinWith sep [] = [] := rfl

@[simp] theorem joinWith_singleton (sep x : List α) : joinWith sep [x] = x :=
  List.intercalate_singleton

theorem joinWith_cons_cons (sep x y : List α) (t : List (List α)) :
    joinWith sep (x :: y :: t) = x ++ sep ++ joinWith sep (y :: t) :=
  List.intercalate_cons_cons

theorem joinWith_cons_of_ne_nil (sep x : List α) {l : List (List α)} (h : l ≠ []) :
    joinWith sep (x :: l) = x ++ sep ++ joinWith sep l := by
  cases l with
  | nil => exact absurd rfl h
  | cons y t => exact joinWith_cons_cons sep x y t

theorem filter_joinWith (p : α → Bool) (sep : List α) : ∀ ls : List (List α),
    (joinWith sep ls).filter p = joinWith (sep.filter p) (ls.map (List.filter p))
  | [] => rfl
  | [l] => by simp only [joinWith_singleton, List.map_cons, List.map_nil]
  | l :: l' :: ls => by
    have ih := filter_joinWith p sep (l' :: ls)
    simp only [List.map_cons] at ih
    simp only [List.map_cons, joinWith_cons_cons, List.filter_append, ih]

theorem joinWith_nil_sep : ∀ ls : List (List α), joinWith [] ls = ls.flatten
  | [] => rfl
  | [l] => by simp only [joinWith_singleton, List.flatten_cons, List.flatten_nil, List.append_nil]
  | l :: l' :: ls => by
    have ih := joinWith_nil_sep (l' :: ls)
    simp only [joinWith_cons_cons, ih, List.flatten_cons, List.append_nil]

theorem filter_joinWith_congr (p : α → Bool) (sep : List α) (ls ls' : List (List α))
    (h : ls'.map (List.filter p) = ls.map (List.filter p)) :
    (joinWith sep ls').filter p = (joinWith sep ls).filter p := by
  rw [filter_joinWith, filter_joinWith, h]

theorem joinWith_append_singleton (sep : List α) (l : List (List α)) (x : List α) :
    joinWith sep (l ++ [x]) = (l.map (· ++ sep)).flatten ++ x := by
  induction l with
  | nil => simp
  | cons y t ih =>
    rw [List.cons_append, joinWith_cons_of_ne_nil sep y (by simp), ih]
    simp only [List.map_cons, List.flatten_cons, List.append_assoc]

theorem eq_dropLast_append_getLastD {β : Type} (l : List β) (d : β) (h : l ≠ []) :
    l = l.dropLast ++ [l.getLastD d] := by
  rw [List.getLastD_eq_getLast?, List.getLast?_eq_some_getLast h, Option.getD_some,
    List.dropLast_concat_getLast]

/-- a defaulted separator is not empty -/
theorem ite_isEmpty_ne_nil {d : List α} (hd : d ≠ []) (x : List α) :
    (if x.isEmpty then d else x) ≠ [] := by
  split
  · exact hd
  · rename_i h
    exact fun h0 => h (h0 ▸ rfl)

/-- the last piece of the split as a line: the default policy drops it when it is empty (a notion of
the proofs: `Spec.linePieces` and `Spec.bareLines` are `init` plus this, `…_of_concat` below) -/
def Spec.lastLine (nt : Bool) (last : List α) : List (List α) :=
  if !nt && last.isEmpty then [] else [last]

theorem Spec.lastLine_eq_nil_iff (nt : Bool) (last : List α) :
    Spec.lastLine nt last = [] ↔ nt = false ∧ last = [] := by
  unfold Spec.lastLine
  cases nt <;> cases last <;> simp

theorem Spec.lastLine_length_le (nt : Bool) (last : List α) : (Spec.lastLine nt last).length ≤ 1 := by
  unfold Spec.lastLine
  split
  · exact Nat.zero_le _
  · exact Nat.le_refl _

/-- only an empty piece is ever dropped -/
theorem Spec.lastLine_flatten (nt : Bool) (last : List α) : (Spec.lastLine nt last).flatten = last := by
  unfold Spec.lastLine
  split
  · rename_i h
    rw [Bool.and_eq_true, List.isEmpty_iff] at h
    rw [h.2]
    rfl
  · exact List.flatten_singleton

/-- `Apply` puts back the empty piece that was dropped -/
theorem Spec.lastLine_append_trailing (init : List (List α)) (nt : Bool) (last : List α) :
    (if !nt && last.isEmpty then init ++ Spec.lastLine nt last ++ [[]]
      else init ++ Spec.lastLine nt last) = init ++ [last] := by
  unfold Spec.lastLine
  split
  · rename_i h
    rw [Bool.and_eq_true, List.isEmpty_iff] at h
    rw [h.2, List.append_nil]
  · rfl

/-! ### splitOnAux / splitOn -/

variable [DecidableEq α]

theorem splitOnAux_ne_nil (sep s : List α) (skip : Nat) (cur : List α) :
    splitOnAux sep s skip cur ≠ [] := by
  induction s generalizing skip cur with
  | nil => simp [splitOnAux]
  | cons c t ih =>
    cases skip with
    | succ k => simpa [splitOnAux] using ih k cur
    | zero =>
      rw [splitOnAux]
      split
      · simp
      · exact ih 0 (c :: cur)

/-- `splitOn s sep` is empty only in Go's special case `strings.Split("", "") = []`. -/
theorem splitOn_eq_nil_iff (s sep : List α) : splitOn s sep = [] ↔ s = [] ∧ sep = [] := by
  unfold splitOn
  cases sep with
  | nil => simp
  | cons a t => simpa using splitOnAux_ne_nil (a :: t) s 0 []

theorem splitOn_ne_nil (s sep : List α) (h : s ≠ [] ∨ sep ≠ []) : splitOn s sep ≠ [] := by
  rw [Ne, splitOn_eq_nil_iff]
  rintro ⟨h1, h2⟩
  cases h with
  | inl h => exact h h1
  | inr h => exact h h2

theorem splitOn_ne_nil' (s sep : List α) (h : sep ≠ []) : splitOn s sep ≠ [] :=
  splitOn_ne_nil s sep (Or.inr h)

/-- without the hypothesis `splitOn_ne_nil` is false -/
theorem splitOn_nil_nil : splitOn ([] : List α) [] = [] := rfl

theorem not_forall_splitOn_ne_nil : ¬ ∀ s sep : List Nat, splitOn s sep ≠ [] :=
  fun h => h [] [] rfl

theorem splitOn_of_ne_nil (s sep : List α) (h : sep ≠ []) :
    splitOn s sep = splitOnAux sep s 0 [] := by
  cases sep with
  | nil => exact absurd rfl h
  | cons a t => rfl

/-- a matched separator followed by the rest (after skipping the separator's tail) is the input -/
theorem append_drop_of_isPrefixOf (sep : List α) (c : α) (t : List α) (h : sep ≠ [])
    (hp : sep.isPrefixOf (c :: t) = true) : sep ++ t.drop (sep.length - 1) = c :: t := by
  have hp' := List.prefix_iff_eq_append.mp (List.isPrefixOf_iff_prefix.mp hp)
  cases sep with
  | nil => exact absurd rfl h
  | cons a u => simpa using hp'

/-- the invariant of the scanning loop -/
theorem joinWith_splitOnAux (sep s : List α) (skip : Nat) (cur : List α) (h : sep ≠ []) :
    joinWith sep (splitOnAux sep s skip cur) = cur.reverse ++ s.drop skip := by
  induction s generalizing skip cur with
  | nil => simp [splitOnAux]
  | cons c t ih =>
    cases skip with
    | succ k => simpa [splitOnAux] using ih k cur
    | zero =>
      rw [splitOnAux]
      split
      · rename_i hp
        rw [joinWith_cons_of_ne_nil sep _ (splitOnAux_ne_nil _ _ _ _), ih, List.drop_zero,
          List.reverse_nil, List.nil_append, List.append_assoc,
          append_drop_of_isPrefixOf sep c t h hp]
      · rw [ih]
        simp

theorem joinWith_splitOn (s sep : List α) (h : sep ≠ []) : joinWith sep (splitOn s sep) = s := by
  rw [splitOn_of_ne_nil s sep h, joinWith_splitOnAux sep s 0 [] h]
  simp

/-- also for the empty separator (explode into atoms, join with nothing) -/
theorem joinWith_splitOn_all (s sep : List α) : joinWith sep (splitOn s sep) = s := by
  cases sep with
  | cons a u => exact joinWith_splitOn s (a :: u) (by simp)
  | nil =>
    show joinWith [] (s.map fun c => [c]) = s
    induction s with
    | nil => rfl
    | cons c t ih =>
      cases t with
      | nil => rfl
      | cons d v =>
        rw [List.map_cons] at ih
        rw [List.map_cons, List.map_cons, joinWith_cons_cons, ih]
        rfl

theorem splitOn_nil (sep : List α) (h : sep ≠ []) : splitOn ([] : List α) sep = [[]] := by
  rw [splitOn_of_ne_nil _ sep h]
  rfl

/-! ### `strings.Index` and the split -/

theorem splitOnAux_skip (sep s : List α) (skip : Nat) (cur : List α) :
    splitOnAux sep s skip cur = splitOnAux sep (s.drop skip) 0 cur := by
  induction s generalizing skip with
  | nil => simp [splitOnAux]
  | cons c t ih =>
    cases skip with
    | zero => rfl
    | succ k => rw [splitOnAux, List.drop_succ_cons]; exact ih k

theorem indexOf_nil_of_ne_nil (sep : List α) (h : sep ≠ []) : indexOf sep [] = none := by
  cases sep with
  | nil => exact absurd rfl h
  | cons a u => rfl

theorem indexOf_cons (sep : List α) (c : α) (t : List α) :
    indexOf sep (c :: t) =
      if sep.isPrefixOf (c :: t) then some 0 else (indexOf sep t).map (· + 1) := rfl

theorem indexOf_cons_eq_none {sep : List α} {c : α} {t : List α} :
    indexOf sep (c :: t) = none ↔ ¬ sep.isPrefixOf (c :: t) = true ∧ indexOf sep t = none := by
  rw [indexOf_cons]
  split <;> rename_i hp <;> simp [hp]

/-- an occurrence at the head, or one atom further to the right than in the tail -/
theorem indexOf_cons_eq_some {sep : List α} {c : α} {t : List α} {i : Nat} :
    indexOf sep (c :: t) = some i ↔
      sep.isPrefixOf (c :: t) = true ∧ i = 0 ∨
        ¬ sep.isPrefixOf (c :: t) = true ∧ ∃ j, indexOf sep t = some j ∧ i = j + 1 := by
  rw [indexOf_cons]
  split <;> rename_i hp
  · simp [hp, eq_comm]
  · simp [hp, eq_comm (a := i)]

theorem splitOnAux_of_indexOf_none (sep : List α) (t cur : List α)
    (hi : indexOf sep t = none) : splitOnAux sep t 0 cur = [cur.reverse ++ t] := by
  induction t generalizing cur with
  | nil => simp [splitOnAux]
  | cons c t ih =>
    obtain ⟨hp, hi⟩ := indexOf_cons_eq_none.1 hi
    rw [splitOnAux, if_neg hp, ih _ hi]
    simp

theorem splitOnAux_of_indexOf_some (sep : List α) (hsep : sep ≠ []) (t cur : List α) (i : Nat)
    (hi : indexOf sep t = some i) :
    splitOnAux sep t 0 cur =
      (cur.reverse ++ t.take i) :: splitOnAux sep (t.drop (i + sep.length)) 0 [] := by
  induction t generalizing cur i with
  | nil => rw [indexOf_nil_of_ne_nil sep hsep] at hi; exact absurd hi (by simp)
  | cons c t ih =>
    have hlen : 0 < sep.length := List.length_pos_iff.mpr hsep
    rcases indexOf_cons_eq_some.1 hi with ⟨hp, rfl⟩ | ⟨hp, j, hj, rfl⟩
    · rw [splitOnAux, if_pos hp, splitOnAux_skip]
      have : 0 + sep.length = (sep.length - 1) + 1 := by omega
      rw [this, List.drop_succ_cons]
      simp
    · rw [splitOnAux, if_neg hp, ih _ _ hj]
      have : j + 1 + sep.length = (j + sep.length) + 1 := by omega
      rw [this, List.drop_succ_cons, List.take_succ_cons]
      simp

/-- `indexOf` finds an occurrence: the text is `take i ++ sep ++ drop (i + |sep|)` -/
theorem indexOf_some_spec (sep : List α) (t : List α) (i : Nat)
    (hi : indexOf sep t = some i) :
    t = t.take i ++ sep ++ t.drop (i + sep.length) ∧ i + sep.length ≤ t.length := by
  induction t generalizing i with
  | nil =>
    unfold indexOf at hi
    split at hi
    · rename_i h
      have : sep = [] := by simpa using h
      subst this
      have : i = 0 := by simpa using hi.symm
      subst this
      simp
    · exact absurd hi (by simp)
  | cons c t ih =>
    rcases indexOf_cons_eq_some.1 hi with ⟨hp, rfl⟩ | ⟨-, j, hj, rfl⟩
    · obtain ⟨r, hr⟩ := List.isPrefixOf_iff_prefix.mp hp
      rw [← hr]
      simp
    · obtain ⟨h1, h2⟩ := ih j hj
      have : j + 1 + sep.length = (j + sep.length) + 1 := by omega
      rw [this, List.drop_succ_cons, List.take_succ_cons]
      refine ⟨?_, by simp only [List.length_cons]; omega⟩
      rw [List.cons_append, List.cons_append, ← h1]

theorem splitOn_of_indexOf_none (sep : List α) (hsep : sep ≠ []) (t : List α)
    (hi : indexOf sep t = none) : splitOn t sep = [t] := by
  rw [splitOn_of_ne_nil t sep hsep, splitOnAux_of_indexOf_none sep t [] hi]
  rfl

theorem splitOn_of_indexOf_some (sep : List α) (hsep : sep ≠ []) (t : List α) (i : Nat)
    (hi : indexOf sep t = some i) :
    splitOn t sep = t.take i :: splitOn (t.drop (i + sep.length)) sep := by
  rw [splitOn_of_ne_nil t sep hsep, splitOn_of_ne_nil _ sep hsep,
    splitOnAux_of_indexOf_some sep hsep t [] i hi]
  rfl

/-- `strings.Index` fails exactly when the split has a single piece -/
theorem indexOf_eq_none_iff (sep : List α) (hsep : sep ≠ []) (t : List α) :
    indexOf sep t = none ↔ splitOn t sep = [t] := by
  constructor
  · exact splitOn_of_indexOf_none sep hsep t
  · intro h
    cases hi : indexOf sep t with
    | none => rfl
    | some i =>
      rw [splitOn_of_indexOf_some sep hsep t i hi] at h
      have := splitOn_ne_nil' (t.drop (i + sep.length)) sep hsep
      simp only [List.cons.injEq] at h
      exact absurd h.2 this

/-- `strings.Index` returns the length of the first piece of the split, when there are at least
two pieces -/
theorem indexOf_eq_some_iff (sep : List α) (hsep : sep ≠ []) (t : List α) (i : Nat) :
    indexOf sep t = some i ↔
      1 < (splitOn t sep).length ∧ ((splitOn t sep).headD []).length = i := by
  have key : ∀ j, indexOf sep t = some j →
      1 < (splitOn t sep).length ∧ ((splitOn t sep).headD []).length = j := by
    intro j hj
    obtain ⟨-, hle⟩ := indexOf_some_spec sep t j hj
    rw [splitOn_of_indexOf_some sep hsep t j hj]
    have := List.length_pos_iff.mpr (splitOn_ne_nil' (t.drop (j + sep.length)) sep hsep)
    simp only [List.length_cons, List.headD_cons, List.length_take]
    omega
  constructor
  · exact key i
  · intro ⟨h1, h2⟩
    cases hi : indexOf sep t with
    | none =>
      rw [splitOn_of_indexOf_none sep hsep t hi] at h1
      simp at h1
    | some j =>
      obtain ⟨-, h3⟩ := key j hi
      rw [← h2, h3]

/-- where `strings.Index` finds nothing there is no occurrence -/
theorem not_prefix_drop_of_indexOf_none (sep s : List α) (h : indexOf sep s = none) (k : Nat) :
    ¬ sep <+: s.drop k := by
  induction s generalizing k with
  | nil =>
    intro hp
    rw [List.drop_nil, List.prefix_nil] at hp
    rw [hp] at h
    exact absurd h (by simp [indexOf])
  | cons c t ih =>
    obtain ⟨hp, h⟩ := indexOf_cons_eq_none.1 h
    cases k with
    | zero => exact fun hk => hp (List.isPrefixOf_iff_prefix.mpr hk)
    | succ k => exact ih h k

theorem indexOf_ne_none_of_suffix {sep s : List α} (h : sep <:+ s) : indexOf sep s ≠ none := by
  obtain ⟨r, rfl⟩ := h
  exact fun hn => not_prefix_drop_of_indexOf_none sep _ hn r.length
    (by rw [List.drop_left]; exact List.prefix_refl _)

/-! ### line decomposition

With `splitOn text sep = init ++ [last]` the lines are `init` (each followed by `sep` in
`linePieces`) and `lastLine nt last`. -/

theorem splitOn_eq_concat {text sep : List α} (h : splitOn text sep ≠ []) :
    ∃ init last, splitOn text sep = init ++ [last] :=
  ⟨_, _, eq_dropLast_append_getLastD _ [] h⟩

theorem Spec.linePieces_of_concat {text sep : List α} {init : List (List α)} {last : List α}
    (nt : Bool) (h : splitOn text sep = init ++ [last]) :
    Spec.linePieces text sep nt = init.map (· ++ sep) ++ Spec.lastLine nt last := by
  simp only [Spec.linePieces, Spec.lastLine, h, List.length_append, List.length_singleton,
    Nat.add_sub_cancel, List.take_left, List.getLastD_concat]
  split
  · rw [List.append_nil]
  · rfl

theorem Spec.bareLines_of_concat {text sep : List α} {init : List (List α)} {last : List α}
    (nt : Bool) (h : splitOn text sep = init ++ [last]) :
    Spec.bareLines text sep nt = init ++ Spec.lastLine nt last := by
  simp only [Spec.bareLines, Spec.lastLine, h, List.getLastD_concat, List.dropLast_concat]
  split
  · rw [List.append_nil]
  · rfl

theorem Spec.linePieces_flatten (text sep : List α) (nt : Bool) (h : sep ≠ []) :
    (Spec.linePieces text sep nt).flatten = text := by
  obtain ⟨init, last, hc⟩ := splitOn_eq_concat (splitOn_ne_nil' text sep h)
  have hj := joinWith_splitOn text sep h
  rw [hc, joinWith_append_singleton] at hj
  rw [Spec.linePieces_of_concat nt hc, List.flatten_append, Spec.lastLine_flatten, hj]

/-- false for `text = sep = []`, `nt = true` (`Spec.linePieces_length_counterexample`) -/
theorem Spec.linePieces_length (text sep : List α) (nt : Bool)
    (h : text ≠ [] ∨ sep ≠ [] ∨ nt = false) :
    (Spec.linePieces text sep nt).length = (Spec.bareLines text sep nt).length := by
  by_cases hne : splitOn text sep = []
  · have hnt : nt = false := by
      rw [splitOn_eq_nil_iff] at hne
      rcases h with h | h | h
      · exact absurd hne.1 h
      · exact absurd hne.2 h
      · exact h
    simp [Spec.linePieces, Spec.bareLines, hne, hnt]
  · obtain ⟨init, last, hc⟩ := splitOn_eq_concat hne
    rw [Spec.linePieces_of_concat nt hc, Spec.bareLines_of_concat nt hc, List.length_append,
      List.length_append, List.length_map]

theorem Spec.linePieces_length' (text sep : List α) (nt : Bool) (h : sep ≠ []) :
    (Spec.linePieces text sep nt).length = (Spec.bareLines text sep nt).length :=
  Spec.linePieces_length text sep nt (Or.inr (Or.inl h))

/-- the split has as many pieces as there are lines, or one more (a final empty piece that the
default policy does not count) -/
theorem Spec.linePieces_length_le (text sep : List α) (nt : Bool) (hsep : sep ≠ []) :
    (Spec.linePieces text sep nt).length ≤ (splitOn text sep).length ∧
      (splitOn text sep).length ≤ (Spec.linePieces text sep nt).length + 1 := by
  obtain ⟨init, last, hc⟩ := splitOn_eq_concat (splitOn_ne_nil' text sep hsep)
  have := Spec.lastLine_length_le nt last
  rw [Spec.linePieces_of_concat nt hc, hc, List.length_append, List.length_append,
    List.length_map, List.length_singleton]
  omega

theorem linePieces_take (text sep : List α) (nt : Bool) (k : Nat)
    (hk : k + 1 ≤ (splitOn text sep).length) :
    (Spec.linePieces text sep nt).take k = ((splitOn text sep).take k).map (· ++ sep) := by
  obtain ⟨init, last, hc⟩ := splitOn_eq_concat (List.ne_nil_of_length_pos (l := splitOn text sep) (by omega))
  rw [hc, List.length_append, List.length_singleton] at hk
  rw [Spec.linePieces_of_concat nt hc, hc,
    List.take_append_of_le_length (by rw [List.length_map]; omega),
    List.take_append_of_le_length (by omega), List.map_take]

theorem Spec.linePieces_length_counterexample :
    (Spec.linePieces ([] : List Nat) [] true).length = 1 ∧
    (Spec.bareLines ([] : List Nat) [] true).length = 0 := by decide

theorem flatten_map_range_getD {β : Type} (l : List β) (d : β) :
    ((List.range l.length).map fun i => [l.getD i d]).flatten = l := by
  have hfm : ∀ (r : List Nat) (f : Nat → β), (r.map fun i => [f i]).flatten = r.map f := by
    intro r f
    induction r with
    | nil => rfl
    | cons a t ih => simp only [List.map_cons, List.flatten_cons, ih, List.singleton_append]
  rw [hfm]
  apply List.ext_getElem
  · simp only [List.length_map, List.length_range]
  · intro i h1 h2
    simp only [List.getElem_map, List.getElem_range, List.getD_eq_getElem?_getD,
      List.getElem?_eq_getElem h2, Option.getD_some]

omit [DecidableEq α] in
/-- if the last piece is empty and there are at least two pieces, the joined text ends in `sep` -/
theorem suffix_joinWith_of_getLastD_nil (sep : List α) (parts : List (List α))
    (hl : parts.getLastD [] = []) (h2 : parts.dropLast ≠ []) :
    sep <:+ joinWith sep parts := by
  have hne : parts ≠ [] := by
    intro h; rw [h] at h2; exact h2 rfl
  have hd := eq_dropLast_append_getLastD parts [] hne
  have hd2 := eq_dropLast_append_getLastD parts.dropLast [] h2
  rw [hd, joinWith_append_singleton, hl, List.append_nil, hd2, List.map_append,
    List.flatten_append]
  simp only [List.map_cons, List.map_nil, List.flatten_cons, List.flatten_nil, List.append_nil]
  rw [← List.append_assoc]
  exact List.suffix_append _ _

/-- With `Spec.apply`'s trailing rule "the last piece of the split is empty" the identity
callback reproduces the text for EVERY non-empty separator, self-overlapping or not. -/
theorem Spec.apply_id (text sep : List α) (nt : Bool) (h : sep ≠ []) :
    Spec.apply text sep nt (fun _ l => [l]) = text := by
  obtain ⟨init, last, hc⟩ := splitOn_eq_concat (splitOn_ne_nil' text sep h)
  have hj := joinWith_splitOn text sep h
  unfold Spec.apply
  simp only [flatten_map_range_getD]
  rw [Spec.bareLines_of_concat nt hc, hc, List.getLastD_concat,
    Spec.lastLine_append_trailing, ← hc, hj]

/-! ### the final occurrence is found for an unbordered separator -/

/-- `sep` has no proper border: no proper non-empty prefix of `sep` is also a suffix of `sep`.
Then two occurrences of `sep` cannot overlap. -/
def Unbordered (sep : List α) : Prop :=
  ∀ k, 0 < k → k < sep.length → sep.take k ≠ sep.drop (sep.length - k)

omit [DecidableEq α] in
/-- occurrences of an unbordered separator do not overlap -/
theorem Unbordered.suffix_of_suffix_append {sep : List α} (hu : Unbordered sep) (r : List α)
    (hs : sep <:+ sep ++ r) : r = [] ∨ sep <:+ r := by
  by_cases hlen : sep.length ≤ r.length
  · exact Or.inr (List.suffix_of_suffix_length_le hs (List.suffix_append sep r) hlen)
  · by_cases hr : r.length = 0
    · exact Or.inl (List.length_eq_zero_iff.mp hr)
    · exfalso
      obtain ⟨y, hy⟩ := hs
      have hl : y.length = r.length := by
        have := congrArg List.length hy
        simp only [List.length_append] at this
        omega
      have h1 := congrArg (List.take sep.length) hy
      rw [List.take_append, List.take_append, List.take_of_length_le (Nat.le_refl _),
        Nat.sub_self, List.take_zero, List.append_nil,
        List.take_of_length_le (by omega : y.length ≤ sep.length)] at h1
      have h2 := congrArg (List.drop y.length) h1
      rw [List.drop_left] at h2
      apply hu (sep.length - y.length) (by omega) (by omega)
      rw [h2]
      congr 1
      omega

/-- after the first occurrence the rest of the text is empty or still ends in the separator:
the final occurrence does not overlap the one just found -/
theorem getLast?_splitOn_of_suffix (sep : List α) (h : sep ≠ []) (hu : Unbordered sep) :
    ∀ (n : Nat) (s : List α), s.length ≤ n → sep <:+ s → (splitOn s sep).getLast? = some []
  | 0, s, hn, hs => by
    rw [List.eq_nil_of_length_eq_zero (Nat.le_zero.1 hn), List.suffix_nil] at hs
    exact absurd hs h
  | n + 1, s, hn, hs => by
    cases hi : indexOf sep s with
    | none => exact absurd hi (indexOf_ne_none_of_suffix hs)
    | some i =>
      obtain ⟨hsplit, hle⟩ := indexOf_some_spec sep s i hi
      obtain ⟨y, u, hyu⟩ := List.exists_cons_of_ne_nil
        (splitOn_ne_nil' (s.drop (i + sep.length)) sep h)
      rw [splitOn_of_indexOf_some sep h s i hi, hyu, List.getLast?_cons_cons, ← hyu]
      have hs' : sep <:+ sep ++ s.drop (i + sep.length) := by
        rw [hsplit, List.append_assoc] at hs
        exact List.suffix_of_suffix_length_le hs (List.suffix_append _ _)
          (by rw [List.length_append]; omega)
      rcases hu.suffix_of_suffix_append _ hs' with hr | hr
      · rw [hr, splitOn_nil sep h]
        rfl
      · have := List.length_pos_iff.mpr h
        exact getLast?_splitOn_of_suffix sep h hu n _ (by rw [List.length_drop]; omega) hr

/-- for a separator without a proper border, the leftmost scan also finds the final occurrence -/
theorem splitOn_last_of_suffix (s sep : List α) (h : sep ≠ []) (hu : Unbordered sep)
    (hs : sep.isSuffixOf s = true) : (splitOn s sep).getLast? = some [] :=
  getLast?_splitOn_of_suffix sep h hu s.length s (Nat.le_refl _) (List.isSuffixOf_iff_suffix.mp hs)

omit [DecidableEq α] in
theorem unbordered_singleton (a : α) : Unbordered [a] := by
  intro k h0 h1
  simp only [List.length_singleton] at h1
  omega

omit [DecidableEq α] in
theorem unbordered_pair (a b : α) (hab : a ≠ b) : Unbordered [a, b] := by
  intro k h0 h1
  simp only [List.length_cons, List.length_nil] at h1
  have hk : k = 1 := by omega
  subst hk
  intro heq
  simp only [List.length_cons, List.length_nil, List.take_succ_cons, List.take_zero,
    List.drop_succ_cons, List.drop_zero, List.cons.injEq, and_true] at heq
  exact hab heq

instance (sep : List α) : Decidable (Unbordered sep) :=
  decidable_of_iff (∀ k, k < sep.length → 0 < k → sep.take k ≠ sep.drop (sep.length - k))
    ⟨fun h k h0 h1 => h k h1 h0, fun h k h1 h0 => h k h0 h1⟩

theorem Spec.apply_id_of_unbordered (text sep : List α) (nt : Bool) (h : sep ≠ [])
    (_hu : Unbordered sep) : Spec.apply text sep nt (fun _ l => [l]) = text :=
  Spec.apply_id text sep nt h

/-! ### the trailing rule of `Apply`: `bareLines` dropped a final empty piece -/

/-- `bareLines` is shorter than the split exactly when it dropped a final empty piece -/
theorem Spec.bareLines_length_lt_iff (text sep : List α) (nt : Bool) :
    (Spec.bareLines text sep nt).length < (splitOn text sep).length ↔
      (nt = false ∧ (splitOn text sep).getLastD [] = [] ∧ splitOn text sep ≠ []) := by
  by_cases hne : splitOn text sep = []
  · simp [Spec.bareLines, hne]
  · obtain ⟨init, last, hc⟩ := splitOn_eq_concat hne
    have hl := Spec.lastLine_length_le nt last
    rw [Spec.bareLines_of_concat nt hc, hc, List.getLastD_concat, List.length_append,
      List.length_append, List.length_singleton, ← and_assoc, ← Spec.lastLine_eq_nil_iff]
    constructor
    · intro h
      exact ⟨List.eq_nil_of_length_eq_zero (by omega), by simp⟩
    · intro h
      rw [h.1]
      exact Nat.lt_succ_self _

theorem Spec.bareLines_length_lt_iff' (text sep : List α) (nt : Bool) (h : sep ≠ []) :
    (Spec.bareLines text sep nt).length < (splitOn text sep).length ↔
      (nt = false ∧ (splitOn text sep).getLastD [] = []) := by
  rw [Spec.bareLines_length_lt_iff]
  have := splitOn_ne_nil' text sep h
  constructor
  · intro h; exact ⟨h.1, h.2.1⟩
  · intro h; exact ⟨h.1, h.2, this⟩

/-- the lines a callback sees plus the trailing empty piece that the default policy hides are
exactly the pieces of the split (no hypothesis on the separator) -/
theorem Spec.bareLines_append_trailing (t sep : List α) (nt : Bool) :
    Spec.bareLines t sep nt ++
      (if !nt ∧ (Spec.bareLines t sep nt).length < (splitOn t sep).length then [[]] else []) =
      splitOn t sep := by
  by_cases hne : splitOn t sep = []
  · simp [Spec.bareLines, hne]
  · obtain ⟨init, last, hc⟩ := splitOn_eq_concat hne
    rw [Spec.bareLines_of_concat nt hc, hc, List.length_append, List.length_append,
      List.length_singleton, List.append_assoc]
    congr 1
    -- the dropped piece is the empty one
    unfold Spec.lastLine
    cases nt <;> cases last <;> simp

/-! ### "the text ends with the separator" versus "the last piece of the split is empty" -/

/-- if the last piece is empty (and the text is not), the text ends with the separator: any
non-empty separator -/
theorem isSuffixOf_of_getLastD_nil (text sep : List α) (h : sep ≠ []) (ht : text ≠ [])
    (hl : (splitOn text sep).getLastD [] = []) : sep.isSuffixOf text = true := by
  have hj := joinWith_splitOn text sep h
  have hne := splitOn_ne_nil' text sep h
  rw [List.isSuffixOf_iff_suffix]
  by_cases h2 : (splitOn text sep).dropLast = []
  · exfalso
    have hd := eq_dropLast_append_getLastD (splitOn text sep) [] hne
    rw [h2, hl, List.nil_append] at hd
    rw [hd] at hj
    exact ht hj.symm
  · have := suffix_joinWith_of_getLastD_nil sep (splitOn text sep) hl h2
    rwa [hj] at this

/-- for a separator without a proper border "the text ends with the separator" and "the last piece
is empty" coincide (on a non-empty text; the empty text has the single empty piece and does not end
with the separator) -/
theorem isSuffixOf_iff_getLastD_nil (text sep : List α) (h : sep ≠ []) (hu : Unbordered sep)
    (ht : text ≠ []) :
    sep.isSuffixOf text = true ↔ (splitOn text sep).getLastD [] = [] := by
  constructor
  · intro hs
    rw [List.getLastD_eq_getLast?, splitOn_last_of_suffix text sep h hu hs]
    rfl
  · exact isSuffixOf_of_getLastD_nil text sep h ht

/-! ### non-vacuity on concrete lists -/

example : splitOn [1, 2, 0, 3, 0] [0] = [[1, 2], [3], []] := by decide
example : splitOn [1, 2, 0, 3] [0] = [[1, 2], [3]] := by decide
example : splitOn [1, 9, 8, 2, 9, 8] [9, 8] = [[1], [2], []] := by decide
example : splitOn [1, 2, 3] ([] : List Nat) = [[1], [2], [3]] := by decide
example : joinWith [0] (splitOn [1, 2, 0, 3, 0] [0]) = [1, 2, 0, 3, 0] := by decide
example : Spec.linePieces [1, 2, 0, 3, 0] [0] false = [[1, 2, 0], [3, 0]] := by decide
example : Spec.linePieces [1, 2, 0, 3, 0] [0] true = [[1, 2, 0], [3, 0], []] := by decide
example : Spec.bareLines [1, 2, 0, 3, 0] [0] false = [[1, 2], [3]] := by decide
example : Spec.selectLines [1, 0, 2, 0, 3, 0] [0] false 1 2 = ([1, 0], [2, 0], [3, 0]) := by decide
example : Spec.selectLines [1, 0, 2, 0, 3, 0] [0] false (-1) Gen.endSentinel
    = ([1, 0, 2, 0], [3, 0], []) := by decide
example : Spec.apply [1, 2, 0, 3, 0] [0] false (fun _ l => [l]) = [1, 2, 0, 3, 0] := by decide
example : Unbordered [9, 8] := by decide
example : ¬ Unbordered [7, 7] := by decide
example : ¬ Unbordered [1, 2, 1] := by decide

/-- With the bordered separator `[7,7]` the leftmost scan of `[7,7,7]` misses the final occurrence,
so the last line `[7]` is unterminated although the text ends with the separator; under the rule
"the last piece is empty" the identity callback gives the text back. -/
example : ([7, 7] : List Nat).isSuffixOf [7, 7, 7] = true ∧
    (splitOn [7, 7, 7] [7, 7]).getLast? = some [7] ∧
    Spec.apply [7, 7, 7] [7, 7] false (fun _ l => [l]) = [7, 7, 7] := by decide

example : joinWith ([] : List Nat) (splitOn [1, 2, 3] []) = [1, 2, 3] := by decide

end RosedVerif
