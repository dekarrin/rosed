/-
Simulation of `manip.MakeTable` (internal/manip/table.go) along a homomorphism of texts, in the
setting of `LayoutSim`: the table code aligns cells, upper-cases the cells of a header row, repeats
the table characters and concatenates.  Beyond `Hom` it needs that upper-casing corresponds along
`φ` (a hypothesis of the lemmas that see a header row) and a character set of at least three
clusters (a shorter one is filled up from the default of the context, which `φ` need not respect).

Every statement has two components, the image equation and "the result is over `Q`"; at `φ = id`
the second one is the statement that the table stays inside a vocabulary.
-/
import RosedVerif.Model.LayoutSim
import RosedVerif.Model.TableLemmas
namespace RosedVerif
set_option linter.unusedSectionVars false

namespace LayoutSim

theorem foldl_rel {ι A B : Type} {r : A → B → Prop} (f₁ : A → ι → A) (f₂ : B → ι → B) :
    ∀ (l : List ι) (a : A) (b : B), r a b → (∀ i ∈ l, ∀ a b, r a b → r (f₁ a i) (f₂ b i)) →
      r (l.foldl f₁ a) (l.foldl f₂ b)
  | [], _, _, h, _ => h
  | i :: l, _, _, h, hf => foldl_rel f₁ f₂ l _ _ (hf i List.mem_cons_self _ _ h)
      fun j hj => hf j (List.mem_cons_of_mem _ hj)

/-- one cell of `tableRow`, with its right border -/
def tableCell {γ : Type} [DecidableEq γ] (cx : Ctx γ) (cell : List γ) (w : Int)
    (isHeader border : Bool) (chars : TableChars γ) : List γ :=
  if isHeader then
    if border then alignCenter cx (cell.map cx.upper) w ++ chars.vert
    else alignLeft cx (cell.map cx.upper) w
  else
    if border then [cx.sp] ++ alignLeft cx cell (w - 1) ++ chars.vert else alignLeft cx cell w

theorem tableRow_eq {γ : Type} [DecidableEq γ] (cx : Ctx γ) (row : List (List γ))
    (cws : List Int) (isHeader border : Bool) (chars : TableChars γ) :
    tableRow cx row cws isHeader border chars =
      (List.range cws.length).foldl (fun line col =>
        line ++ tableCell cx (row.getD col []) (cws.getD col 0) isHeader border chars)
        (if border then chars.vert else []) := rfl

theorem parseTableCharSet_of_ge {γ : Type} [DecidableEq γ] (cx : Ctx γ) (cs : List γ)
    (h : 3 ≤ gLen cx cs) :
    parseTableCharSet cx cs =
      ⟨gSub cx (if (gLen cx cs : Int) > 3 then gSub cx cs 0 3 else cs) 0 1,
       gSub cx (if (gLen cx cs : Int) > 3 then gSub cx cs 0 3 else cs) 1 2,
       gSub cx (if (gLen cx cs : Int) > 3 then gSub cx cs 0 3 else cs) 2 3⟩ := by
  unfold parseTableCharSet
  simp only []
  rw [if_neg (by omega)]

variable {α β : Type} [DecidableEq α] [DecidableEq β] {cx₁ : Ctx α} {cx₂ : Ctx β}
  {φ : List β → List α} {Q : β → Prop}

/-- the three table characters correspond -/
structure CharsSim (φ : List β → List α) (Q : β → Prop) (c₁ : TableChars α) (c₂ : TableChars β) :
    Prop where
  corner : TR φ Q c₁.corner c₂.corner
  vert : TR φ Q c₁.vert c₂.vert
  horz : TR φ Q c₁.horz c₂.horz

theorem CharsSim.of {a b c : List α} {a' b' c' : List β} (h1 : TR φ Q a a') (h2 : TR φ Q b b')
    (h3 : TR φ Q c c') : CharsSim φ Q ⟨a, b, c⟩ ⟨a', b', c'⟩ := ⟨h1, h2, h3⟩

/-- `manip.parseTableCharSet` for a character set of at least three clusters -/
theorem parseTableCharSet_sim (H : Hom cx₁ cx₂ φ Q) {cs : List β} (hcs : ∀ t ∈ cs, Q t)
    (h3 : 3 ≤ gLen cx₂ cs) :
    CharsSim φ Q (parseTableCharSet cx₁ (φ cs)) (parseTableCharSet cx₂ cs) := by
  rw [parseTableCharSet_of_ge cx₁ _ (by rw [H.len cs hcs]; exact h3),
    parseTableCharSet_of_ge cx₂ _ h3, H.len cs hcs]
  have h : TR φ Q (if (gLen cx₂ cs : Int) > 3 then gSub cx₁ (φ cs) 0 3 else φ cs)
      (if (gLen cx₂ cs : Int) > 3 then gSub cx₂ cs 0 3 else cs) :=
    ite_rel _ (TR.gSub H ⟨rfl, hcs⟩ 0 3) ⟨rfl, hcs⟩
  -- `CharsSim.of` and not `⟨_, _, _⟩`: against `(TableChars.mk a b c).corner` the unifier unfolds
  -- `gSub` before it reduces the projection
  exact .of (h.gSub H 0 1) (h.gSub H 1 2) (h.gSub H 2 3)

section walk
variable (H : Hom cx₁ cx₂ φ Q) {c₁ : TableChars α} {c₂ : TableChars β}
include H

theorem tableCell_sim {cell : List β} (hcell : ∀ t ∈ cell, Q t) (w : Int) (isHeader border : Bool)
    (hup : isHeader = true → TR φ Q ((φ cell).map cx₁.upper) (cell.map cx₂.upper))
    (hv : TR φ Q c₁.vert c₂.vert) :
    TR φ Q (tableCell cx₁ (φ cell) w isHeader border c₁)
      (tableCell cx₂ cell w isHeader border c₂) := by
  unfold tableCell
  cases isHeader with
  | false =>
    cases border with
    | false => exact H.left cell hcell w
    | true => exact (H.spTR.append H (H.left cell hcell _)).append H hv
  | true =>
    rw [(hup rfl).1]
    cases border with
    | false => exact H.left _ (hup rfl).2 w
    | true => exact TR.append H (H.center _ (hup rfl).2 w) hv

theorem tableRow_sim {row : List (List β)} (hrow : ∀ cell ∈ row, ∀ t ∈ cell, Q t)
    (cws : List Int) (isHeader border : Bool)
    (hup : isHeader = true → ∀ cell : List β, (∀ t ∈ cell, Q t) →
      TR φ Q ((φ cell).map cx₁.upper) (cell.map cx₂.upper))
    (hv : TR φ Q c₁.vert c₂.vert) :
    TR φ Q (tableRow cx₁ (row.map φ) cws isHeader border c₁)
      (tableRow cx₂ row cws isHeader border c₂) := by
  rw [tableRow_eq, tableRow_eq]
  refine foldl_rel _ _ _ _ _ ?_ fun col _ a b hab => ?_
  · cases border with
    | false => exact TR.nil H.nil
    | true => exact hv
  · rw [H.getD]
    exact hab.append H (tableCell_sim H (getD_forall_mem hrow col) _ _ _
      (fun hh => hup hh _ (getD_forall_mem hrow col)) hv)

theorem tableHorzBar_sim (cws : List Int) (hc : CharsSim φ Q c₁ c₂) :
    TR φ Q (tableHorzBar cws c₁) (tableHorzBar cws c₂) :=
  foldl_rel (r := TR φ Q) _ _ cws _ _ hc.corner fun w _ _ _ hab =>
    (hab.append H (hc.horz.repeat H w)).append H hc.corner

variable {data : List (List (List β))} (hdata : ∀ row ∈ data, ∀ cell ∈ row, ∀ t ∈ cell, Q t)
  (width : Int) (header border : Bool)
  (hup : header = true → ∀ cell : List β, (∀ t ∈ cell, Q t) →
    TR φ Q ((φ cell).map cx₁.upper) (cell.map cx₂.upper))
include hdata hup

theorem tableRowLines_sim (cws : List Int) (hc : CharsSim φ Q c₁ c₂) (i : Nat) :
    LR φ Q (tableRowLines cx₁ (data.map (List.map φ)) cws width header border c₁ i)
      (tableRowLines cx₂ data cws width header border c₂ i) := by
  unfold tableRowLines
  rw [getD_map_nil (List.map φ) rfl, List.length_map]
  exact (LR.single (tableRow_sim H (getD_forall_mem hdata i) cws _ border
      (fun hh => hup (Bool.and_eq_true_iff.1 hh).2) hc.vert)).append
    (ite_rel _ (ite_rel _ (ite_rel _ (LR.single (tableHorzBar_sim H cws hc)) LR.nil)
      (LR.single (hc.horz.repeat H width))) LR.nil)

theorem buildTable_sim (cws : List Int) (hc : CharsSim φ Q c₁ c₂) :
    LR φ Q (buildTable cx₁ (data.map (List.map φ)) cws width header border c₁)
      (buildTable cx₂ data cws width header border c₂) := by
  have hb : LR φ Q (if border = true then [tableHorzBar cws c₁] else [])
      (if border = true then [tableHorzBar cws c₂] else []) :=
    ite_rel _ (LR.single (tableHorzBar_sim H cws hc)) LR.nil
  rw [buildTable_eq, buildTable_eq, List.length_map]
  exact (hb.append (LR.flatten_map _ _ _ fun i _ =>
    tableRowLines_sim H hdata width header border hup cws hc i)).append hb

/-- `manip.MakeTable`: the column widths are cluster counts of cells, which agree; the rest is
`buildTable` in one of two branches -/
theorem makeTable_sim {cs : List β} (hcs : ∀ t ∈ cs, Q t) (h3 : 3 ≤ gLen cx₂ cs) :
    LR φ Q (makeTable cx₁ (data.map (List.map φ)) width header border (φ cs))
      (makeTable cx₂ data width header border cs) := by
  have hc := parseTableCharSet_sim H hcs h3
  have hcw : ∀ col : Nat,
      data.foldl (fun (m : Int) row =>
        if (gLen cx₁ ((row.map φ).getD col []) : Int) ≥ m then
          (gLen cx₁ ((row.map φ).getD col []) : Int) else m) 0 =
      data.foldl (fun (m : Int) row =>
        if (gLen cx₂ (row.getD col []) : Int) ≥ m then (gLen cx₂ (row.getD col []) : Int)
        else m) 0 := fun col =>
    foldl_rel (r := Eq) _ _ data _ _ rfl fun row hrow _ _ hm => by
      rw [hm, H.getD, H.len _ (getD_forall_mem (hdata row hrow) col)]
  simp only [makeTable_eq_core]
  unfold makeTableCore
  simp only [List.isEmpty_map, List.foldl_map, List.length_map, hcw, hc.horz.gLen H]
  exact ite_rel _ LR.nil (ite_rel _ LR.nil (ite_rel _
    (buildTable_sim H hdata _ header border hup _ hc)
    (buildTable_sim H hdata _ header border hup _ hc)))

end walk

/-- the lines of a block joined, followed by the separator unless the text is empty or `noTrailing`
is set: the text `InsertTableOpts` inserts -/
def blockText {γ : Type} [DecidableEq γ] (S : List γ) (noTrailing : Bool) (ls : List (List γ)) :
    List γ :=
  let text := (Block.mk ls S false).join
  if !noTrailing ∧ !text.isEmpty then text ++ S else text

theorem blockText_sim (H : Hom cx₁ cx₂ φ Q) {S₁ : List α} {S₂ : List β} (hS : TR φ Q S₁ S₂)
    (noTrailing : Bool) {ls₁ : List (List α)} {ls₂ : List (List β)} (hl : LR φ Q ls₁ ls₂) :
    TR φ Q (blockText S₁ noTrailing ls₁) (blockText S₂ noTrailing ls₂) := by
  have hJ : TR φ Q (Block.mk ls₁ S₁ false).join (Block.mk ls₂ S₂ false).join :=
    BR.join H hS.2 ⟨hl.1, hS.1, rfl, rfl, hl.2⟩
  unfold blockText
  dsimp only
  rw [hJ.1, H.isEmpty _ hJ.2]
  split
  · exact TR.append H ⟨rfl, hJ.2⟩ hS
  · exact ⟨rfl, hJ.2⟩

end LayoutSim
end RosedVerif
