/-
Options.  `withDefaults` acts field by field and is idempotent up to the table character set; every
`XOpts` operation sees its options argument only through `withDefaults`, and the options stored on
its receiver not at all: it computes a text from the receiver's text and returns the receiver with
that text (`TextOnly`).
-/
import RosedVerif.Model.PosLemmas
import RosedVerif.Model.StringsLemmas
namespace RosedVerif

section
variable {α : Type} (cx : Ctx α)

/-- the built-in default separators / indent are non-empty -/
def DefaultsOk (cx : Ctx α) : Prop := cx.dLineSep ≠ [] ∧ cx.dIndent ≠ [] ∧ cx.dParaSep ≠ []

/-- the first three steps of `withDefaults` (everything but the charset) -/
def Options.sepDefaults (o : Options α) : Options α :=
  { o with
    lineSep := if o.lineSep.isEmpty then cx.dLineSep else o.lineSep
    indentStr := if o.indentStr.isEmpty then cx.dIndent else o.indentStr
    paraSep := if o.paraSep.isEmpty then cx.dParaSep else o.paraSep }

theorem withDefaults_eq (o : Options α) :
    o.withDefaults cx =
      if gLen cx o.charset != gLen cx cx.dCharset then
        if gLen cx o.charset < gLen cx cx.dCharset then
          { o.sepDefaults cx with
            charset := o.charset ++ gSub cx cx.dCharset
              ((gLen cx cx.dCharset : Int) - ((gLen cx cx.dCharset : Int) - gLen cx o.charset))
              (gLen cx cx.dCharset) }
        else { o.sepDefaults cx with charset := gSub cx o.charset 0 (gLen cx cx.dCharset) }
      else o.sepDefaults cx := by
  unfold Options.withDefaults Options.sepDefaults
  cases o with
  | mk i l nt p pp jl b h c =>
    by_cases h1 : l.isEmpty <;> by_cases h2 : i.isEmpty <;> by_cases h3 : p.isEmpty <;>
      simp only [h1, h2, h3, if_true, if_false, Bool.false_eq_true]

/-- only the table character set is more than a field-wise default -/
theorem withDefaults_eq_charset (o : Options α) :
    ∃ cs, o.withDefaults cx = { o.sepDefaults cx with charset := cs } := by
  rw [withDefaults_eq]
  split
  · split <;> exact ⟨_, rfl⟩
  · exact ⟨_, rfl⟩

theorem withDefaults_fields (o : Options α) :
    (o.withDefaults cx).lineSep = (if o.lineSep.isEmpty then cx.dLineSep else o.lineSep) ∧
    (o.withDefaults cx).indentStr = (if o.indentStr.isEmpty then cx.dIndent else o.indentStr) ∧
    (o.withDefaults cx).paraSep = (if o.paraSep.isEmpty then cx.dParaSep else o.paraSep) ∧
    (o.withDefaults cx).noTrailing = o.noTrailing ∧
    (o.withDefaults cx).preservePara = o.preservePara ∧
    (o.withDefaults cx).justifyLast = o.justifyLast ∧
    (o.withDefaults cx).borders = o.borders ∧
    (o.withDefaults cx).headers = o.headers := by
  obtain ⟨cs, h⟩ := withDefaults_eq_charset cx o
  rw [h]
  exact ⟨rfl, rfl, rfl, rfl, rfl, rfl, rfl, rfl⟩

theorem Options.lineSep_withDefaults (o : Options α) :
    (o.withDefaults cx).lineSep = if o.lineSep.isEmpty then cx.dLineSep else o.lineSep :=
  (withDefaults_fields cx o).1
theorem Options.indentStr_withDefaults (o : Options α) :
    (o.withDefaults cx).indentStr = if o.indentStr.isEmpty then cx.dIndent else o.indentStr :=
  (withDefaults_fields cx o).2.1
theorem Options.paraSep_withDefaults (o : Options α) :
    (o.withDefaults cx).paraSep = if o.paraSep.isEmpty then cx.dParaSep else o.paraSep :=
  (withDefaults_fields cx o).2.2.1
theorem withDefaults_noTrailing (o : Options α) :
    (o.withDefaults cx).noTrailing = o.noTrailing := (withDefaults_fields cx o).2.2.2.1
theorem withDefaults_preservePara (o : Options α) :
    (o.withDefaults cx).preservePara = o.preservePara := (withDefaults_fields cx o).2.2.2.2.1
theorem Options.justifyLast_withDefaults (o : Options α) :
    (o.withDefaults cx).justifyLast = o.justifyLast := (withDefaults_fields cx o).2.2.2.2.2.1
theorem Options.borders_withDefaults (o : Options α) :
    (o.withDefaults cx).borders = o.borders := (withDefaults_fields cx o).2.2.2.2.2.2.1
theorem Options.headers_withDefaults (o : Options α) :
    (o.withDefaults cx).headers = o.headers := (withDefaults_fields cx o).2.2.2.2.2.2.2

theorem withDefaults_lineSep_ne_nil (hd : cx.dLineSep ≠ []) (o : Options α) :
    (o.withDefaults cx).lineSep ≠ [] := by
  rw [Options.lineSep_withDefaults]
  exact ite_isEmpty_ne_nil hd _

theorem withDefaults_paraSep_ne_nil (hd : cx.dParaSep ≠ []) (o : Options α) :
    (o.withDefaults cx).paraSep ≠ [] := by
  rw [Options.paraSep_withDefaults]
  exact ite_isEmpty_ne_nil hd _

theorem ite_isEmpty_idem (l d : List α) :
    (if (if l.isEmpty then d else l).isEmpty then d else if l.isEmpty then d else l) =
      if l.isEmpty then d else l := by
  by_cases h : l.isEmpty
  · simp only [h, if_true, ite_self]
  · simp only [h, if_false, Bool.false_eq_true]

theorem sepDefaults_idem (o : Options α) : (o.sepDefaults cx).sepDefaults cx = o.sepDefaults cx := by
  unfold Options.sepDefaults
  dsimp only
  simp only [ite_isEmpty_idem]

/-- the separator part of the defaults is idempotent on an already defaulted value
(this needs no assumption on the defaults) -/
theorem sepDefaults_withDefaults (o : Options α) :
    (o.withDefaults cx).sepDefaults cx = o.withDefaults cx := by
  obtain ⟨cs, h⟩ := withDefaults_eq_charset cx o
  rw [h]
  exact congrArg (fun o' : Options α => { o' with charset := cs }) (sepDefaults_idem cx o)

/-- `withDefaults` is idempotent once the completed character set has as many clusters as the
default one; `DefaultsOk` is not needed. -/
theorem withDefaults_idem' (o : Options α)
    (hc : gLen cx (o.withDefaults cx).charset = gLen cx cx.dCharset) :
    (o.withDefaults cx).withDefaults cx = o.withDefaults cx := by
  rw [withDefaults_eq cx (o.withDefaults cx), hc]
  simp only [bne_self_eq_false, Bool.false_eq_true, if_false]
  exact sepDefaults_withDefaults cx o

theorem withDefaults_idem (cx : Ctx α) (_hd : DefaultsOk cx) (o : Options α)
    (hc : gLen cx (o.withDefaults cx).charset = gLen cx cx.dCharset) :
    (o.withDefaults cx).withDefaults cx = o.withDefaults cx :=
  withDefaults_idem' cx o hc

end

/-! ## operations that only change the text -/
section
variable {α : Type}

/-- `r` is `ed` with some other text -/
def Editor.SameBut (ed r : Editor α) : Prop := ∃ t, r = ed.withText t

theorem Editor.SameBut.opts {ed r : Editor α} (h : ed.SameBut r) : r.opts = ed.opts := by
  obtain ⟨t, rfl⟩ := h; exact Editor.withText_opts ed t

theorem Editor.SameBut.refl (ed : Editor α) : ed.SameBut ed := ⟨ed.text, ed.withText_self.symm⟩

/-- `F` computes a text from its receiver's text alone and returns the receiver with that text:
on any editor with the same text it gives the same text, or the same error. -/
def TextOnly (F : Editor α → R (Editor α)) : Prop :=
  ∀ ed ed' : Editor α, ed'.text = ed.text → F ed' = (fun r => ed'.withText r.text) <$> F ed

theorem TextOnly.sameBut {F : Editor α → R (Editor α)} (hF : TextOnly F) {ed r : Editor α}
    (h : F ed = .ok r) : ed.SameBut r := by
  have e := hF ed ed rfl
  rw [h] at e
  exact ⟨r.text, Except.ok.inj e⟩

theorem TextOnly.opts {F : Editor α → R (Editor α)} (hF : TextOnly F) {ed r : Editor α}
    (h : F ed = .ok r) : r.opts = ed.opts := (hF.sameBut h).opts

theorem TextOnly.unchanged : TextOnly (pure : Editor α → R (Editor α)) := by
  intro ed ed' h
  rw [map_pure, ← h, Editor.withText_self]

/-- the receiver's stored options only end up on the result -/
theorem TextOnly.withOpts {F : Editor α → R (Editor α)} (hF : TextOnly F) (ed : Editor α)
    (o : Options α) : F (ed.withOpts o) = (F ed).map (fun r => r.withOpts o) := by
  rw [hF ed _ (ed.withOpts_text o)]
  cases h : F ed with
  | error e => rfl
  | ok r =>
    obtain ⟨t, rfl⟩ := hF.sameBut h
    show Except.ok ((ed.withOpts o).withText (ed.withText t).text) = .ok ((ed.withText t).withOpts o)
    rw [Editor.withText_text, Editor.withText_withOpts]

end

/-! ## selections cut at byte offsets computed from the text -/
section
variable {α : Type} (cx : Ctx α)

theorem subEd_text (ed : Editor α) (a b : Int) :
    Editor.text <$> ed.subEd cx a b = byteSlice cx ed.text a b := by
  simp only [Editor.subEd, map_bind, map_pure, Editor.text, bind_pure]

theorem subEd_ok_slice (ed r : Editor α) (a b : Int) (h : ed.subEd cx a b = .ok r) :
    ∃ t, byteSlice cx ed.text a b = .ok t ∧ r = .sub t ed.opts ed a b := by
  unfold Editor.subEd at h
  obtain ⟨t, ht, h⟩ := bind_ok.1 h
  exact ⟨t, ht, (pure_ok.1 h).symm⟩

theorem chars_text {ed ed' : Editor α} (h : ed'.text = ed.text) (s e : Int) :
    Editor.text <$> ed'.chars cx s e = Editor.text <$> ed.chars cx s e := by
  rw [Editor.chars_eq_charOff, Editor.chars_eq_charOff, subEd_text, subEd_text, h]

end
section
variable {α : Type} [DecidableEq α] (cx : Ctx α)

theorem skipSeps_add (s sep : List α) (a b pos : Nat) :
    skipSeps s sep (a + b) pos = (skipSeps s sep a pos).bind (skipSeps s sep b) := by
  induction a generalizing pos with
  | zero => rw [Nat.zero_add]; rfl
  | succ a ih =>
    rw [Nat.add_right_comm, skipSeps, skipSeps]
    cases indexOf sep (s.drop pos) with
    | none => rfl
    | some i => exact ih _

/-- the byte offset just behind the `k`-th separator of the scan from the start of the text; the
end of the text when the scan finds fewer -/
def lineEnd (t sep : List α) (k : Nat) : Nat :=
  match skipSeps t sep k 0 with
  | some p => byteOff cx t p
  | none => byteLen cx t

theorem lineEnd_nil (sep : List α) (k : Nat) : lineEnd cx [] sep k = 0 := by
  unfold lineEnd
  split
  · rw [byteOff_eq, List.take_nil, byteLen_nil]
  · rfl

/-- `Lines` cuts its receiver behind the separators `st` and `en` of the normalised range, whatever
the context; the scan for the end resumes where the scan for the start stopped -/
theorem Editor.linesSel_eq_lineEnd (ed : Editor α) (s e : Int) :
    ed.linesSel cx s e =
      if (Spec.normRange (ed.lineCount cx : Int) s e).1 ≥ (ed.lineCount cx : Int) then
        ed.subEd cx (byteLen cx ed.text) (byteLen cx ed.text)
      else
        ed.subEd cx
          (lineEnd cx ed.text (ed.opts.withDefaults cx).lineSep
            (Spec.normRange (ed.lineCount cx : Int) s e).1.toNat)
          (lineEnd cx ed.text (ed.opts.withDefaults cx).lineSep
            (Spec.normRange (ed.lineCount cx : Int) s e).2.toNat) := by
  have hb := Spec.normRange_bounds (ed.lineCount cx : Int) s e (Int.natCast_nonneg _)
  unfold Editor.linesSel
  simp only [rangeToIndexes_eq_normRange _ _ _ (Int.natCast_nonneg _)]
  generalize Spec.normRange _ s e = p at hb ⊢
  obtain ⟨st, en⟩ := p
  dsimp only at hb ⊢
  by_cases hempty : ed.text.isEmpty = true
  · rw [if_pos hempty, List.isEmpty_iff.1 hempty, lineEnd_nil, lineEnd_nil, byteLen_nil, ite_self]
    rfl
  · rw [if_neg hempty]
    split
    · rfl
    · have hen : en.toNat = st.toNat + (en - st).toNat := by
        rw [← Int.toNat_add hb.1 (Int.sub_nonneg.2 hb.2.1)]
        congr 1
        omega
      rw [hen]
      unfold lineEnd
      rw [skipSeps_add]
      cases skipSeps ed.text (ed.opts.withDefaults cx).lineSep st.toNat 0 with
      | none => rfl
      | some q =>
        dsimp only [Option.bind]
        cases skipSeps ed.text (ed.opts.withDefaults cx).lineSep (en - st).toNat q <;> rfl

/-- two editors with the same text and the same stored options are cut by `Lines` at the same
byte offsets -/
theorem linesSel_same_offsets {ed ed' : Editor α} (ht : ed'.text = ed.text) (ho : ed'.opts = ed.opts)
    (s e : Int) :
    ∃ a b, ed'.linesSel cx s e = ed'.subEd cx a b ∧ ed.linesSel cx s e = ed.subEd cx a b := by
  have hc : ed'.lineCount cx = ed.lineCount cx := by
    unfold Editor.lineCount Editor.lines Editor.linesSep
    rw [ht, ho]
  rw [Editor.linesSel_eq_lineEnd, Editor.linesSel_eq_lineEnd, ht, ho, hc]
  split <;> exact ⟨_, _, rfl, rfl⟩

theorem linesSel_ok (ed r : Editor α) (s e : Int) (h : ed.linesSel cx s e = .ok r) :
    ∃ t a b, r = .sub t ed.opts ed a b := by
  obtain ⟨a, b, h', -⟩ := linesSel_same_offsets cx (rfl : ed.text = ed.text) rfl s e
  obtain ⟨t, -, hr⟩ := subEd_ok_slice cx ed r a b (h' ▸ h)
  exact ⟨t, a, b, hr⟩

end

/-! ## every operation is text-only -/
section
variable {α : Type} {F G : Editor α → R (Editor α)}

theorem TextOnly.ite {c : Prop} [Decidable c] (hF : TextOnly F) (hG : TextOnly G) :
    TextOnly (fun ed => if c then F ed else G ed) := by
  intro ed ed' h
  split
  · exact hF ed ed' h
  · exact hG ed ed' h

theorem TextOnly.bind {β : Type} (x : R β) {F : β → Editor α → R (Editor α)}
    (hF : ∀ b, TextOnly (F b)) : TextOnly (fun ed => x >>= fun b => F b ed) := by
  intro ed ed' h
  rw [map_bind]
  exact bind_congr fun b => hF b ed ed' h

end
section
variable {α : Type} (cx : Ctx α)

theorem Editor.string_root (t : List α) (o : Options α) : (Editor.root t o).string cx = pure t := by
  rfl

theorem Editor.insert_eq_chars (ed : Editor α) (pos : Int) (t : List α) :
    ed.insert cx pos t = (do
      let before ← Editor.text <$> ed.chars cx 0 pos
      let after ← Editor.text <$> ed.chars cx pos (byteLen cx ed.text)
      pure (ed.withText (before ++ t ++ after))) := by
  simp only [Editor.insert, Editor.charsTo, Editor.charsFrom, bind_map_left]

theorem insert_textOnly (pos : Int) (t : List α) : TextOnly (fun ed => ed.insert cx pos t) := by
  intro ed ed' h
  simp only [Editor.insert_eq_chars, chars_text cx h, h, map_bind, map_pure, Editor.withText_text]

theorem insertTableOpts_textOnly (pos : Int) (data : List (List (List α))) (width : Int)
    (o : Options α) : TextOnly (fun ed => ed.insertTableOpts cx pos data width o) :=
  insert_textOnly cx pos _

variable {cx}

/-- `Delete` and `Overtype` return their receiver with another text, which is all that
`EditorHistories` needs of them -/
theorem delete_sameBut (ed r : Editor α) (s e : Int) (h : ed.delete cx s e = .ok r) : ed.SameBut r := by
  unfold Editor.delete at h
  simp only at h
  generalize rangeToIndexes _ _ _ = p at h
  obtain ⟨x, y⟩ := p
  simp only at h
  split at h
  · rw [← pure_ok.1 h]; exact .refl ed
  · obtain ⟨a, -, h⟩ := bind_ok.1 h
    obtain ⟨b, -, h⟩ := bind_ok.1 h
    exact ⟨_, (pure_ok.1 h).symm⟩

theorem overtype_sameBut (ed r : Editor α) (pos : Int) (t : List α)
    (h : ed.overtype cx pos t = .ok r) : ed.SameBut r := by
  unfold Editor.overtype at h
  simp only at h
  obtain ⟨a, -, h⟩ := bind_ok.1 h
  obtain ⟨b, -, h⟩ := bind_ok.1 h
  exact ⟨_, (pure_ok.1 h).symm⟩

end
section
variable {α : Type} [DecidableEq α] (cx : Ctx α)

/-- the text computed by `applyOptsM` -/
def applyOptsText (t : List α) (op : Nat → List α → R (List (List α))) (o : Options α) :
    R (List α) := do
  let o := o.withDefaults cx
  let ls := (Editor.root t o).linesSep o.lineSep
  let outs ← (List.range ls.length).mapM fun i => op i (ls.getD i [])
  let applied := outs.flatten
  let applied := if !o.noTrailing ∧ ls.length < (splitOn t o.lineSep).length then applied ++ [[]]
    else applied
  pure (joinWith o.lineSep applied)

theorem linesSep_withOpts (ed : Editor α) (o : Options α) (sep : List α) :
    (ed.withOpts o).linesSep sep = (Editor.root ed.text o).linesSep sep := by
  cases ed <;> rfl

theorem applyOptsM_eq (ed : Editor α) (op : Nat → List α → R (List (List α))) (o : Options α) :
    ed.applyOptsM cx op o = (applyOptsText cx ed.text op o >>= fun x => pure (ed.withText x)) := by
  unfold Editor.applyOptsM applyOptsText
  simp only [linesSep_withOpts, bind_assoc, pure_bind]

theorem applyOptsM_textOnly (op : Nat → List α → R (List (List α))) (o : Options α) :
    TextOnly (fun ed => ed.applyOptsM cx op o) := by
  intro ed ed' h
  simp only [applyOptsM_eq, h, map_bind, map_pure, Editor.withText_text]

theorem applyParasM_textOnly (op : Nat → List α → List α → List α → R (List (List α)))
    (o : Options α) : TextOnly (fun ed => ed.applyParasM cx op o) := by
  intro ed ed' h
  unfold Editor.applyParasM
  dsimp only
  rw [h]
  split <;> simp only [map_bind, map_pure, Editor.withText_text]

theorem alignOpts_textOnly (align width : Int) (o : Options α) :
    TextOnly (fun ed => ed.alignOpts cx align width o) :=
  .ite .unchanged (.ite (applyParasM_textOnly cx _ _) (applyOptsM_textOnly cx _ _))

theorem collapseSpaceOpts_textOnly (o : Options α) :
    TextOnly (fun ed => ed.collapseSpaceOpts cx o) := by
  intro ed ed' h
  simp only [Editor.collapseSpaceOpts, h, map_bind, map_pure, Editor.withText_text]

theorem indentOpts_textOnly (level : Int) (o : Options α) :
    TextOnly (fun ed => ed.indentOpts cx level o) :=
  .ite .unchanged (.bind _ fun _ => .ite (applyParasM_textOnly cx _ _) (applyOptsM_textOnly cx _ _))

theorem wrapOpts_textOnly (width : Int) (o : Options α) :
    TextOnly (fun ed => ed.wrapOpts cx width o) := by
  refine .ite (applyParasM_textOnly cx _ _) fun ed ed' h => ?_
  simp only [h, map_bind, map_pure, Editor.withText_text]

/-- running a text-only operation on selected lines and committing the result is text-only: the
selection is cut from the receiver carrying `od`, and the receiver's own options are put back on
what `Commit` returns (the path of `JustifyOpts` when the last line is left alone) -/
theorem TextOnly.onLines {G : Editor α → R (Editor α)} (hG : TextOnly G) (od : Options α)
    (s e : Int) :
    TextOnly (fun ed => do
      let sel ← (ed.withOpts od).linesSel cx s e
      let r ← G sel
      pure ((← r.commit cx).withOpts ed.opts)) := by
  intro ed ed' h
  obtain ⟨a, b, h', h0⟩ := linesSel_same_offsets cx (ed := ed.withOpts od) (ed' := ed'.withOpts od)
    (by rw [Editor.withOpts_text, Editor.withOpts_text, h])
    (by rw [Editor.withOpts_opts, Editor.withOpts_opts]) s e
  simp only [h', h0, Editor.subEd, Editor.withOpts_text, Editor.withOpts_opts, h, bind_assoc,
    pure_bind]
  rw [map_bind]
  refine bind_congr fun t => ?_
  rw [hG (.sub t od (ed.withOpts od) a b) (.sub t od (ed'.withOpts od) a b) rfl]
  cases hr : G (.sub t od (ed.withOpts od) a b) with
  | error _ => rfl
  | ok r =>
    obtain ⟨x, rfl⟩ := hG.sameBut hr
    show ((Editor.sub x od (ed'.withOpts od) a b).commit cx >>= fun c => pure (c.withOpts ed'.opts)) =
      (fun r => ed'.withText r.text) <$>
        ((Editor.sub x od (ed.withOpts od) a b).commit cx >>= fun c => pure (c.withOpts ed.opts))
    simp only [Editor.commit, Editor.withOpts_text, h, bind_assoc, pure_bind, map_bind, map_pure,
      Editor.withOpts_withText_withOpts, Editor.withText_text]

theorem justifyOpts_textOnly (width : Int) (o : Options α) :
    TextOnly (fun ed => ed.justifyOpts cx width o) := by
  unfold Editor.justifyOpts
  refine .ite (applyParasM_textOnly cx _ _) ?_
  by_cases hj : (!(o.withDefaults cx).justifyLast) = true
  · simp only [hj, if_true]
    exact (applyOptsM_textOnly cx _ _).onLines cx _ 0 (-1)
  · simp only [hj, Bool.false_eq_true, if_false, pure_bind, bind_pure]
    exact applyOptsM_textOnly cx _ _

theorem insertDefTableOpts_textOnly (pos : Int) (defs : List (List α × List α)) (width : Int)
    (o : Options α) : TextOnly (fun ed => ed.insertDefTableOpts cx pos defs width o) :=
  .bind _ fun _ => .ite (insert_textOnly cx pos _) .unchanged

theorem insertTwoColumnsOpts_textOnly (pos : Int) (leftText rightText : List α)
    (minSpaceBetween width : Int) (pct : Pct) (o : Options α) :
    TextOnly (fun ed =>
      ed.insertTwoColumnsOpts cx pos leftText rightText minSpaceBetween width pct o) :=
  .ite .unchanged (.ite (fun _ _ _ => rfl)
    (.bind _ fun _ => .bind _ fun _ => .bind _ fun _ => insert_textOnly cx pos _))

theorem applyOptsM_shape (ed r : Editor α) (op : Nat → List α → R (List (List α))) (o : Options α)
    (h : ed.applyOptsM cx op o = .ok r) : ed.SameBut r :=
  (applyOptsM_textOnly cx op o).sameBut h

theorem applyOpts_shape (ed r : Editor α) (op : Nat → List α → List (List α)) (o : Options α)
    (h : ed.applyOpts cx op o = .ok r) : ed.SameBut r :=
  applyOptsM_shape cx ed r _ o h

theorem applyOptsM_opts (ed r : Editor α) (op : Nat → List α → R (List (List α))) (o : Options α)
    (h : ed.applyOptsM cx op o = .ok r) : r.opts = ed.opts :=
  (applyOptsM_textOnly cx op o).opts h

theorem applyOpts_opts (ed r : Editor α) (op : Nat → List α → List (List α)) (o : Options α)
    (h : ed.applyOpts cx op o = .ok r) : r.opts = ed.opts :=
  applyOptsM_opts cx ed r _ o h

theorem applyParasM_opts (ed r : Editor α)
    (op : Nat → List α → List α → List α → R (List (List α))) (o : Options α)
    (h : ed.applyParasM cx op o = .ok r) : r.opts = ed.opts :=
  (applyParasM_textOnly cx op o).opts h

end

/-! ## every `XOpts` sees its options only through `withDefaults` -/
section
variable {α : Type} [DecidableEq α] (cx : Ctx α) (ed : Editor α) (o : Options α)
  (hidem : (o.withDefaults cx).withDefaults cx = o.withDefaults cx)
include hidem

theorem applyOptsM_defaults (op : Nat → List α → R (List (List α))) :
    ed.applyOptsM cx op o = ed.applyOptsM cx op (o.withDefaults cx) := by
  unfold Editor.applyOptsM
  rw [hidem]

theorem applyOpts_defaults (op : Nat → List α → List (List α)) :
    ed.applyOpts cx op o = ed.applyOpts cx op (o.withDefaults cx) :=
  applyOptsM_defaults cx ed o hidem _

theorem applyParasM_defaults (op : Nat → List α → List α → List α → R (List (List α))) :
    ed.applyParasM cx op o = ed.applyParasM cx op (o.withDefaults cx) := by
  unfold Editor.applyParasM
  rw [hidem]

theorem alignOpts_defaults (align width : Int) :
    ed.alignOpts cx align width o = ed.alignOpts cx align width (o.withDefaults cx) := by
  unfold Editor.alignOpts
  rw [hidem]

theorem collapseSpaceOpts_defaults :
    ed.collapseSpaceOpts cx o = ed.collapseSpaceOpts cx (o.withDefaults cx) := by
  unfold Editor.collapseSpaceOpts
  rw [hidem]

omit hidem in
/-- the paragraph callback of `indentOpts` does not look at the options stored on the
temporary editor it creates -/
theorem indent_cb_eq (para : List α) (f : Nat → List α → List (List α)) (o1 o2 o : Options α) :
    (do let e ← (Editor.root para o1).applyOpts cx f o; pure [← e.string cx] : R (List (List α))) =
    (do let e ← (Editor.root para o2).applyOpts cx f o; pure [← e.string cx]) := by
  unfold Editor.applyOpts
  simp only [applyOptsM_eq, bind_assoc, pure_bind, Editor.withText, Editor.text, Editor.string_root]

/-- `IndentOpts` hands the undefaulted options on: to `applyOpts`/`applyParasM`, which default them,
and to the temporary editor of its paragraph callback, which does not look at them -/
theorem indentOpts_defaults (level : Int) :
    ed.indentOpts cx level o = ed.indentOpts cx level (o.withDefaults cx) := by
  have e1 : ∀ (ed : Editor α) f, ed.applyOpts cx f (o.withDefaults cx) = ed.applyOpts cx f o :=
    fun ed f => (applyOpts_defaults cx ed o hidem f).symm
  have e2 : ∀ f, ed.applyParasM cx f (o.withDefaults cx) = ed.applyParasM cx f o :=
    fun f => (applyParasM_defaults cx ed o hidem f).symm
  unfold Editor.indentOpts
  simp only [hidem, e1, e2, indent_cb_eq cx _ _ (o.withDefaults cx) o]

theorem wrapOpts_defaults (w : Int) :
    ed.wrapOpts cx w o = ed.wrapOpts cx w (o.withDefaults cx) := by
  unfold Editor.wrapOpts
  rw [hidem]

theorem justifyOpts_defaults (w : Int) :
    ed.justifyOpts cx w o = ed.justifyOpts cx w (o.withDefaults cx) := by
  unfold Editor.justifyOpts
  rw [hidem]

theorem insertDefTableOpts_defaults (pos : Int) (defs : List (List α × List α)) (width : Int) :
    ed.insertDefTableOpts cx pos defs width o =
      ed.insertDefTableOpts cx pos defs width (o.withDefaults cx) := by
  simp only [Editor.insertDefTableOpts_eq_core]
  unfold Editor.insertDefTableOptsCore
  rw [hidem]

omit [DecidableEq α] in
theorem insertTableOpts_defaults (pos : Int) (data : List (List (List α))) (width : Int) :
    ed.insertTableOpts cx pos data width o =
      ed.insertTableOpts cx pos data width (o.withDefaults cx) := by
  unfold Editor.insertTableOpts
  rw [hidem]

theorem insertTwoColumnsOpts_defaults (pos : Int) (leftText rightText : List α)
    (minSpaceBetween width : Int) (pct : Pct) :
    ed.insertTwoColumnsOpts cx pos leftText rightText minSpaceBetween width pct o =
      ed.insertTwoColumnsOpts cx pos leftText rightText minSpaceBetween width pct
        (o.withDefaults cx) := by
  unfold Editor.insertTwoColumnsOpts
  rw [hidem]

end

/-! ## the table character set when every atom is its own cluster -/
section
variable {α : Type} (cx : Ctx α)

theorem withDefaults_charset_length (htriv : ∀ s, cx.ends s = List.range' 1 s.length)
    (o : Options α) : (o.withDefaults cx).charset.length = cx.dCharset.length := by
  rw [withDefaults_eq, gLen_triv cx htriv, gLen_triv cx htriv]
  by_cases hne : o.charset.length = cx.dCharset.length
  · rw [if_neg (by rw [hne, bne_self_eq_false]; exact Bool.false_ne_true)]
    exact hne
  · rw [if_pos (bne_iff_ne.2 hne)]
    by_cases hlt : o.charset.length < cx.dCharset.length
    · -- too short: the missing tail of the default set is appended
      have e : (cx.dCharset.length : Int) - ((cx.dCharset.length : Int) - o.charset.length) =
          o.charset.length := by omega
      rw [if_pos hlt, e, gSub_triv cx htriv _ _ _ (Nat.le_of_lt hlt) (Nat.le_refl _)]
      show (o.charset ++ _).length = _
      rw [List.length_append, List.length_take, List.length_drop, Nat.min_self]
      omega
    · -- too long: cut down to the length of the default set
      rw [if_neg hlt]
      show (gSub cx o.charset ((0 : Nat) : Int) _).length = _
      rw [gSub_triv cx htriv _ _ _ (Nat.zero_le _) (by omega), List.length_take, List.length_drop]
      omega

theorem withDefaults_charset_length_triv (htriv : ∀ s, cx.ends s = List.range' 1 s.length)
    (h3 : cx.dCharset.length = 3) (o : Options α) :
    ((o.withDefaults cx).charset).length = 3 :=
  (withDefaults_charset_length cx htriv o).trans h3

/-- at cluster level `withDefaults` is idempotent without any side condition -/
theorem withDefaults_idem_of_triv (htriv : ∀ s, cx.ends s = List.range' 1 s.length)
    (o : Options α) : (o.withDefaults cx).withDefaults cx = o.withDefaults cx :=
  withDefaults_idem' cx o (by
    rw [gLen_triv cx htriv, gLen_triv cx htriv, withDefaults_charset_length cx htriv o])

end
end RosedVerif
