/-
Editors and sub-editors at any nesting depth and after any sequence of operations (properties C05,
C08; `Editor.commit_sub` in Bytes.lean is one `Commit` into one parent).  `Editor.fullText` is the text obtained by
committing through all ancestors; on an editor whose chain is cut at atom positions (`WellCut`)
`String()` and `CommitAll()` return exactly that, and it is the editor's text between surroundings
(`outerPre`, `outerSuf`) built from the ancestors only.  A program semantics over a growing pool of
editors (`EdOp`, `stepEd`, `runEd`) shows that every reachable editor is cut at ordered atom
positions (`Cut`), that the pool only grows, and that text-changing operations leave the whole
ancestor chain as it was.
-/
import RosedVerif.Model.Totality2
import RosedVerif.Model.InstAFacts
namespace RosedVerif

section defs
variable {α : Type} [DecidableEq α] (cx : Ctx α)

/-- `spliceBytes` with the Go panic / invalid-UTF-8 outcome mapped to "parent text unchanged";
on well-cut editors the fallback is never taken (`spliceOr_byteOff`) -/
def spliceOr (s : List α) (a b : Int) (t : List α) : List α :=
  match spliceBytes cx s a b t with
  | .ok r => r
  | .error _ => s

/-- committing through all ancestors, starting with text `t` in place of the editor's own -/
def Editor.fullTextWith : Editor α → List α → List α
  | .root _ _, t => t
  | .sub _ _ p a b, t => p.fullTextWith (spliceOr cx p.text a b t)

/-- the text obtained by committing through all ancestors:
root ↦ its text; `sub t o p a b` ↦ `fullText` of `p` with bytes `[a, b)` of its text replaced by `t`
(`fullText_sub`) -/
def Editor.fullText (ed : Editor α) : List α := ed.fullTextWith cx ed.text

/-- the options stored on the root of the ancestor chain -/
def Editor.rootOpts : Editor α → Options α
  | .root _ o => o
  | .sub _ _ p _ _ => p.rootOpts

/-- the atom index of byte offset `a` (0 when `a` is not on a rune boundary) -/
def atomIx (s : List α) (a : Int) : Nat := (atomsForBytes cx s a.toNat).getD 0

/-- everything in front of the selected regions, outermost ancestor first -/
def Editor.outerPre : Editor α → List α
  | .root _ _ => []
  | .sub _ _ p a _ => p.outerPre ++ p.text.take (atomIx cx p.text a)

/-- everything behind the selected regions, innermost ancestor first -/
def Editor.outerSuf : Editor α → List α
  | .root _ _ => []
  | .sub _ _ p _ b => p.text.drop (atomIx cx p.text b) ++ p.outerSuf

/-- the link to the parent: the stored snapshot and the byte range -/
def Editor.link : Editor α → Option (Editor α × Int × Int)
  | .root _ _ => none
  | .sub _ _ p a b => some (p, a, b)

/-- the whole ancestor chain: `(parent, a, b)` at every level, innermost first -/
def Editor.ancestry : Editor α → List (Editor α × Int × Int)
  | .root _ _ => []
  | .sub _ _ p a b => (p, a, b) :: p.ancestry

/-- every link of the parent chain is cut at an ORDERED pair of atom positions inside the parent's
text (`Editor.WellCut` keeps the positions but not their order) -/
inductive Editor.Cut : Editor α → Prop
  | root (t : List α) (o : Options α) : Editor.Cut (.root t o)
  | sub (t : List α) (o : Options α) (p : Editor α) (a b : Int) (i j : Nat) :
      i ≤ j → j ≤ p.text.length → a = (byteOff cx p.text i : Nat) → b = (byteOff cx p.text j : Nat) →
      Editor.Cut p → Editor.Cut (.sub t o p a b)

/-- `r` was obtained from `ed` by one of `Chars`, `CharsFrom`, `CharsTo`, `Lines`, `LinesFrom`,
`LinesTo` (the `From`/`To` forms are instances of the two general ones by definition) -/
def Editor.Selects (ed r : Editor α) : Prop :=
  (∃ s e, ed.chars cx s e = .ok r) ∨ (∃ s e, ed.linesSel cx s e = .ok r)

/-- reflexive-transitive closure of `Selects`: a selection of a selection of … -/
inductive Editor.SelectsStar : Editor α → Editor α → Prop
  | refl (ed : Editor α) : Editor.SelectsStar ed ed
  | step {ed m r : Editor α} : Editor.SelectsStar ed m → m.Selects cx r → Editor.SelectsStar ed r

end defs

/-! ## byte offsets and atom indexes -/

section bytes
variable {α : Type} [DecidableEq α] {cx : Ctx α}

/-- a byte offset accepted by `atomsForBytes` is the offset of the atom index it returns -/
theorem atomsForBytes_some : ∀ (s : List α) (n i : Nat), atomsForBytes cx s n = some i →
    i ≤ s.length ∧ byteOff cx s i = n
  | s, 0, i, h => by
    have : i = 0 := by cases s <;> simpa [atomsForBytes] using h.symm
    subst this
    exact ⟨Nat.zero_le _, byteOff_zero cx s⟩
  | [], n + 1, i, h => by simp [atomsForBytes] at h
  | c :: t, n + 1, i, h => by
    rw [atomsForBytes] at h
    split at h
    · rename_i hc
      cases hk : atomsForBytes cx t (n + 1 - cx.blen c) with
      | none => rw [hk] at h; simp at h
      | some k =>
        rw [hk] at h
        simp only [Option.map_some, Option.some.injEq] at h
        subst h
        obtain ⟨h1, h2⟩ := atomsForBytes_some t _ k hk
        refine ⟨by simp only [List.length_cons]; omega, ?_⟩
        rw [byteOff_cons_succ, h2]
        omega
    · simp at h

omit [DecidableEq α] in
theorem byteOff_min_length (s : List α) (i : Nat) :
    byteOff cx s (min i s.length) = byteOff cx s i := by
  unfold byteOff
  rw [← List.take_eq_take_min]

theorem atomIx_byteOff (hs : cx.Sane) (s : List α) (i : Nat) :
    atomIx cx s (byteOff cx s i : Nat) = min i s.length := by
  unfold atomIx
  rw [Int.toNat_natCast, atomsForBytes_byteOff hs]
  rfl

/-- the splice at two atom positions, in closed form -/
theorem spliceBytes_byteOff_eq (hs : cx.Sane) (s : List α) (i j : Nat) (t : List α) :
    spliceBytes cx s (byteOff cx s i : Nat) (byteOff cx s j : Nat) t =
      .ok (s.take i ++ t ++ s.drop j) := by
  unfold spliceBytes
  simp only
  have := byteOff_le_byteLen cx s i
  have := byteOff_le_byteLen cx s j
  rw [if_neg (by omega)]
  rw [Int.toNat_natCast, Int.toNat_natCast, atomsForBytes_byteOff hs, atomsForBytes_byteOff hs]
  simp only [← List.take_eq_take_min, ← List.drop_eq_drop_min]
  rfl

theorem spliceOr_byteOff (hs : cx.Sane) (s : List α) (i j : Nat) (t : List α) :
    spliceOr cx s (byteOff cx s i : Nat) (byteOff cx s j : Nat) t = s.take i ++ t ++ s.drop j := by
  unfold spliceOr
  rw [spliceBytes_byteOff_eq hs]

omit [DecidableEq α] in
/-- what a successful byte slice says: the bounds, and either the empty slice or two atom positions -/
theorem byteSlice_ok {s : List α} {a b : Int} {t : List α} (h : byteSlice cx s a b = .ok t) :
    (0 ≤ a ∧ a ≤ b ∧ b ≤ (byteLen cx s : Int)) ∧
      ((a = b ∧ t = []) ∨ a ≠ b ∧ ∃ i j, atomsForBytes cx s a.toNat = some i ∧
        atomsForBytes cx s b.toNat = some j ∧ t = (s.drop i).take (j - i)) := by
  unfold byteSlice at h
  simp only at h
  split at h
  · cases h
  · refine ⟨by omega, ?_⟩
    split at h
    · rename_i hab
      exact .inl ⟨by simpa using hab, (pure_ok.1 h).symm⟩
    · rename_i hab
      split at h
      · rename_i i j hi hj
        exact .inr ⟨by simpa using hab, i, j, hi, hj, (pure_ok.1 h).symm⟩
      · cases h

/-- slice then splice is the identity, for ANY byte offsets `a`, `b` (no well-formedness of the
context needed): whatever `s[a:b]` returned, putting it back at `[a, b)` gives `s` -/
theorem spliceBytes_of_byteSlice (s : List α) (a b : Int) (t : List α)
    (h : byteSlice cx s a b = .ok t) : spliceBytes cx s a b t = .ok s := by
  obtain ⟨⟨h0, hab, hb⟩, hc⟩ := byteSlice_ok h
  unfold spliceBytes
  simp only
  rw [if_neg (by omega)]
  rcases hc with ⟨rfl, rfl⟩ | ⟨hne, i, j, hi, hj, rfl⟩
  · -- the empty slice is accepted at any offset; `spliceBytes` puts `[]` back between `take i` and
    -- `drop i` at an atom position, and elsewhere its last branch returns `s` as it is
    cases hi : atomsForBytes cx s a.toNat with
    | none => simp; rfl
    | some i => simp; rfl
  · rw [hi, hj]
    obtain ⟨-, h1⟩ := atomsForBytes_some s _ i hi
    obtain ⟨-, h2⟩ := atomsForBytes_some s _ j hj
    have hij : i ≤ j := by
      apply Classical.byContradiction
      intro hn
      have := byteOff_mono cx s (i := j) (j := i) (by omega)
      omega
    simp only
    rw [take_append_mid_append_drop s hij]
    rfl

end bytes
/-! ## `String()` equals committing through all ancestors -/

section full
variable {α : Type} [DecidableEq α] {cx : Ctx α}

set_option linter.unusedSectionVars false in
theorem Editor.fullText_root (t : List α) (o : Options α) : (Editor.root t o).fullText cx = t := rfl

omit [DecidableEq α] in
theorem Editor.fullText_withText (ed : Editor α) (t : List α) :
    (ed.withText t).fullText cx = ed.fullTextWith cx t := by
  cases ed <;> rfl

set_option linter.unusedSectionVars false in
theorem Editor.fullTextWith_withText (ed : Editor α) (t t' : List α) :
    (ed.withText t).fullTextWith cx t' = ed.fullTextWith cx t' := by
  cases ed <;> rfl

set_option linter.unusedSectionVars false in
theorem Editor.fullTextWith_withOpts (ed : Editor α) (o : Options α) (t' : List α) :
    (ed.withOpts o).fullTextWith cx t' = ed.fullTextWith cx t' := by
  cases ed <;> rfl

omit [DecidableEq α] in
/-- the options of an editor play no role in what it converts back to -/
theorem Editor.fullText_withOpts (ed : Editor α) (o : Options α) :
    (ed.withOpts o).fullText cx = ed.fullText cx := by
  cases ed <;> rfl

omit [DecidableEq α] in
/-- a sub-editor's full text is the full text of its parent with
bytes `[a, b)` replaced by the sub-editor's current text -/
theorem Editor.fullText_sub (t : List α) (o : Options α) (p : Editor α) (a b : Int) :
    (Editor.sub t o p a b).fullText cx = (p.withText (spliceOr cx p.text a b t)).fullText cx := by
  rw [Editor.fullText_withText]
  rfl

/-- … and with the atom indexes that `WellCut` provides -/
theorem Editor.fullText_sub_byteOff (hs : cx.Sane) (t : List α) (o : Options α) (p : Editor α)
    (i j : Nat) :
    (Editor.sub t o p (byteOff cx p.text i : Nat) (byteOff cx p.text j : Nat)).fullText cx =
      (p.withText (p.text.take i ++ t ++ p.text.drop j)).fullText cx := by
  rw [Editor.fullText_sub, spliceOr_byteOff hs]

omit [DecidableEq α] in
theorem Editor.rootOpts_withText (ed : Editor α) (t : List α) : (ed.withText t).rootOpts = ed.rootOpts := by
  cases ed <;> rfl

set_option linter.unusedSectionVars false in
theorem Editor.isSub_withText (ed : Editor α) (t : List α) : (ed.withText t).isSub = ed.isSub := by
  cases ed <;> rfl

omit [DecidableEq α] in
/-- without any hypothesis: WHENEVER `Commit()` returns, the result converts back to what the
sub-editor converted back to (any depth) -/
theorem commit_fullText {ed r : Editor α} (h : ed.commit cx = .ok r) :
    r.fullText cx = ed.fullText cx ∧ r.rootOpts = ed.rootOpts := by
  cases ed with
  | root t o => cases h; exact ⟨rfl, rfl⟩
  | sub t o p a b =>
    obtain ⟨x, hx, h⟩ := bind_ok.1 h
    rw [← pure_ok.1 h, Editor.fullText_sub, Editor.rootOpts_withText]
    unfold spliceOr
    rw [hx]
    exact ⟨rfl, rfl⟩

omit [DecidableEq α] in
/-- … and whenever `CommitAll()` returns, it returns the root with the text committed through all
ancestors (on editors that are not well-cut it may fail instead) -/
theorem commitAllFuel_ok : ∀ (n : Nat) (ed r : Editor α), commitAllFuel cx n ed = .ok r →
    r = .root (ed.fullText cx) ed.rootOpts
  | 0, .root t o, r, h => by cases h; rfl
  | 0, .sub t o p a b, r, h => by cases h
  | n + 1, .root t o, r, h => by cases h; rfl
  | n + 1, .sub t o p a b, r, h => by
    simp only [commitAllFuel, Editor.isSub, if_true] at h
    obtain ⟨c, hc, h⟩ := bind_ok.1 h
    obtain ⟨h1, h2⟩ := commit_fullText hc
    rw [commitAllFuel_ok n c r h, h1, h2]

/-- `CommitAll()` on a well-cut editor returns the root with the text committed through all
ancestors and the ROOT's options: it returns (`commitAll_total`), and then it returns this -/
theorem commitAll_eq_fullText (hs : cx.Sane) {ed : Editor α} (h : ed.WellCut cx) :
    ed.commitAll cx = .ok (.root (ed.fullText cx) ed.rootOpts) := by
  obtain ⟨r, hr⟩ := commitAll_total hs h
  rw [hr, commitAllFuel_ok _ _ _ hr]

theorem string_eq_fullText (hs : cx.Sane) {ed : Editor α} (h : ed.WellCut cx) :
    ed.string cx = .ok (ed.fullText cx) := by
  unfold Editor.string
  rw [commitAll_eq_fullText hs h]
  rfl

set_option linter.unusedSectionVars false in
theorem string_ok_eq_fullText {ed : Editor α} {s : List α} (h : ed.string cx = .ok s) :
    s = ed.fullText cx := by
  unfold Editor.string at h
  obtain ⟨r, hr, h⟩ := bind_ok.1 h
  rw [commitAllFuel_ok _ _ _ hr] at h
  exact (pure_ok.1 h).symm

/-- whatever the sub-editor's text and options have become -/
theorem string_eq_fullText_edited (hs : cx.Sane) {ed : Editor α} (h : ed.WellCut cx) (t' : List α)
    (o' : Options α) :
    ((ed.withText t').withOpts o').string cx = .ok (ed.fullTextWith cx t') := by
  rw [string_eq_fullText hs ((h.withText t').withOpts o'), Editor.fullText_withOpts,
    Editor.fullText_withText]

set_option linter.unusedSectionVars false in
/-- committing a root Editor is the identity, for `Commit`, `CommitAll` and `String` -/
theorem commit_root_id (t : List α) (o : Options α) :
    (Editor.root t o).commit cx = .ok (.root t o) ∧ (Editor.root t o).commitAll cx = .ok (.root t o) ∧
      (Editor.root t o).string cx = .ok t := ⟨rfl, rfl, rfl⟩

/-! ## nested regions -/

set_option linter.unusedSectionVars false in
theorem Editor.outerPre_withText (ed : Editor α) (t : List α) :
    (ed.withText t).outerPre cx = ed.outerPre cx := by cases ed <;> rfl
set_option linter.unusedSectionVars false in
theorem Editor.outerSuf_withText (ed : Editor α) (t : List α) :
    (ed.withText t).outerSuf cx = ed.outerSuf cx := by cases ed <;> rfl
set_option linter.unusedSectionVars false in
theorem Editor.outerPre_withOpts (ed : Editor α) (o : Options α) :
    (ed.withOpts o).outerPre cx = ed.outerPre cx := by cases ed <;> rfl
set_option linter.unusedSectionVars false in
theorem Editor.outerSuf_withOpts (ed : Editor α) (o : Options α) :
    (ed.withOpts o).outerSuf cx = ed.outerSuf cx := by cases ed <;> rfl

/-- the frame of a sub-editor cut at atoms `[i, j)`: the parent's frame around the parent's text
before `i` / after `j` -/
theorem Editor.outerPre_sub_byteOff (hs : cx.Sane) (t : List α) (o : Options α) (p : Editor α)
    (i j : Nat) :
    (Editor.sub t o p (byteOff cx p.text i : Nat) (byteOff cx p.text j : Nat)).outerPre cx =
      p.outerPre cx ++ p.text.take i := by
  simp only [Editor.outerPre, atomIx_byteOff hs, ← List.take_eq_take_min]

theorem Editor.outerSuf_sub_byteOff (hs : cx.Sane) (t : List α) (o : Options α) (p : Editor α)
    (i j : Nat) :
    (Editor.sub t o p (byteOff cx p.text i : Nat) (byteOff cx p.text j : Nat)).outerSuf cx =
      p.text.drop j ++ p.outerSuf cx := by
  simp only [Editor.outerSuf, atomIx_byteOff hs, ← List.drop_eq_drop_min]

/-- nested regions: for a well-cut editor at any depth, whatever text `t'`
it carries, the text committed through all ancestors is
`pre_d ++ … ++ pre_1 ++ t' ++ suf_1 ++ … ++ suf_d`, where `pre_k`/`suf_k` are the parts of the
`k`-th ancestor's text before/after the region cut for the level below: `outerPre`/`outerSuf` are
functions of the ancestors only (`outerPre_withText`, `outerPre_withOpts`) -/
theorem fullTextWith_nested (hs : cx.Sane) {ed : Editor α} (h : ed.WellCut cx) :
    ∀ t' : List α, ed.fullTextWith cx t' = ed.outerPre cx ++ t' ++ ed.outerSuf cx := by
  induction h with
  | root t o => intro t'; simp [Editor.fullTextWith, Editor.outerPre, Editor.outerSuf]
  | sub t o p i j hp ih =>
    intro t'
    rw [Editor.outerPre_sub_byteOff hs, Editor.outerSuf_sub_byteOff hs]
    simp only [Editor.fullTextWith, spliceOr_byteOff hs, ih, List.append_assoc]

theorem fullText_nested (hs : cx.Sane) {ed : Editor α} (h : ed.WellCut cx) (t' : List α) :
    (ed.withText t').fullText cx = ed.outerPre cx ++ t' ++ ed.outerSuf cx := by
  rw [Editor.fullText_withText, fullTextWith_nested hs h]

/-- the surroundings do not depend on the current text -/
theorem fullText_region (hs : cx.Sane) {ed : Editor α} (h : ed.WellCut cx) :
    ∃ pre suf : List α, ∀ t' : List α, (ed.withText t').fullText cx = pre ++ t' ++ suf :=
  ⟨_, _, fullText_nested hs h⟩

/-- … and `String()` after ANY edit of the sub-editor's text and options returns normally (no
`Err.invalidUtf8`, no panic) with exactly the edited text between the unchanged surroundings -/
theorem string_region (hs : cx.Sane) {ed : Editor α} (h : ed.WellCut cx) :
    ∃ pre suf : List α, ∀ (t' : List α) (o' : Options α),
      ((ed.withText t').withOpts o').string cx = .ok (pre ++ t' ++ suf) :=
  ⟨_, _, fun t' o' => by rw [string_eq_fullText_edited hs h, fullTextWith_nested hs h]⟩

end full

/-! ## unedited round trip at any depth -/

section select
variable {α : Type} [DecidableEq α] {cx : Ctx α}

theorem Editor.Selects.subEd {ed r : Editor α} (h : ed.Selects cx r) :
    ∃ a b, ed.subEd cx a b = .ok r := by
  rcases h with ⟨s, e, h⟩ | ⟨s, e, h⟩
  · exact ⟨_, _, Editor.chars_eq_charOff cx ed s e ▸ h⟩
  · obtain ⟨a, b, h', -⟩ := linesSel_same_offsets cx (rfl : ed.text = ed.text) rfl s e
    exact ⟨a, b, h' ▸ h⟩

theorem Editor.Selects.chars {ed r : Editor α} {s e : Int} (h : ed.chars cx s e = .ok r) :
    ed.Selects cx r := .inl ⟨s, e, h⟩
theorem Editor.Selects.charsFrom {ed r : Editor α} {s : Int} (h : ed.charsFrom cx s = .ok r) :
    ed.Selects cx r := .inl ⟨s, _, h⟩
theorem Editor.Selects.charsTo {ed r : Editor α} {e : Int} (h : ed.charsTo cx e = .ok r) :
    ed.Selects cx r := .inl ⟨0, e, h⟩
theorem Editor.Selects.linesSel {ed r : Editor α} {s e : Int} (h : ed.linesSel cx s e = .ok r) :
    ed.Selects cx r := .inr ⟨s, e, h⟩
theorem Editor.Selects.linesFrom {ed r : Editor α} {s : Int} (h : ed.linesFrom cx s = .ok r) :
    ed.Selects cx r := .inr ⟨s, _, h⟩
theorem Editor.Selects.linesTo {ed r : Editor α} {e : Int} (h : ed.linesTo cx e = .ok r) :
    ed.Selects cx r := .inr ⟨0, e, h⟩

/-- a selection is a sub-editor of `ed` carrying `ed`'s options, and its text is the byte slice -/
theorem Editor.Selects.shape {ed r : Editor α} (h : ed.Selects cx r) :
    ∃ t a b, byteSlice cx ed.text a b = .ok t ∧ r = .sub t ed.opts ed a b := by
  obtain ⟨a, b, h⟩ := h.subEd
  obtain ⟨t, ht, rfl⟩ := subEd_ok_slice cx ed _ a b h
  exact ⟨t, a, b, ht, rfl⟩

/-- committing an unedited selection gives back the editor it was cut from — the VALUE, text and
options and ancestors (no hypothesis on the context or on `ed`) -/
theorem Editor.Selects.commit_eq {ed r : Editor α} (h : ed.Selects cx r) : r.commit cx = .ok ed := by
  obtain ⟨t, a, b, ht, rfl⟩ := h.shape
  simp only [Editor.commit, spliceBytes_of_byteSlice _ _ _ _ ht]
  show Except.ok (ed.withText ed.text) = _
  rw [Editor.withText_self]

/-- unedited round trip at any depth: a selection converts back to exactly what the editor it
was cut from converts back to -/
theorem Editor.Selects.fullText_eq {ed r : Editor α} (h : ed.Selects cx r) :
    r.fullText cx = ed.fullText cx :=
  (commit_fullText h.commit_eq).1.symm

theorem Editor.Selects.commitAll_eq {ed r : Editor α} (h : ed.Selects cx r) :
    r.commitAll cx = ed.commitAll cx := by
  have hc := h.commit_eq
  obtain ⟨t, a, b, ht, rfl⟩ := h.shape
  unfold Editor.commitAll
  simp only [Editor.depth, commitAllFuel, Editor.isSub, if_true, hc]
  rfl

/-- `String()` of an unedited selection is `String()` of the editor it was cut from (same text, or
the same failure) -/
theorem Editor.Selects.string_eq {ed r : Editor α} (h : ed.Selects cx r) :
    r.string cx = ed.string cx := by
  unfold Editor.string
  rw [h.commitAll_eq]

/-- a selection is cut at atom positions of the editor it was taken from -/
theorem Editor.Selects.cutAtAtoms (hs : cx.Sane) {ed r : Editor α} (h : ed.Selects cx r) :
    ed.CutAtAtoms cx r := by
  rcases h with ⟨s, e, h⟩ | ⟨s, e, h⟩
  · obtain ⟨r0, h0, hc⟩ := chars_total' hs ed s e
    exact Except.ok.inj (h0.symm.trans h) ▸ hc
  · obtain ⟨r0, h0, hc⟩ := linesSel_total' hs ed s e
    exact Except.ok.inj (h0.symm.trans h) ▸ hc

theorem Editor.Selects.wellCut (hs : cx.Sane) {ed r : Editor α} (h : ed.Selects cx r)
    (hw : ed.WellCut cx) : r.WellCut cx :=
  hw.of_cut (h.cutAtAtoms hs)

theorem Editor.Selects.total (hs : cx.Sane) (ed : Editor α) (s e : Int) :
    (∃ r, ed.chars cx s e = .ok r ∧ ed.Selects cx r) ∧
      (∃ r, ed.linesSel cx s e = .ok r ∧ ed.Selects cx r) :=
  ⟨let ⟨r, h⟩ := chars_total hs ed s e; ⟨r, h, .inl ⟨s, e, h⟩⟩,
   let ⟨r, h⟩ := linesSel_total hs ed s e; ⟨r, h, .inr ⟨s, e, h⟩⟩⟩

/-- from a well-cut editor, any selection converts back to the original text,
and `String()` says so -/
theorem unedited_any_depth (hs : cx.Sane) {ed r : Editor α} (hw : ed.WellCut cx)
    (h : ed.Selects cx r) :
    r.fullText cx = ed.fullText cx ∧ r.string cx = .ok (ed.fullText cx) ∧
      ed.string cx = .ok (ed.fullText cx) :=
  ⟨h.fullText_eq, by rw [h.string_eq]; exact string_eq_fullText hs hw, string_eq_fullText hs hw⟩

/-- … and through any number of nested selections -/
theorem Editor.SelectsStar.fullText_eq {ed r : Editor α} (h : Editor.SelectsStar cx ed r) :
    r.fullText cx = ed.fullText cx ∧ r.string cx = ed.string cx := by
  induction h with
  | refl => exact ⟨rfl, rfl⟩
  | step _ hs ih => exact ⟨hs.fullText_eq.trans ih.1, hs.string_eq.trans ih.2⟩

theorem Editor.SelectsStar.wellCut (hs : cx.Sane) {ed r : Editor α}
    (h : Editor.SelectsStar cx ed r) (hw : ed.WellCut cx) : r.WellCut cx := by
  induction h with
  | refl => exact hw
  | step _ h1 ih => exact h1.wellCut hs ih

end select

/-! ## ordered cuts: the selected region really is a region `[i, j)`, `i ≤ j ≤ length` -/

section cut
variable {α : Type} [DecidableEq α] {cx : Ctx α}

omit [DecidableEq α] in
theorem Editor.Cut.wellCut {ed : Editor α} (h : ed.Cut cx) : ed.WellCut cx := by
  induction h with
  | root t o => exact .root t o
  | sub t o p a b i j _ _ ha hb _ ih => subst ha hb; exact .sub t o p i j ih

omit [DecidableEq α] in
theorem Editor.Cut.withText {ed : Editor α} (h : ed.Cut cx) (t : List α) : (ed.withText t).Cut cx := by
  cases h with
  | root _ o => exact .root t o
  | sub _ o p a b i j h1 h2 ha hb hp => exact .sub t o p a b i j h1 h2 ha hb hp

omit [DecidableEq α] in
theorem Editor.Cut.withOpts {ed : Editor α} (h : ed.Cut cx) (o : Options α) : (ed.withOpts o).Cut cx := by
  cases h with
  | root t _ => exact .root t o
  | sub t _ p a b i j h1 h2 ha hb hp => exact .sub t o p a b i j h1 h2 ha hb hp

omit [DecidableEq α] in
theorem Editor.SameBut.cut {ed r : Editor α} (h : ed.SameBut r) (hc : ed.Cut cx) : r.Cut cx := by
  obtain ⟨t, rfl⟩ := h
  exact hc.withText t

/-- a selection of an (ordered-)cut editor is (ordered-)cut -/
theorem Editor.Selects.cut (hs : cx.Sane) {ed r : Editor α} (h : ed.Selects cx r) (hc : ed.Cut cx) :
    r.Cut cx := by
  obtain ⟨t', i, j, heq⟩ := h.cutAtAtoms hs
  obtain ⟨t, a, b, ht, rfl⟩ := h.shape
  injection heq with _ _ _ ha hb
  obtain ⟨⟨-, hab, -⟩, -⟩ := byteSlice_ok ht
  -- `byteOff` is only known to be weakly monotone, so `a ≤ b` does not give `i ≤ j`; but when the
  -- (capped) indexes come out reversed then `b ≤ a`, hence `a = b`, and `[i, i)` has these offsets
  have hi := byteOff_min_length (cx := cx) ed.text i
  have hj := byteOff_min_length (cx := cx) ed.text j
  by_cases hij : min i ed.text.length ≤ min j ed.text.length
  · exact .sub t _ ed a b _ _ hij (Nat.min_le_right _ _) (by rw [hi]; exact ha) (by rw [hj]; exact hb) hc
  · have := byteOff_mono cx ed.text (i := min j ed.text.length) (j := min i ed.text.length) (by omega)
    refine .sub t _ ed a b _ _ (Nat.le_refl (min i ed.text.length)) (Nat.min_le_right _ _)
      (by rw [hi]; exact ha) ?_ hc
    rw [hi]; rw [hi, hj] at this; omega

set_option linter.unusedSectionVars false in
theorem Editor.Cut.commit {ed r : Editor α} (h : ed.Cut cx) (hr : ed.commit cx = .ok r) :
    r.Cut cx := by
  cases h with
  | root t o => cases hr; exact .root t o
  | sub t o p a b i j _ _ _ _ hp =>
    simp only [Editor.commit] at hr
    obtain ⟨x, -, hr⟩ := bind_ok.1 hr
    rw [← pure_ok.1 hr]
    exact hp.withText x

/-- `Commit` at any depth replaces exactly the selected region: a sub-editor whose chain is cut
at ordered atoms was cut at atoms `[i, j)` of its parent, `i ≤ j ≤ length`, and committing it —
whatever its text and options have become — gives the parent value (its options and ITS ancestors
untouched) whose text is the parent's text with exactly atoms `[i, j)` replaced -/
theorem Editor.Cut.commit_region (hs : cx.Sane) {t : List α} {o : Options α} {p : Editor α} {a b : Int}
    (h : (Editor.sub t o p a b).Cut cx) :
    ∃ i j : Nat, i ≤ j ∧ j ≤ p.text.length ∧ a = (byteOff cx p.text i : Nat) ∧
      b = (byteOff cx p.text j : Nat) ∧
      ∀ (t' : List α) (o' : Options α),
        (Editor.sub t' o' p a b).commit cx = .ok (p.withText (p.text.take i ++ t' ++ p.text.drop j)) := by
  cases h with
  | sub _ _ _ _ _ i j h1 h2 ha hb hp =>
    refine ⟨i, j, h1, h2, ha, hb, fun t' o' => ?_⟩
    subst ha hb
    simp only [Editor.commit, spliceBytes_byteOff_eq hs]
    rfl

end cut

/-! ## programs over a growing pool of editors -/

section shapes
variable {α : Type} [DecidableEq α] {cx : Ctx α}

omit [DecidableEq α] in
theorem Editor.SameBut.link {ed r : Editor α} (h : ed.SameBut r) : r.link = ed.link := by
  obtain ⟨t, rfl⟩ := h
  cases ed <;> rfl

omit [DecidableEq α] in
theorem Editor.SameBut.ancestry {ed r : Editor α} (h : ed.SameBut r) : r.ancestry = ed.ancestry := by
  obtain ⟨t, rfl⟩ := h
  cases ed <;> rfl

omit [DecidableEq α] in
theorem Editor.withOpts_link (ed : Editor α) (o : Options α) : (ed.withOpts o).link = ed.link := by
  cases ed <;> rfl

omit [DecidableEq α] in
theorem Editor.withOpts_ancestry (ed : Editor α) (o : Options α) :
    (ed.withOpts o).ancestry = ed.ancestry := by
  cases ed <;> rfl

set_option linter.unusedSectionVars false in
/-- the chain is determined by the link (the stored parent is a whole value) -/
theorem Editor.ancestry_eq_of_link {ed r : Editor α} (h : r.link = ed.link) :
    r.ancestry = ed.ancestry := by
  cases ed <;> cases r <;> simp only [Editor.link, Editor.ancestry] at h ⊢ <;> try cases h
  all_goals rfl

end shapes

section prog
variable {α : Type} [DecidableEq α]

/-- one call of the public API against a pool of previously obtained Editors; `i` is the pool index
of the receiver.  An options argument `none` is the form without `Opts` (`Wrap`, `Justify`, …),
which uses the receiver's own options; `some o` is the `…Opts` form.  `setText` stands for an
`Apply`/`ApplyParagraphs` call with an arbitrary callback: whatever text it produced. -/
inductive EdOp (α : Type)
  | edit (text : List α) (opts : Options α)
  | chars (i : Nat) (s e : Int)
  | charsFrom (i : Nat) (s : Int)
  | charsTo (i : Nat) (e : Int)
  | lines (i : Nat) (s e : Int)
  | linesFrom (i : Nat) (s : Int)
  | linesTo (i : Nat) (e : Int)
  | commit (i : Nat)
  | commitAll (i : Nat)
  | withOptions (i : Nat) (o : Options α)
  | insert (i : Nat) (pos : Int) (t : List α)
  | delete (i : Nat) (s e : Int)
  | overtype (i : Nat) (pos : Int) (t : List α)
  | collapseSpaceOpts (i : Nat) (o : Option (Options α))
  | wrapOpts (i : Nat) (w : Int) (o : Option (Options α))
  | justifyOpts (i : Nat) (w : Int) (o : Option (Options α))
  | alignOpts (i : Nat) (al w : Int) (o : Option (Options α))
  | indentOpts (i : Nat) (lv : Int) (o : Option (Options α))
  | insertTableOpts (i : Nat) (pos : Int) (data : List (List (List α))) (w : Int)
      (o : Option (Options α))
  | insertDefTableOpts (i : Nat) (pos : Int) (defs : List (List α × List α)) (w : Int)
      (o : Option (Options α))
  | insertTwoColumnsOpts (i : Nat) (pos : Int) (l r : List α) (gap w : Int) (pct : Pct)
      (o : Option (Options α))
  | setText (i : Nat) (t : List α)

/-- apply `f` to pool entry `i`; `none` when the index is out of range or the call fails -/
def withEd (pool : List (Editor α)) (i : Nat) (f : Editor α → R (Editor α)) : Option (Editor α) :=
  match pool[i]? with
  | some ed => (match f ed with | .ok r => some r | .error _ => none)
  | none => none

/-- the text-changing operations: `some i` (the receiver) for those, `none` for the others -/
def EdOp.textChange : EdOp α → Option Nat
  | .insert i .. | .delete i .. | .overtype i .. | .collapseSpaceOpts i .. | .wrapOpts i ..
  | .justifyOpts i .. | .alignOpts i .. | .indentOpts i .. | .insertTableOpts i ..
  | .insertDefTableOpts i .. | .insertTwoColumnsOpts i .. | .setText i .. => some i
  | _ => none

variable (cx : Ctx α)

/-- the Editor an operation returns, if it returns one -/
def evalEd (pool : List (Editor α)) : EdOp α → Option (Editor α)
  | .edit t o => some (.root t o)
  | .chars i s e => withEd pool i (·.chars cx s e)
  | .charsFrom i s => withEd pool i (·.charsFrom cx s)
  | .charsTo i e => withEd pool i (·.charsTo cx e)
  | .lines i s e => withEd pool i (·.linesSel cx s e)
  | .linesFrom i s => withEd pool i (·.linesFrom cx s)
  | .linesTo i e => withEd pool i (·.linesTo cx e)
  | .commit i => withEd pool i (·.commit cx)
  | .commitAll i => withEd pool i (·.commitAll cx)
  | .withOptions i o => withEd pool i (fun ed => pure (ed.withOpts o))
  | .insert i pos t => withEd pool i (·.insert cx pos t)
  | .delete i s e => withEd pool i (·.delete cx s e)
  | .overtype i pos t => withEd pool i (·.overtype cx pos t)
  | .collapseSpaceOpts i o => withEd pool i (fun ed => ed.collapseSpaceOpts cx (o.getD ed.opts))
  | .wrapOpts i w o => withEd pool i (fun ed => ed.wrapOpts cx w (o.getD ed.opts))
  | .justifyOpts i w o => withEd pool i (fun ed => ed.justifyOpts cx w (o.getD ed.opts))
  | .alignOpts i al w o => withEd pool i (fun ed => ed.alignOpts cx al w (o.getD ed.opts))
  | .indentOpts i lv o => withEd pool i (fun ed => ed.indentOpts cx lv (o.getD ed.opts))
  | .insertTableOpts i pos data w o =>
    withEd pool i (fun ed => ed.insertTableOpts cx pos data w (o.getD ed.opts))
  | .insertDefTableOpts i pos defs w o =>
    withEd pool i (fun ed => ed.insertDefTableOpts cx pos defs w (o.getD ed.opts))
  | .insertTwoColumnsOpts i pos l r gap w pct o =>
    withEd pool i (fun ed => ed.insertTwoColumnsOpts cx pos l r gap w pct (o.getD ed.opts))
  | .setText i t => withEd pool i (fun ed => pure (ed.withText t))

/-- one step: APPEND the result when the operation returns normally; otherwise (a modelled panic, or
an index that is not in the pool) the pool is unchanged -/
def stepEd (pool : List (Editor α)) (op : EdOp α) : List (Editor α) :=
  match evalEd cx pool op with
  | some r => pool ++ [r]
  | none => pool

/-- run a program from the empty pool -/
def runEd (ops : List (EdOp α)) : List (Editor α) := ops.foldl (stepEd cx) []

end prog

section progfacts
variable {α : Type} [DecidableEq α] {cx : Ctx α}

omit [DecidableEq α] in
theorem withEd_some {pool : List (Editor α)} {i : Nat} {f : Editor α → R (Editor α)} {r : Editor α}
    (h : withEd pool i f = some r) : ∃ ed, pool[i]? = some ed ∧ ed ∈ pool ∧ f ed = .ok r := by
  unfold withEd at h
  split at h
  · rename_i ed hed
    split at h
    · rename_i r' hr
      cases h
      exact ⟨ed, hed, List.mem_of_getElem? hed, hr⟩
    · cases h
  · cases h

/-- what a step can produce: a new root, a selection of a member, a commit of a member, the
`CommitAll` of a member, or a member with another text / other options -/
inductive Produced (cx : Ctx α) (pool : List (Editor α)) (r : Editor α) : Prop
  | edit (t : List α) (o : Options α) : r = .root t o → Produced cx pool r
  | select (ed : Editor α) : ed ∈ pool → ed.Selects cx r → Produced cx pool r
  | commit (ed : Editor α) : ed ∈ pool → ed.commit cx = .ok r → Produced cx pool r
  | commitAll (ed : Editor α) : ed ∈ pool → ed.commitAll cx = .ok r → Produced cx pool r
  | withOpts (ed : Editor α) (o : Options α) : ed ∈ pool → r = ed.withOpts o → Produced cx pool r
  | sameBut (ed : Editor α) : ed ∈ pool → ed.SameBut r → Produced cx pool r

/-- a text-changing operation runs, on its receiver, a function that returns its argument with
another text -/
theorem evalEd_of_textChange {pool : List (Editor α)} {op : EdOp α} {i : Nat}
    (hop : op.textChange = some i) :
    ∃ F : Editor α → R (Editor α), (∀ ed r, F ed = .ok r → ed.SameBut r) ∧
      evalEd cx pool op = withEd pool i F := by
  cases op with
  | insert _ pos t => cases hop; exact ⟨_, fun _ _ => (insert_textOnly cx pos t).sameBut, rfl⟩
  | delete _ s e => cases hop; exact ⟨_, fun _ _ => delete_sameBut _ _ s e, rfl⟩
  | overtype _ pos t => cases hop; exact ⟨_, fun _ _ => overtype_sameBut _ _ pos t, rfl⟩
  | collapseSpaceOpts _ o =>
    cases hop
    exact ⟨_, fun ed _ => (collapseSpaceOpts_textOnly cx (o.getD ed.opts)).sameBut, rfl⟩
  | wrapOpts _ w o =>
    cases hop; exact ⟨_, fun ed _ => (wrapOpts_textOnly cx w (o.getD ed.opts)).sameBut, rfl⟩
  | justifyOpts _ w o =>
    cases hop; exact ⟨_, fun ed _ => (justifyOpts_textOnly cx w (o.getD ed.opts)).sameBut, rfl⟩
  | alignOpts _ al w o =>
    cases hop; exact ⟨_, fun ed _ => (alignOpts_textOnly cx al w (o.getD ed.opts)).sameBut, rfl⟩
  | indentOpts _ lv o =>
    cases hop; exact ⟨_, fun ed _ => (indentOpts_textOnly cx lv (o.getD ed.opts)).sameBut, rfl⟩
  | insertTableOpts _ pos data w o =>
    cases hop
    exact ⟨_, fun ed _ => (insertTableOpts_textOnly cx pos data w (o.getD ed.opts)).sameBut, rfl⟩
  | insertDefTableOpts _ pos defs w o =>
    cases hop
    exact ⟨_, fun ed _ => (insertDefTableOpts_textOnly cx pos defs w (o.getD ed.opts)).sameBut, rfl⟩
  | insertTwoColumnsOpts _ pos l r gap w pct o =>
    cases hop
    exact ⟨_, fun ed _ =>
      (insertTwoColumnsOpts_textOnly cx pos l r gap w pct (o.getD ed.opts)).sameBut, rfl⟩
  | setText _ t => cases hop; exact ⟨_, fun ed _ h => ⟨t, (pure_ok.1 h).symm⟩, rfl⟩
  | _ => cases hop

theorem evalEd_produced {pool : List (Editor α)} {op : EdOp α} {r : Editor α}
    (h : evalEd cx pool op = some r) : Produced cx pool r := by
  cases hop : op.textChange with
  | some i =>
    obtain ⟨F, hF, he⟩ := evalEd_of_textChange (cx := cx) (pool := pool) hop
    obtain ⟨ed, -, hm, hr⟩ := withEd_some (he ▸ h)
    exact .sameBut ed hm (hF ed r hr)
  | none =>
    cases op with
    | edit t o => cases h; exact .edit t o rfl
    | chars i s e => obtain ⟨ed, -, hm, hr⟩ := withEd_some h; exact .select ed hm (.chars hr)
    | charsFrom i s => obtain ⟨ed, -, hm, hr⟩ := withEd_some h; exact .select ed hm (.charsFrom hr)
    | charsTo i e => obtain ⟨ed, -, hm, hr⟩ := withEd_some h; exact .select ed hm (.charsTo hr)
    | lines i s e => obtain ⟨ed, -, hm, hr⟩ := withEd_some h; exact .select ed hm (.linesSel hr)
    | linesFrom i s => obtain ⟨ed, -, hm, hr⟩ := withEd_some h; exact .select ed hm (.linesFrom hr)
    | linesTo i e => obtain ⟨ed, -, hm, hr⟩ := withEd_some h; exact .select ed hm (.linesTo hr)
    | commit i => obtain ⟨ed, -, hm, hr⟩ := withEd_some h; exact .commit ed hm hr
    | commitAll i => obtain ⟨ed, -, hm, hr⟩ := withEd_some h; exact .commitAll ed hm hr
    | withOptions i o =>
      obtain ⟨ed, -, hm, hr⟩ := withEd_some (f := fun ed => pure (ed.withOpts o)) h
      exact .withOpts ed o hm (pure_ok.1 hr).symm
    | _ => cases hop

/-- everything a step produces from a pool of (ordered-)cut editors is (ordered-)cut -/
theorem Produced.cut (hs : cx.Sane) {pool : List (Editor α)} {r : Editor α}
    (hp : ∀ ed ∈ pool, ed.Cut cx) (h : Produced cx pool r) : r.Cut cx := by
  cases h with
  | edit t o he => subst he; exact .root t o
  | select ed hm hsel => exact hsel.cut hs (hp ed hm)
  | commit ed hm hc => exact (hp ed hm).commit hc
  | commitAll ed hm hc => rw [commitAllFuel_ok _ _ _ hc]; exact .root _ _
  | withOpts ed o hm he => subst he; exact (hp ed hm).withOpts o
  | sameBut ed hm hsb => exact hsb.cut (hp ed hm)

theorem stepEd_cut (hs : cx.Sane) (pool : List (Editor α)) (op : EdOp α)
    (hp : ∀ ed ∈ pool, ed.Cut cx) : ∀ ed ∈ stepEd cx pool op, ed.Cut cx := by
  unfold stepEd
  split
  · rename_i r hr
    intro ed hm
    rcases List.mem_append.1 hm with hm | hm
    · exact hp ed hm
    · rw [List.mem_singleton.1 hm]
      exact (evalEd_produced hr).cut hs hp
  · exact hp

theorem foldl_stepEd_cut (hs : cx.Sane) (ops : List (EdOp α)) :
    ∀ pool : List (Editor α), (∀ ed ∈ pool, ed.Cut cx) → ∀ ed ∈ ops.foldl (stepEd cx) pool, ed.Cut cx := by
  induction ops with
  | nil => intro pool hp; exact hp
  | cons op rest ih => intro pool hp; exact ih _ (stepEd_cut hs pool op hp)

/-- after ANY program every Editor in the pool — at any nesting depth,
after any edits — has its whole ancestor chain cut at ordered atom boundaries -/
theorem runEd_cut (hs : cx.Sane) (ops : List (EdOp α)) : ∀ ed ∈ runEd cx ops, ed.Cut cx :=
  foldl_stepEd_cut hs ops [] (fun _ h => nomatch h)

theorem runEd_wellCut (hs : cx.Sane) (ops : List (EdOp α)) : ∀ ed ∈ runEd cx ops, ed.WellCut cx :=
  fun ed h => (runEd_cut hs ops ed h).wellCut

/-- hence `String()`, `CommitAll()` and `Commit()` are total on every reachable Editor, and say what
`string_eq_fullText` says -/
theorem runEd_string (hs : cx.Sane) (ops : List (EdOp α)) : ∀ ed ∈ runEd cx ops,
    ed.string cx = .ok (ed.fullText cx) ∧
      ed.commitAll cx = .ok (.root (ed.fullText cx) ed.rootOpts) ∧
      ∃ r, ed.commit cx = .ok r ∧ r.fullText cx = ed.fullText cx :=
  fun ed h =>
    have hw := runEd_wellCut hs ops ed h
    ⟨string_eq_fullText hs hw, commitAll_eq_fullText hs hw,
      let ⟨r, hr, _, _⟩ := commit_total_wellCut hs hw; ⟨r, hr, (commit_fullText hr).1⟩⟩

/-- every reachable sub-editor commits into exactly its region `[i, j)` of the stored parent -/
theorem runEd_commit_region (hs : cx.Sane) (ops : List (EdOp α)) (t : List α) (o : Options α)
    (p : Editor α) (a b : Int) (h : Editor.sub t o p a b ∈ runEd cx ops) :
    ∃ i j : Nat, i ≤ j ∧ j ≤ p.text.length ∧ a = (byteOff cx p.text i : Nat) ∧
      b = (byteOff cx p.text j : Nat) ∧
      ∀ (t' : List α) (o' : Options α),
        (Editor.sub t' o' p a b).commit cx = .ok (p.withText (p.text.take i ++ t' ++ p.text.drop j)) :=
  (runEd_cut hs ops _ h).commit_region hs

/-! ### the C08 frame: the pool only grows -/

theorem stepEd_prefix (pool : List (Editor α)) (op : EdOp α) : pool <+: stepEd cx pool op := by
  unfold stepEd
  split
  · exact List.prefix_append _ _
  · exact List.prefix_refl _

theorem foldl_stepEd_prefix (ops : List (EdOp α)) :
    ∀ pool : List (Editor α), pool <+: ops.foldl (stepEd cx) pool := by
  induction ops with
  | nil => intro pool; exact List.prefix_refl _
  | cons op rest ih => intro pool; exact (stepEd_prefix pool op).trans (ih _)

theorem runEd_append (ops more : List (EdOp α)) :
    runEd cx (ops ++ more) = more.foldl (stepEd cx) (runEd cx ops) := by
  unfold runEd
  rw [List.foldl_append]

/-- any sequence of further calls leaves every previously obtained Editor where and what it was -/
theorem runEd_prefix (ops more : List (EdOp α)) : runEd cx ops <+: runEd cx (ops ++ more) := by
  rw [runEd_append]; exact foldl_stepEd_prefix _ _

theorem runEd_prefix_snoc (ops : List (EdOp α)) (op : EdOp α) :
    runEd cx ops <+: runEd cx (ops ++ [op]) :=
  runEd_prefix ops [op]

/-- the value at pool index `i` never changes once it exists -/
theorem runEd_frame (ops more : List (EdOp α)) (i : Nat) (hi : i < (runEd cx ops).length) :
    (runEd cx (ops ++ more))[i]? = (runEd cx ops)[i]? := by
  obtain ⟨t, ht⟩ := runEd_prefix (cx := cx) ops more
  rw [← ht, List.getElem?_append_left hi]

/-- hence every observation of it — text, options, counts, `String()`, `Commit()` … any function of
the value — is the same after any sequence of calls as when it was obtained -/
theorem runEd_observe {β : Type} (f : Editor α → β) (ops more : List (EdOp α)) (i : Nat)
    (hi : i < (runEd cx ops).length) :
    ((runEd cx (ops ++ more))[i]?).map f = ((runEd cx ops)[i]?).map f := by
  rw [runEd_frame ops more i hi]

/-- the observations named by C08, in one statement -/
theorem runEd_observables (ops more : List (EdOp α)) (i : Nat) (ed : Editor α)
    (h : (runEd cx ops)[i]? = some ed) :
    ∃ ed', (runEd cx (ops ++ more))[i]? = some ed' ∧ ed'.text = ed.text ∧ ed'.opts = ed.opts ∧
      ed'.charCount cx = ed.charCount cx ∧ ed'.lineCount cx = ed.lineCount cx ∧
      ed'.string cx = ed.string cx ∧ ed'.commit cx = ed.commit cx ∧ ed'.ancestry = ed.ancestry := by
  have hi : i < (runEd cx ops).length := (List.getElem?_eq_some_iff.1 h).1
  exact ⟨ed, by rw [runEd_frame ops more i hi, h], rfl, rfl, rfl, rfl, rfl, rfl, rfl⟩

/-- operations are deterministic: `stepEd`/`runEd` are functions (this is `rfl`; stated in the form
of `C08_commit_deterministic`) -/
theorem stepEd_deterministic (pool : List (Editor α)) (op : EdOp α) :
    ∀ p₁ p₂, stepEd cx pool op = p₁ → stepEd cx pool op = p₂ → p₁ = p₂ :=
  fun _ _ h₁ h₂ => h₁ ▸ h₂

theorem runEd_deterministic (ops : List (EdOp α)) :
    ∀ p₁ p₂, runEd cx ops = p₁ → runEd cx ops = p₂ → p₁ = p₂ :=
  fun _ _ h₁ h₂ => h₁ ▸ h₂

/-! ### no operation changes its receiver's ancestors -/

/-- a text-changing operation returns its receiver with another text: same options, same parent
snapshot, same byte range, same chain at every level -/
theorem evalEd_textChange {pool : List (Editor α)} {op : EdOp α} {i : Nat} {r : Editor α}
    (hop : op.textChange = some i) (h : evalEd cx pool op = some r) :
    ∃ ed, pool[i]? = some ed ∧ ed.SameBut r ∧ r.opts = ed.opts ∧ r.link = ed.link ∧
      r.ancestry = ed.ancestry := by
  obtain ⟨F, hF, he⟩ := evalEd_of_textChange (cx := cx) (pool := pool) hop
  obtain ⟨ed, hg, -, hr⟩ := withEd_some (he ▸ h)
  have hs := hF ed r hr
  exact ⟨ed, hg, hs, hs.opts, hs.link, hs.ancestry⟩

/-- `WithOptions` changes the options and nothing else -/
theorem evalEd_withOptions {pool : List (Editor α)} {i : Nat} {o : Options α} {r : Editor α}
    (h : evalEd cx pool (.withOptions i o) = some r) :
    ∃ ed, pool[i]? = some ed ∧ r = ed.withOpts o ∧ r.text = ed.text ∧ r.opts = o ∧
      r.link = ed.link ∧ r.ancestry = ed.ancestry := by
  obtain ⟨ed, hg, -, hr⟩ := withEd_some (f := fun ed => pure (ed.withOpts o)) h
  have := (pure_ok.1 hr).symm
  subst this
  exact ⟨ed, hg, rfl, Editor.withOpts_text _ _, Editor.withOpts_opts _ _, Editor.withOpts_link _ _,
    Editor.withOpts_ancestry _ _⟩

/-- at the level of a program step: after a text-changing call the pool is the old pool plus
(at most) one Editor whose ancestor chain is that of the receiver -/
theorem stepEd_textChange (pool : List (Editor α)) (op : EdOp α) (i : Nat)
    (hop : op.textChange = some i) :
    stepEd cx pool op = pool ∨
      ∃ ed r, pool[i]? = some ed ∧ stepEd cx pool op = pool ++ [r] ∧ ed.SameBut r ∧
        r.opts = ed.opts ∧ r.link = ed.link ∧ r.ancestry = ed.ancestry := by
  unfold stepEd
  split
  · rename_i r hr
    obtain ⟨ed, h1, h2, h3, h4, h5⟩ := evalEd_textChange hop hr
    exact .inr ⟨ed, r, h1, rfl, h2, h3, h4, h5⟩
  · exact .inl rfl

/-- a text-changing call on a reachable Editor does not change what the REST of the chain
contributes: the result converts back to the receiver's surroundings around the new text -/
theorem evalEd_textChange_fullText (hs : cx.Sane) (ops : List (EdOp α)) {op : EdOp α} {i : Nat}
    {r : Editor α} (hop : op.textChange = some i) (h : evalEd cx (runEd cx ops) op = some r) :
    ∃ ed, (runEd cx ops)[i]? = some ed ∧
      r.fullText cx = ed.outerPre cx ++ r.text ++ ed.outerSuf cx ∧
      ed.fullText cx = ed.outerPre cx ++ ed.text ++ ed.outerSuf cx := by
  obtain ⟨ed, hg, ⟨t, rfl⟩, -⟩ := evalEd_textChange hop h
  have hw := runEd_wellCut hs ops ed (List.mem_of_getElem? hg)
  refine ⟨ed, hg, ?_, ?_⟩
  · rw [fullText_nested hs hw, Editor.withText_text]
  · have := fullText_nested hs hw ed.text
    rwa [Editor.withText_self] at this

end progfacts

/-! ## instance `cxA`: a depth-2 history on a decomposed accent and a flag, by kernel evaluation -/

section demo

/-- "é 🇩🇪a" with a decomposed é: clusters `e+◌́`, space, the flag (two regional indicators), `a` -/
def demoText : List Int := [0x65, 0x301, 0x20, 0x1F1E9, 0x1F1EA, 0x61]

/-- `e := Edit(text); s1 := e.Chars(1, 3); s2 := s1.Chars(0, 1); s3 := s2.Insert(0, "x");
s3.Commit(); s3.CommitAll()` -/
def demoProg : List (EdOp Int) :=
  [.edit demoText {}, .chars 0 1 3, .chars 1 0 1, .insert 2 0 [0x78], .commit 3, .commitAll 3]

def demoRoot : Editor Int := .root demoText {}
/-- clusters `[1, 3)` of the root: bytes `[3, 12)` (after the 3 bytes of `e+◌́`, before `a`) -/
def demoSub1 : Editor Int := .sub [0x20, 0x1F1E9, 0x1F1EA] {} demoRoot 3 12
/-- cluster `[0, 1)` of that: byte `[0, 1)` -/
def demoSub2 : Editor Int := .sub [0x20] {} demoSub1 0 1

/-- the pool after the program, as values: selection, nested selection, the edited nested selection
(same chain), its `Commit` (the depth-1 editor with exactly its first cluster replaced), its
`CommitAll` (the root with exactly that region replaced) -/
theorem demoPool : runEd cxA demoProg =
    [demoRoot, demoSub1, demoSub2, demoSub2.withText [0x78, 0x20],
      demoSub1.withText [0x78, 0x20, 0x1F1E9, 0x1F1EA],
      .root [0x65, 0x301, 0x78, 0x20, 0x1F1E9, 0x1F1EA, 0x61] {}] := by rfl

example : runEd cxA demoProg =
    [demoRoot, demoSub1, demoSub2, demoSub2.withText [0x78, 0x20],
      demoSub1.withText [0x78, 0x20, 0x1F1E9, 0x1F1EA],
      .root [0x65, 0x301, 0x78, 0x20, 0x1F1E9, 0x1F1EA, 0x61] {}] := demoPool

example : (runEd cxA demoProg).map Editor.text =
    [demoText, [0x20, 0x1F1E9, 0x1F1EA], [0x20], [0x78, 0x20], [0x78, 0x20, 0x1F1E9, 0x1F1EA],
      [0x65, 0x301, 0x78, 0x20, 0x1F1E9, 0x1F1EA, 0x61]] := by rw [demoPool]; rfl

example : (runEd cxA demoProg).map Editor.depth = [0, 1, 2, 2, 1, 0] := by rw [demoPool]; rfl

/-- `String()` of every pool member: the three unedited ones give the original text, the edited one
and its commits the text with `x` inserted in front of the space -/
example : (runEd cxA demoProg).map (fun e => (e.string cxA).toOption) =
    [some demoText, some demoText, some demoText,
      some [0x65, 0x301, 0x78, 0x20, 0x1F1E9, 0x1F1EA, 0x61],
      some [0x65, 0x301, 0x78, 0x20, 0x1F1E9, 0x1F1EA, 0x61],
      some [0x65, 0x301, 0x78, 0x20, 0x1F1E9, 0x1F1EA, 0x61]] := by rw [demoPool]; decide +kernel

example : (runEd cxA demoProg).map (Editor.fullText cxA) =
    [demoText, demoText, demoText,
      [0x65, 0x301, 0x78, 0x20, 0x1F1E9, 0x1F1EA, 0x61],
      [0x65, 0x301, 0x78, 0x20, 0x1F1E9, 0x1F1EA, 0x61],
      [0x65, 0x301, 0x78, 0x20, 0x1F1E9, 0x1F1EA, 0x61]] := by rw [demoPool]; decide +kernel

/-- the surroundings of the depth-2 editor: the accent cluster in front; the flag and `a` behind -/
example : (demoSub2.outerPre cxA, demoSub2.outerSuf cxA) =
    ([0x65, 0x301], [0x1F1E9, 0x1F1EA, 0x61]) := by decide +kernel

theorem demoSub2_mem : demoSub2 ∈ runEd cxA demoProg :=
  demoPool ▸ List.mem_of_getElem? (i := 2) rfl

/-- hypothesis of `string_eq_fullText` and `fullText_nested`: the depth-2 editor is well-cut … -/
example : demoSub2.WellCut cxA := runEd_wellCut cxA_Sane demoProg _ demoSub2_mem

/-- … so whatever text it carries, `String()` is the text between the unchanged surroundings -/
example (t' : List Int) (o' : Options Int) :
    ((demoSub2.withText t').withOpts o').string cxA =
      .ok ([0x65, 0x301] ++ t' ++ [0x1F1E9, 0x1F1EA, 0x61]) := by
  have hw := runEd_wellCut cxA_Sane demoProg _ demoSub2_mem
  rw [string_eq_fullText_edited cxA_Sane hw, fullTextWith_nested cxA_Sane hw]
  rfl

/-- hypotheses of `Selects.fullText_eq`: selections, and a selection of a selection -/
theorem demoSel1 : demoRoot.Selects cxA demoSub1 := .chars (s := 1) (e := 3) (by rfl)
theorem demoSel2 : demoSub1.Selects cxA demoSub2 := .chars (s := 0) (e := 1) (by rfl)
example : demoRoot.Selects cxA demoSub1 := demoSel1
example : demoSub1.Selects cxA demoSub2 := demoSel2
example : Editor.SelectsStar cxA demoRoot demoSub2 := .step (.step (.refl _) demoSel1) demoSel2
example : demoSub2.fullText cxA = demoRoot.fullText cxA :=
  (Editor.SelectsStar.fullText_eq (.step (.step (.refl _) demoSel1) demoSel2)).1

/-- hypotheses of `commit_region`: the depth-2 editor's region of its parent is atoms `[0, 1)`, the
parent's region of the root is atoms (code points) `[2, 5)` = bytes `[3, 12)` -/
example : demoSub2.Cut cxA := runEd_cut cxA_Sane demoProg _ demoSub2_mem
example : demoSub2.Cut cxA :=
  .sub _ _ _ _ _ 0 1 (by decide) (by decide) (by decide +kernel) (by decide +kernel)
    (.sub _ _ _ _ _ 2 5 (by decide) (by decide) (by decide +kernel) (by decide +kernel) (.root _ _))

/-- hypotheses of `evalEd_textChange`: `insert` is a text-changing operation on pool entry 2 and returns -/
example : (EdOp.insert 2 0 [0x78] : EdOp Int).textChange = some 2 := rfl
example : ∃ r, evalEd cxA (runEd cxA (demoProg.take 3)) (.insert 2 0 [0x78]) = some r ∧
    r.ancestry = demoSub2.ancestry ∧ r.text = [0x78, 0x20] :=
  ⟨demoSub2.withText [0x78, 0x20], by rfl, rfl, rfl⟩

/-- `runEd_prefix` on the example: the pool after three calls is a prefix of the pool after all six -/
example : runEd cxA (demoProg.take 3) <+: runEd cxA demoProg := runEd_prefix (demoProg.take 3) (demoProg.drop 3)

/-- the hypothesis `WellCut` of `string_eq_fullText` is needed: a hand-made sub-editor cut in the middle of a rune
(byte 1 of the 2-byte `U+0301`; never produced by `Chars*`/`Lines*`, see `runEd_cut`) converts back
while it is empty and unedited, and is refused (`Err.invalidUtf8`) once it carries text -/
example : (Editor.sub [] {} (.root [0x301] {}) 1 1).string cxA = .ok [0x301] ∧
    ((Editor.sub [] {} (.root [0x301] {}) 1 1).withText [0x61]).string cxA = .error .invalidUtf8 :=
  ⟨by rfl, by rfl⟩

/-- a second history: line selection, `CharsFrom`, `Delete`, `Wrap`, `WithOptions`, an `Apply`
result, calls on a missing index (no effect) and a selection taken from a committed editor -/
def demoProg2 : List (EdOp Int) :=
  [.edit [0x61, 0x62, 0x0A, 0x63, 0x301, 0x64, 0x0A, 0x65, 0x66] {}, .lines 0 1 2, .charsFrom 1 1,
   .delete 2 0 1, .wrapOpts 2 3 none, .commit 3, .commitAll 3, .withOptions 1 { lineSep := [0x3B] },
   .setText 7 [0x7A], .commitAll 8, .commit 99, .linesTo 5 1]

example : (runEd cxA demoProg2).map Editor.text =
    [[0x61, 0x62, 0x0A, 0x63, 0x301, 0x64, 0x0A, 0x65, 0x66], [0x63, 0x301, 0x64, 0x0A], [0x64, 0x0A],
      [0x0A], [0x64, 0x0A], [0x63, 0x301, 0x0A], [0x61, 0x62, 0x0A, 0x63, 0x301, 0x0A, 0x65, 0x66],
      [0x63, 0x301, 0x64, 0x0A], [0x7A], [0x61, 0x62, 0x0A, 0x7A, 0x65, 0x66], [0x63, 0x301, 0x0A]] := by
  decide +kernel

example : (runEd cxA demoProg2).map Editor.depth = [0, 1, 2, 2, 2, 1, 0, 1, 1, 0, 2] := by decide +kernel

example : (runEd cxA demoProg2).map (fun e => (e.string cxA).toOption) =
    (runEd cxA demoProg2).map (fun e => some (e.fullText cxA)) := by decide +kernel

end demo

end RosedVerif
