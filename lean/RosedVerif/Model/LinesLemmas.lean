/-
Lines: `LineCount`, `Apply` and the `Lines` selectors of the model equal their specification
(`Spec.bareLines`, `Spec.linePieces`, `Spec.apply`, `Spec.selectLines`).
-/
import RosedVerif.Model.OptionsLemmas
namespace RosedVerif

variable {α : Type} [DecidableEq α] (cx : Ctx α)

/-! ## lines / LineCount -/

/-- `Editor.linesSep` (the model) is `Spec.bareLines` for ANY separator, including the corner
cases `splitOn [] [] = []` and `splitOn [] sep = [[]]`. -/
theorem linesSep_eq_bareLines (ed : Editor α) (sep : List α) :
    ed.linesSep sep = Spec.bareLines ed.text sep ed.opts.noTrailing := by
  unfold Editor.linesSep Spec.bareLines
  generalize splitOn ed.text sep = ls
  generalize ed.opts.noTrailing = nt
  by_cases hne : ls = []
  · subst hne; simp
  · have hl : ls.getLast? = some (ls.getLast hne) := List.getLast?_eq_some_getLast hne
    have hd : ls.getLastD [] = ls.getLast hne := by
      rw [List.getLastD_eq_getLast?, hl]; rfl
    simp only [hl, hd]
    generalize ls.getLast hne = x
    cases nt <;> cases x <;> simp [hne]

theorem lines_eq_bareLines (ed : Editor α) :
    ed.lines cx =
      Spec.bareLines ed.text (ed.opts.withDefaults cx).lineSep ed.opts.noTrailing :=
  linesSep_eq_bareLines ed _

theorem lineCount_eq_linePieces_length (hd : cx.dLineSep ≠ []) (ed : Editor α) :
    ed.lineCount cx =
      (Spec.linePieces ed.text (ed.opts.withDefaults cx).lineSep ed.opts.noTrailing).length := by
  unfold Editor.lineCount
  rw [lines_eq_bareLines,
    Spec.linePieces_length' _ _ _ (withDefaults_lineSep_ne_nil cx hd ed.opts)]

/-- the empty text: no line under the default policy, one empty line with `noTrailing` -/
theorem lines_nil (hd : cx.dLineSep ≠ []) (ed : Editor α) (ht : ed.text = []) :
    ed.lines cx = if ed.opts.noTrailing then [[]] else [] := by
  rw [lines_eq_bareLines, ht]
  unfold Spec.bareLines
  rw [splitOn_nil _ (withDefaults_lineSep_ne_nil cx hd ed.opts)]
  cases ed.opts.noTrailing <;> rfl

/-! ## Apply -/

/-- `ApplyOpts` never fails and computes `Spec.apply` -/
theorem applyOpts_eq_spec (ed : Editor α) (f : Nat → List α → List (List α)) (o : Options α) :
    ed.applyOpts cx f o = .ok (ed.withText
      (Spec.apply ed.text (o.withDefaults cx).lineSep (o.withDefaults cx).noTrailing f)) := by
  unfold Editor.applyOpts Editor.applyOptsM Spec.apply
  simp only [List.mapM_pure, pure_bind, linesSep_eq_bareLines, Editor.withOpts_text,
    Editor.withOpts_opts]
  generalize (o.withDefaults cx) = od
  by_cases hne : splitOn ed.text od.lineSep = []
  · -- `strings.Split("", "")`: the specification appends an empty piece to the empty output, the
    -- model does not; both join to the empty text
    have hb : Spec.bareLines ed.text od.lineSep od.noTrailing = [] := by
      unfold Spec.bareLines; rw [hne]; simp
    rw [hb, hne]
    simp only [List.length_nil, Nat.lt_irrefl, and_false, if_false, List.range_zero, List.map_nil,
      List.flatten_nil, List.nil_append]
    split <;> rfl
  · -- otherwise the two tests for "a final empty piece was dropped" agree
    have hcond : (!od.noTrailing ∧ (Spec.bareLines ed.text od.lineSep od.noTrailing).length <
        (splitOn ed.text od.lineSep).length) ↔
        (!od.noTrailing && ((splitOn ed.text od.lineSep).getLastD []).isEmpty) = true := by
      rw [Spec.bareLines_length_lt_iff, Bool.and_eq_true, List.isEmpty_iff, Bool.not_eq_true']
      exact ⟨fun h => ⟨h.1, h.2.2.1⟩, fun h => ⟨h.1, h.1, h.2, hne⟩⟩
    simp only [hcond]
    rfl

/-- the identity callback leaves the text alone, for EVERY (defaulted, hence non-empty)
separator — also a self-overlapping one -/
theorem applyOpts_id (hd : cx.dLineSep ≠ []) (ed : Editor α) (o : Options α) :
    ed.applyOpts cx (fun _ l => [l]) o = .ok ed := by
  rw [applyOpts_eq_spec, Spec.apply_id _ _ _ (withDefaults_lineSep_ne_nil cx hd o),
    Editor.withText_self]

theorem applyOpts_id_of_unbordered (hd : cx.dLineSep ≠ []) (ed : Editor α) (o : Options α)
    (_hu : Unbordered (o.withDefaults cx).lineSep) :
    ed.applyOpts cx (fun _ l => [l]) o = .ok ed :=
  applyOpts_id cx hd ed o

theorem applyOpts_id_text_of_unbordered (hd : cx.dLineSep ≠ []) (ed : Editor α) (o : Options α)
    (_hu : Unbordered (o.withDefaults cx).lineSep) :
    ∃ ed', ed.applyOpts cx (fun _ l => [l]) o = .ok ed' ∧ ed'.text = ed.text :=
  ⟨ed, applyOpts_id cx hd ed o, rfl⟩

/-! ## the scanning loop -/

/-- the scanning loop: `k` rounds of `strings.Index` + skip starting at atom `pos` end just
after the `k`-th separator of the leftmost non-overlapping scan of `s.drop pos`, i.e. after
`p₀ ++ sep ++ … ++ p_{k-1} ++ sep` where `splitOn (s.drop pos) sep = p₀ :: p₁ :: …`; the loop
fails exactly when there are not more than `k` pieces. -/
theorem skipSeps_spec (s sep : List α) (hsep : sep ≠ []) (k pos : Nat) :
    skipSeps s sep k pos =
      if k < (splitOn (s.drop pos) sep).length then
        some (pos + ((((splitOn (s.drop pos) sep).take k).map (· ++ sep)).flatten).length)
      else none := by
  induction k generalizing pos with
  | zero =>
    have := splitOn_ne_nil' (s.drop pos) sep hsep
    rw [if_pos (List.length_pos_iff.mpr this)]
    simp [skipSeps]
  | succ k ih =>
    rw [skipSeps]
    cases hi : indexOf sep (s.drop pos) with
    | none =>
      rw [splitOn_of_indexOf_none sep hsep _ hi]
      simp
    | some i =>
      obtain ⟨-, hle⟩ := indexOf_some_spec sep _ i hi
      rw [splitOn_of_indexOf_some sep hsep _ i hi]
      simp only [ih, List.drop_drop, List.length_cons, Nat.add_lt_add_iff_right,
        List.take_succ_cons, List.map_cons, List.flatten_cons, List.length_append,
        List.length_take, Nat.add_assoc]
      have : min i (s.drop pos).length = i := by omega
      rw [this]

/-- behind `k` separators lie the first `k` line pieces (all of them, when there are fewer) -/
theorem lineEnd_eq_byteLen (text sep : List α) (nt : Bool) (hsep : sep ≠ []) (k : Nat) :
    lineEnd cx text sep k = byteLen cx ((Spec.linePieces text sep nt).take k).flatten := by
  have hfl := Spec.linePieces_flatten text sep nt hsep
  unfold lineEnd
  rw [skipSeps_spec text sep hsep k 0, List.drop_zero, Nat.zero_add]
  by_cases hk : k < (splitOn text sep).length
  · rw [if_pos hk, ← linePieces_take text sep nt k hk]
    exact byteOff_flatten_take cx hfl k
  · rw [if_neg hk, List.take_of_length_le (by have := Spec.linePieces_length_le text sep nt hsep; omega), hfl]

/-! ## the `Lines` selection -/

theorem Spec.selectLines_concat (text sep : List α) (nt : Bool) (s e : Int) (h : sep ≠ []) :
    (Spec.selectLines text sep nt s e).1 ++ (Spec.selectLines text sep nt s e).2.1 ++
      (Spec.selectLines text sep nt s e).2.2 = text :=
  (Spec.selectPieces_concat (Spec.linePieces text sep nt) s e).trans
    (Spec.linePieces_flatten text sep nt h)

/-- with a non-empty default separator these offsets are the byte lengths of the line-piece
prefixes `a` and `b` of the normalised range -/
theorem Editor.linesSel_eq_subEd (hd : cx.dLineSep ≠ []) (ed : Editor α) (s e : Int)
    {ps : List (List α)}
    (hps : Spec.linePieces ed.text (ed.opts.withDefaults cx).lineSep ed.opts.noTrailing = ps)
    {a b : Nat} (hab : a ≤ b)
    (hr : Spec.normRange (ps.length : Int) s e = ((a : Int), (b : Int))) :
    ed.linesSel cx s e =
      ed.subEd cx (byteLen cx (ps.take a).flatten) (byteLen cx (ps.take b).flatten) := by
  subst hps
  have hsep := withDefaults_lineSep_ne_nil cx hd ed.opts
  have hfl := Spec.linePieces_flatten ed.text _ ed.opts.noTrailing hsep
  rw [Editor.linesSel_eq_lineEnd, lineCount_eq_linePieces_length cx hd ed, hr]
  dsimp only
  rw [Int.toNat_natCast, Int.toNat_natCast]
  split
  · rw [List.take_of_length_le (by omega), List.take_of_length_le (by omega), hfl]
  · rw [lineEnd_eq_byteLen cx _ _ ed.opts.noTrailing hsep, lineEnd_eq_byteLen cx _ _ ed.opts.noTrailing hsep]

/-- `Editor.Lines(s, e)` selects exactly the lines `[s, e)` of the specification: the sub-editor
holds `sel` and remembers the byte range `[|bf|, |bf ++ sel|)` of its parent, where
`(bf, sel, af) = Spec.selectLines text sep noTrailing s e` (the selection clause of property C10) -/
theorem linesSel_eq_spec (hd : cx.dLineSep ≠ []) (ed : Editor α)
    (hb : ∀ a ∈ ed.text, 0 < cx.blen a) (s e : Int) :
    ed.linesSel cx s e =
      .ok (.sub
        (Spec.selectLines ed.text (ed.opts.withDefaults cx).lineSep ed.opts.noTrailing s e).2.1
        ed.opts ed
        (byteLen cx
          (Spec.selectLines ed.text (ed.opts.withDefaults cx).lineSep ed.opts.noTrailing s e).1)
        (byteLen cx
          ((Spec.selectLines ed.text (ed.opts.withDefaults cx).lineSep ed.opts.noTrailing s e).1 ++
           (Spec.selectLines ed.text (ed.opts.withDefaults cx).lineSep ed.opts.noTrailing s e).2.1))) := by
  obtain ⟨a, b, hab, -, hr⟩ := normRange_nat
    (Spec.linePieces ed.text (ed.opts.withDefaults cx).lineSep ed.opts.noTrailing).length s e
  rw [Editor.linesSel_eq_subEd cx hd ed s e rfl hab hr, Spec.selectLines_eq_pieces]
  exact Editor.subEd_selectPieces ed hb (Spec.linePieces_flatten _ _ _
    (withDefaults_lineSep_ne_nil cx hd ed.opts)) s e hab hr

theorem selectLines_length_eq_end (text sep : List α) (nt : Bool) (s : Int) :
    Spec.selectLines text sep nt s ((Spec.linePieces text sep nt).length : Int) =
      Spec.selectLines text sep nt s Gen.endSentinel := by
  have hn := Int.natCast_nonneg (Spec.linePieces text sep nt).length
  rw [Spec.selectLines_eq_pieces, Spec.selectLines_eq_pieces, Spec.selectPieces,
    Spec.selectPieces, normRange_to _ _ _ hn (normPos_of_ge _ _ hn (Int.le_refl _)),
    normRange_to_end _ _ hn]

/-- `Editor.LinesFrom(s)` = the specification's selection `[s, End)` -/
theorem linesFrom_eq_spec (hb : ∀ a, 0 < cx.blen a) (hd : cx.dLineSep ≠ []) (ed : Editor α)
    (s : Int) :
    ed.linesFrom cx s =
      .ok (.sub
        (Spec.selectLines ed.text (ed.opts.withDefaults cx).lineSep ed.opts.noTrailing s
          Gen.endSentinel).2.1
        ed.opts ed
        (byteLen cx
          (Spec.selectLines ed.text (ed.opts.withDefaults cx).lineSep ed.opts.noTrailing s
            Gen.endSentinel).1)
        (byteLen cx
          ((Spec.selectLines ed.text (ed.opts.withDefaults cx).lineSep ed.opts.noTrailing s
              Gen.endSentinel).1 ++
           (Spec.selectLines ed.text (ed.opts.withDefaults cx).lineSep ed.opts.noTrailing s
              Gen.endSentinel).2.1))) := by
  unfold Editor.linesFrom
  rw [linesSel_eq_spec cx hd ed fun a _ => hb a, lineCount_eq_linePieces_length cx hd, selectLines_length_eq_end]

/-- `Editor.LinesTo(e)` = the specification's selection `[0, e)` -/
theorem linesTo_eq_spec (hb : ∀ a, 0 < cx.blen a) (hd : cx.dLineSep ≠ []) (ed : Editor α)
    (e : Int) :
    ed.linesTo cx e =
      .ok (.sub
        (Spec.selectLines ed.text (ed.opts.withDefaults cx).lineSep ed.opts.noTrailing 0 e).2.1
        ed.opts ed
        (byteLen cx
          (Spec.selectLines ed.text (ed.opts.withDefaults cx).lineSep ed.opts.noTrailing 0 e).1)
        (byteLen cx
          ((Spec.selectLines ed.text (ed.opts.withDefaults cx).lineSep ed.opts.noTrailing 0 e).1 ++
           (Spec.selectLines ed.text (ed.opts.withDefaults cx).lineSep ed.opts.noTrailing 0 e).2.1))) :=
  linesSel_eq_spec cx hd ed (fun a _ => hb a) 0 e

theorem linesSel_text (hb : ∀ a, 0 < cx.blen a) (hd : cx.dLineSep ≠ []) (ed : Editor α)
    (s e : Int) :
    ∃ r, ed.linesSel cx s e = .ok r ∧
      r.text = (Spec.selectLines ed.text (ed.opts.withDefaults cx).lineSep
        ed.opts.noTrailing s e).2.1 :=
  ⟨_, linesSel_eq_spec cx hd ed (fun a _ => hb a) s e, rfl⟩

omit [DecidableEq α] in
theorem byteLen_nil_l : byteLen cx ([] : List α) = 0 := byteLen_nil cx

/-! ## non-vacuity on a concrete context -/

/-- atoms are natural numbers, every atom is its own cluster and one byte long, "\n" is `0` -/
def testCtx : Ctx Nat where
  ends := fun l => List.range' 1 l.length
  isSpace := fun c => c == 32
  blen := fun _ => 1
  upper := id
  sp := 32
  hy := 45
  phA := 1000
  nl := 0
  dIndent := [9]
  dLineSep := [0]
  dParaSep := [0, 0]
  dCharset := [43, 124, 45]

example : (Editor.root [1, 2, 0, 3, 0] {}).lines testCtx = [[1, 2], [3]] := by decide
example : (Editor.root [1, 2, 0, 3] {}).lineCount testCtx = 2 := by decide
example : (Editor.root ([] : List Nat) {}).lineCount testCtx = 0 := by decide
example : (Editor.root ([] : List Nat) { noTrailing := true }).lineCount testCtx = 1 := by decide
example : skipSeps [1, 0, 2, 0, 3] [0] 2 0 = some 4 := by decide
example : skipSeps [1, 0, 2, 0, 3] [0] 3 0 = none := by decide
example : ((Editor.root [1, 0, 2, 0, 3] {}).linesSel testCtx 1 2).toOption.map Editor.text
    = some [2, 0] := by decide
example : ((Editor.root [1, 0, 2, 0, 3] {}).linesSel testCtx 1 Gen.endSentinel).toOption.map
    Editor.text = some [2, 0, 3] := by decide
example : Spec.selectLines [1, 0, 2, 0, 3] [0] false 1 Gen.endSentinel = ([1, 0], [2, 0, 3], []) := by
  decide

end RosedVerif
