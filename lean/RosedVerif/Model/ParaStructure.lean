/-
Paragraph mode (`PreserveParagraphs`) in closed form: for a paragraph separator without visible
affixes (`AffixFree`: neither part of it shares a line with a paragraph), Wrap, Justify and Align
are the paragraph-separator join of the per-paragraph results; Indent is so for every separator,
its callback ignores the affixes.  The per-paragraph result is the same operation outside paragraph
mode on the paragraph as an editor of its own (`*_single`).  Wrap, Justify and Align need `cx.Sane`
(for `Len("") = 0` and `Sub(0, Len) = id`).
-/
import RosedVerif.Model.OpsStructure
namespace RosedVerif
namespace ParaStructure
open OpsStructure
variable {α : Type} [DecidableEq α]

/-- both affixes that `applyParasM` hands to its callback are empty: the part of `paraSep` before
its first `lineSep` (`prevSuffix`, the suffix argument of every call but the last) and the part
after its last `lineSep` (`nextPrefix`, the prefix argument of every call but the first) -/
def AffixFree (od : Options α) : Prop := od.prevSuffix = [] ∧ od.nextPrefix = []

instance (od : Options α) : Decidable (AffixFree od) :=
  inferInstanceAs (Decidable (_ ∧ _))

/-- with empty `prevSuffix`/`nextPrefix` every call of `paraLoop` gets empty affixes -/
theorem paraCalls_nil_affixes (lineSep : List α) (ambig : Bool) (idx : Nat) (cur : List α)
    (rest : List (List α)) :
    ∀ c ∈ paraCalls lineSep [] [] ambig idx cur rest, c.2.2.1 = [] ∧ c.2.2.2 = [] := by
  induction rest generalizing idx cur with
  | nil =>
    intro c hc
    simp only [paraCalls, List.mem_singleton] at hc
    subst hc
    exact ⟨by simp only [ite_self], rfl⟩
  | cons nxt rest ih =>
    intro c hc
    simp only [paraCalls, List.mem_cons] at hc
    rcases hc with rfl | hc
    · exact ⟨by simp only [ite_self], rfl⟩
    · exact ih _ _ c hc

/-- under `AffixFree od` every call of the paragraph
callback gets `pre = []` and `suf = []` -/
theorem paraCallsOf_affixFree (text : List α) (od : Options α) (haf : AffixFree od) :
    ∀ c ∈ paraCallsOf text od, c.2.2.1 = [] ∧ c.2.2.2 = [] := by
  unfold paraCallsOf
  split
  · intro c hc; simp at hc
  · rw [haf.1, haf.2]
    exact paraCalls_nil_affixes _ _ _ _ _

/-- … and conversely, as soon as the text has two paragraphs: the first call gets the suffix
`prevSuffix`, the second one the prefix `nextPrefix` -/
theorem affixFree_iff_calls (text : List α) (od : Options α)
    (h2 : 2 ≤ (splitOn text od.paraSep).length) :
    AffixFree od ↔ ∀ c ∈ paraCallsOf text od, c.2.2.1 = [] ∧ c.2.2.2 = [] := by
  refine ⟨paraCallsOf_affixFree text od, fun h => ?_⟩
  unfold paraCallsOf at h
  cases hsp : splitOn text od.paraSep with
  | nil => rw [hsp] at h2; simp at h2
  | cons p ps =>
    cases ps with
    | nil => rw [hsp] at h2; simp at h2
    | cons q rest =>
      rw [hsp] at h
      dsimp only at h
      constructor
      · exact (h _ (by rw [paraCalls]; exact List.mem_cons_self)).2
      · rw [paraCalls] at h
        cases rest with
        | nil =>
          have := (h _ (by rw [paraCalls]; exact List.mem_cons_of_mem _ List.mem_cons_self)).1
          simpa using this
        | cons r rest =>
          have := (h _ (by rw [paraCalls]; exact List.mem_cons_of_mem _ List.mem_cons_self)).1
          simpa using this

theorem splitOn_sep_append (sep X : List α) (hsep : sep ≠ []) :
    splitOn (sep ++ X) sep = [] :: splitOn X sep := by
  have := (sepFree_nil sep hsep).splitOn_append hsep X
  rw [List.nil_append] at this
  exact this

/-- `strings.Split` of `n` copies of the separator: `n + 1` empty pieces -/
theorem splitOn_replicate (sep : List α) (hsep : sep ≠ []) (n : Nat) :
    splitOn (List.replicate n sep).flatten sep = List.replicate (n + 1) [] := by
  induction n with
  | zero => exact splitOn_nil sep hsep
  | succ n ih =>
    rw [List.replicate_succ, List.flatten_cons, splitOn_sep_append sep _ hsep, ih]
    rfl

/-- a paragraph separator that is a repetition of the line separator has no visible affixes -/
theorem affixFree_of_replicate (od : Options α) (hsep : od.lineSep ≠ []) (n : Nat)
    (h : od.paraSep = (List.replicate n od.lineSep).flatten) : AffixFree od := by
  unfold AffixFree Options.prevSuffix Options.nextPrefix
  rw [h, splitOn_replicate _ hsep]
  constructor
  · rfl
  · split
    · simp only [List.getLastD_eq_getLast?, List.getLast?_replicate]
      split <;> rfl
    · rfl

/-- the most common instance: `paraSep = lineSep ++ lineSep` (the defaults "\n\n" and "\n") -/
theorem affixFree_of_double (od : Options α) (hsep : od.lineSep ≠ [])
    (h : od.paraSep = od.lineSep ++ od.lineSep) : AffixFree od := by
  apply affixFree_of_replicate od hsep 2
  rw [h]
  simp only [List.replicate_succ, List.replicate_zero, List.flatten_cons, List.flatten_nil,
    List.append_nil]

/-- necessary: an affix-free (non-empty) paragraph separator starts and ends with the line
separator -/
theorem AffixFree.prefix_suffix {od : Options α} (haf : AffixFree od) (hsep : od.lineSep ≠ [])
    (hp : od.paraSep ≠ []) : od.lineSep <+: od.paraSep ∧ od.lineSep <:+ od.paraSep := by
  obtain ⟨h1, h2⟩ := haf
  unfold Options.prevSuffix at h1
  unfold Options.nextPrefix at h2
  have hj := joinWith_splitOn od.paraSep od.lineSep hsep
  generalize splitOn od.paraSep od.lineSep = parts at *
  cases parts with
  | nil => rw [← hj] at hp; exact absurd rfl hp
  | cons x t =>
    simp only [List.headD_cons] at h1
    subst h1
    cases t with
    | nil => rw [← hj] at hp; exact absurd rfl hp
    | cons y u =>
      constructor
      · rw [← hj, joinWith_cons_cons, List.nil_append]
        exact List.prefix_append _ _
      · rw [if_pos (by simp only [List.length_cons]; omega)] at h2
        rw [← hj]
        exact suffix_joinWith_of_getLastD_nil _ _ h2 (by simp [List.dropLast])

/-- sufficient for a line separator without a proper border (every one-atom separator, "\r\n", …):
the paragraph separator starts and ends with it -/
theorem affixFree_of_prefix_suffix (od : Options α) (hsep : od.lineSep ≠ [])
    (hu : Unbordered od.lineSep) (hpre : od.lineSep <+: od.paraSep)
    (hsuf : od.lineSep <:+ od.paraSep) : AffixFree od := by
  obtain ⟨X, hX⟩ := hpre
  have hl := splitOn_last_of_suffix od.paraSep od.lineSep hsep hu
    (List.isSuffixOf_iff_suffix.2 hsuf)
  unfold AffixFree Options.prevSuffix Options.nextPrefix
  rw [← hX, splitOn_sep_append _ _ hsep] at hl ⊢
  refine ⟨rfl, ?_⟩
  split
  · rw [List.getLastD_eq_getLast?, hl]; rfl
  · rfl

/-- `Unbordered` cannot be dropped there: "aaa" starts and ends with "aa", but `strings.Split`
cuts it into "" and "a", so the following paragraph gets the visible prefix "a" -/
theorem not_affixFree_bordered :
    let od : Options Nat := { lineSep := [7, 7], paraSep := [7, 7, 7] }
    od.lineSep <+: od.paraSep ∧ od.lineSep <:+ od.paraSep ∧ ¬ AffixFree od ∧
      od.nextPrefix = [7] := by
  decide +kernel

section gem
variable {cx : Ctx α}

theorem gRepeat_gLen_nil (hs : cx.Sane) (x : α) :
    gRepeat [x] ((gLen cx ([] : List α) : Nat) : Int) = [] := by
  rw [gLen_nil hs]
  rfl

theorem gLen_nil_not_pos' (hs : cx.Sane) : ¬ gLen cx ([] : List α) > 0 := by
  rw [gLen_nil hs]
  decide

theorem gLen_nil_not_pos (hs : cx.Sane) : ¬ ((gLen cx ([] : List α) : Nat) : Int) > 0 :=
  fun h => gLen_nil_not_pos' hs (Int.natCast_pos.1 h)

/-- `Sub(0, Len)` is the whole string -/
theorem gSub_full (hs : cx.Sane) (s : List α) : gSub cx s 0 (gLen cx s) = s := by
  unfold gSub gLen
  simp only [rangeToIndexes_id _ 0 _ (Int.le_refl 0) (Int.natCast_nonneg _) (Int.le_refl _)]
  by_cases h0 : (cx.ends s).length = 0
  · have : s = [] := (gLen_eq_zero_iff hs s).1 h0
    subst this
    rw [h0]
    rfl
  · rw [if_neg (by simp only [beq_iff_eq]; omega), if_neg (by omega)]
    have hl : ((cx.ends s).length : Int).toNat - 1 = (cx.ends s).length - 1 := by omega
    rw [hl, getD_eq_getElem _ _ (by omega), (hs.part s).getElem_last (by omega)]
    unfold sliceRunes
    simp only [List.drop_zero, Nat.sub_zero, List.take_length]

end gem

theorem paraLoop_affixFree (op : Nat → List α → List α → List α → R (List (List α)))
    (f : List α → R (List α)) (hop : ∀ i p, op i p [] [] = (do pure [← f p]))
    (lineSep : List α) (ambig : Bool) (idx : Nat) (cur : List α) (rest : List (List α)) :
    paraLoop op lineSep [] [] ambig idx cur rest = (paraPieces lineSep ambig cur rest).mapM f := by
  induction rest generalizing idx cur with
  | nil =>
    simp only [paraLoop, paraPieces, ite_self, hop, List.mapM_cons, List.mapM_nil, pure_bind]
  | cons nxt rest ih =>
    simp only [paraLoop, paraPieces, ite_self, hop, List.mapM_cons, ih, bind_assoc, pure_bind,
      List.singleton_append]

omit [DecidableEq α] in
theorem withDefaults_paraSep_idem (cx : Ctx α) (o : Options α) :
    ((o.withDefaults cx).withDefaults cx).paraSep = (o.withDefaults cx).paraSep := by
  obtain ⟨cs, h⟩ := withDefaults_withDefaults cx o
  rw [h]

/-- `applyParasM` reads only the two separators of its options, and these are stable under a
second `withDefaults` (Wrap, Justify and Align pass the already defaulted options) -/
theorem applyParasM_withDefaults (cx : Ctx α) (ed : Editor α)
    (op : Nat → List α → List α → List α → R (List (List α))) (o : Options α) :
    ed.applyParasM cx op (o.withDefaults cx) = ed.applyParasM cx op o := by
  unfold Editor.applyParasM
  simp only [withDefaults_lineSep_idem, withDefaults_paraSep_idem]

/-- without visible affixes, a callback that computes `f` of the paragraph (given
empty affixes) is mapped over the paragraphs; the results are joined with the paragraph separator -/
theorem applyParasM_affixFree (cx : Ctx α) (ed : Editor α)
    (op : Nat → List α → List α → List α → R (List (List α))) (f : List α → R (List α))
    (o : Options α) (haf : AffixFree (o.withDefaults cx))
    (hop : ∀ i p, op i p [] [] = (do pure [← f p])) :
    ed.applyParasM cx op o =
      ((paragraphsOf ed.text (o.withDefaults cx)).mapM f >>=
        fun rs => pure (ed.withText (joinWith (o.withDefaults cx).paraSep rs))) := by
  obtain ⟨h1, h2⟩ := haf
  unfold Options.prevSuffix at h1
  unfold Options.nextPrefix at h2
  unfold Editor.applyParasM paragraphsOf
  dsimp only
  rw [h1, h2]
  cases splitOn ed.text (o.withDefaults cx).paraSep with
  | nil => simp only [List.mapM_nil, pure_bind, joinWith_nil]
  | cons p ps =>
    dsimp only
    rw [paraLoop_affixFree op f hop]
    rfl

/-- … for a callback that never fails on empty affixes -/
theorem applyParasM_affixFree_ok (cx : Ctx α) (ed : Editor α)
    (op : Nat → List α → List α → List α → R (List (List α))) (g : List α → List α)
    (o : Options α) (haf : AffixFree (o.withDefaults cx))
    (hop : ∀ i p, op i p [] [] = .ok [g p]) :
    ed.applyParasM cx op o =
      .ok (ed.withText (joinWith (o.withDefaults cx).paraSep
        ((paragraphsOf ed.text (o.withDefaults cx)).map g))) := by
  rw [applyParasM_affixFree cx ed op (fun p => .ok (g p)) o haf (fun i p => by rw [hop]; rfl),
    mapM_ok_map _ g _ (fun _ _ => rfl)]
  rfl

section wrap
variable (cx : Ctx α)

/-- the per-paragraph result of Wrap as a total function (the paragraph itself in the unreachable
error case): the wrapped lines joined by the line separator, plus one more line separator exactly
when the paragraph ended in one — as `WrapOpts` outside of paragraph mode (`wrapOpts_structure`) -/
def wrapPara (width : Int) (sep p : List α) : List α :=
  match wrapLines cx p (max width 2) sep with
  | .ok ls => joinWith sep ls ++ (if sep.isSuffixOf p then sep else [])
  | .error _ => p

theorem wrapPara_eq (width : Int) (sep p : List α) (lines : List (List α))
    (hw : wrapLines cx p (max width 2) sep = .ok lines) :
    wrapPara cx width sep p = joinWith sep lines ++ (if sep.isSuffixOf p then sep else []) := by
  unfold wrapPara
  rw [hw]

/-- … for a well-formed context the wrapped lines exist -/
theorem wrapPara_eq_sane (hs : cx.Sane) (width : Int) (sep p : List α) :
    ∃ lines, wrapLines cx p (max width 2) sep = .ok lines ∧
      wrapPara cx width sep p = joinWith sep lines ++ (if sep.isSuffixOf p then sep else []) := by
  obtain ⟨ls, h⟩ := wrapLines_total hs p (max width 2) sep
  exact ⟨ls, h, wrapPara_eq cx width sep p ls h⟩

end wrap
end ParaStructure
open ParaStructure OpsStructure
variable {α : Type} [DecidableEq α] (cx : Ctx α)

/-- **Wrap, paragraph mode, no visible affixes**: every paragraph is wrapped on its own
(`wrapPara`: its wrapped lines joined by the line separator, plus one more line separator exactly
when the paragraph ended in one), and the results are joined by the paragraph separator -/
theorem wrapOpts_para_sane (hs : cx.Sane) (ed : Editor α) (width : Int) (o : Options α)
    (hpp : (o.withDefaults cx).preservePara = true) (haf : AffixFree (o.withDefaults cx)) :
    ed.wrapOpts cx width o =
      .ok (ed.withText (joinWith (o.withDefaults cx).paraSep
        ((paragraphsOf ed.text (o.withDefaults cx)).map
          (wrapPara cx width (o.withDefaults cx).lineSep)))) := by
  unfold Editor.wrapOpts
  dsimp only
  rw [hpp, max_two]
  simp only [if_true]
  rw [applyParasM_withDefaults]
  apply applyParasM_affixFree_ok cx ed _ _ o haf
  intro i p
  obtain ⟨ls, h⟩ := wrapLines_total hs p (max width 2) (o.withDefaults cx).lineSep
  simp only [gRepeat_gLen_nil hs, List.nil_append, List.append_nil, Block.join_eq,
    Bool.false_eq_true, if_false, if_neg (gLen_nil_not_pos hs)]
  rw [gLen_nil hs, h, wrapPara_eq cx width _ p ls h]
  show Except.ok _ = Except.ok _
  simp only [Int.natCast_zero, gSub_full hs]
  split <;> simp only [List.append_nil]

namespace ParaStructure

section justify
variable (cx : Ctx α)

/-- the lines of a paragraph after Justify, `J` being the line function: all lines (`jl`), or all
lines but the last -/
def justifyLines (J : List α → List α) (jl : Bool) (ls : List (List α)) : List (List α) :=
  if jl then ls.map J else mapInit J ls

/-- the closed form of the per-paragraph result -/
def justifyParaWith (J : List α → List α) (sep : List α) (jl : Bool) (p : List α) : List α :=
  ({ Block.new p sep with lines := justifyLines J jl (Block.new p sep).lines } : Block α).join

omit [DecidableEq α] in
theorem justifyLines_length (J : List α → List α) (jl : Bool) (ls : List (List α)) :
    (justifyLines J jl ls).length = ls.length := by
  unfold justifyLines
  split
  · exact List.length_map _
  · exact mapInit_length _ _

omit [DecidableEq α] in
theorem getD_mem_dropLast (ls : List (List α)) (i : Nat) (h : i + 1 < ls.length) :
    ls.getD i [] ∈ ls.dropLast := by
  have hi : i < ls.dropLast.length := by rw [List.length_dropLast]; omega
  rw [← List.getElem_eq_getD (h := by omega), ← List.getElem_dropLast hi]
  exact List.getElem_mem hi

theorem mapM_justify_range (width : Int) (jl : Bool) (J : List α → List α) (ls : List (List α))
    (hJ : ∀ l ∈ (if jl then ls else ls.dropLast), justifyLine cx l width = .ok (J l)) :
    (List.range ls.length).mapM (fun i =>
        if !jl ∧ ((i : Nat) : Int) == (ls.length : Int) - 1 then (pure (ls.getD i []) : R (List α))
        else justifyLine cx (ls.getD i []) width) = .ok (justifyLines J jl ls) := by
  have hmap : (List.range ls.length).map (fun i => (justifyLines J jl ls).getD i []) =
      justifyLines J jl ls := by
    have := map_range_getD (justifyLines J jl ls) []
    rwa [justifyLines_length] at this
  rw [← hmap]
  apply mapM_ok_map
  intro i hi
  have hi' : i < ls.length := List.mem_range.1 hi
  unfold justifyLines
  cases jl with
  | true =>
    simp only [Bool.not_true, Bool.false_eq_true, false_and, if_false, if_true] at hJ ⊢
    rw [getD_map_of_lt J ls [] [] i hi']
    exact hJ _ (getD_mem_of_lt ls [] i hi')
  | false =>
    simp only [Bool.not_false, true_and, beq_iff_eq, Bool.false_eq_true, if_false] at hJ ⊢
    rw [mapInit_getD J ls i hi']
    by_cases hlast : i + 1 < ls.length
    · rw [if_neg (by omega), if_pos hlast]
      exact hJ _ (getD_mem_dropLast ls i hlast)
    · rw [if_pos (by omega), if_neg hlast]
      rfl

end justify
end ParaStructure
open ParaStructure OpsStructure

/-- **Justify, paragraph mode, no visible affixes**: every paragraph `p` is justified on its own —
the lines of `tb.New(p, sep)`, all of them with `JustifyLastLine`, all but the last one without,
joined by `sep` (plus the paragraph's trailing `sep` if it had one) — and the results are joined by
the paragraph separator -/
theorem justifyOpts_para_sane (hs : cx.Sane) (ed : Editor α) (width : Int) (o : Options α)
    (hpp : (o.withDefaults cx).preservePara = true) (haf : AffixFree (o.withDefaults cx)) :
    ed.justifyOpts cx width o =
      .ok (ed.withText (joinWith (o.withDefaults cx).paraSep
        ((paragraphsOf ed.text (o.withDefaults cx)).map
          (justifyParaWith (fun l => justified cx l width) (o.withDefaults cx).lineSep
            (o.withDefaults cx).justifyLast)))) := by
  unfold Editor.justifyOpts
  dsimp only
  rw [hpp]
  simp only [if_true]
  rw [applyParasM_withDefaults]
  apply applyParasM_affixFree_ok cx ed _ _ o haf
  intro i p
  simp only [gRepeat_gLen_nil hs, List.nil_append, List.append_nil,
    if_neg (gLen_nil_not_pos hs)]
  rw [gLen_nil hs]
  simp only [Int.natCast_zero, gSub_full hs]
  unfold Block.mapLinesM
  rw [mapM_justify_range cx width _ _ _ (fun l _ => justifyLine_eq_justified cx hs l width)]
  rfl

namespace ParaStructure

section align
variable (cx : Ctx α)

/-- the per-paragraph result of Align: the lines of `tb.New(p, sep)`, each mapped by the line
function `F`, joined again (with the paragraph's own trailing separator) -/
def alignParaWith (F : List α → List α) (sep p : List α) : List α :=
  ({ Block.new p sep with lines := (Block.new p sep).lines.map F } : Block α).join

omit [DecidableEq α] in
theorem _root_.RosedVerif.Block.mapLinesM_pure (b : Block α) (F : List α → List α) :
    b.mapLinesM (fun _ l => pure (F l)) = .ok { b with lines := b.lines.map F } := by
  unfold Block.mapLinesM
  dsimp only
  rw [mapM_ok_map (fun i => (pure (F (b.lines.getD i [])) : R (List α)))
    (fun i => F (b.lines.getD i [])) _ (fun _ _ => rfl), map_range_getD_map]
  rfl

omit [DecidableEq α] in
theorem _root_.RosedVerif.Block.line_ok (b : Block α) (pos : Int) (h0 : 0 ≤ pos) (h1 : pos < b.lines.length) :
    b.line pos = .ok (b.lines.getD pos.toNat []) := by
  unfold Block.line
  rw [if_neg (by omega)]
  rfl

omit [DecidableEq α] in
theorem _root_.RosedVerif.Block.set_self (b : Block α) (pos : Int) (h0 : 0 ≤ pos) (h1 : pos < b.lines.length) :
    b.set pos (b.lines.getD pos.toNat []) = .ok b := by
  unfold Block.set
  rw [if_neg (by omega)]
  have hlt : pos.toNat < b.lines.length := by omega
  rw [← List.getElem_eq_getD (h := hlt), List.set_getElem_self]
  rfl

omit [DecidableEq α] in
theorem _root_.RosedVerif.Block.join_mapLines_of_isEmpty (F : List α → List α) (b : Block α)
    (h : b.lines.isEmpty = true) : ({ b with lines := b.lines.map F } : Block α).join = b.join := by
  rw [Block.join_eq, Block.join_eq, List.isEmpty_iff.1 h]
  rfl

theorem alignParaLeft_nil (hs : cx.Sane) (width : Int) (sep p : List α) :
    alignParaLeft cx width sep p [] [] =
      .ok (alignParaWith (fun l => alignLeft cx l width) sep p) := by
  unfold alignParaLeft alignParaWith
  simp only [gRepeat_gLen_nil hs, List.append_nil]
  generalize Block.new p sep = bl
  by_cases he : bl.lines.isEmpty = true
  · rw [if_pos he, Block.join_mapLines_of_isEmpty _ _ he]
    rfl
  · rw [if_neg he]
    have hpos := Block.lines_length_pos bl he
    rw [Block.line_ok bl 0 (by omega) (by omega), ok_bind, Block.set_self bl 0 (by omega) (by omega),
      ok_bind, Block.mapLinesM_pure, ok_bind]
    simp only [if_neg (gLen_nil_not_pos' hs), pure_bind]
    rfl

theorem alignParaRight_nil (hs : cx.Sane) (width : Int) (sep p : List α) :
    alignParaRight cx width sep p [] [] =
      .ok (alignParaWith (fun l => alignRight cx l width) sep p) := by
  unfold alignParaRight alignParaWith
  simp only [gRepeat_gLen_nil hs, List.nil_append]
  generalize Block.new p sep = bl
  by_cases he : bl.lines.isEmpty = true
  · rw [if_pos he, Block.join_mapLines_of_isEmpty _ _ he]
    rfl
  · rw [if_neg he]
    have hpos := Block.lines_length_pos bl he
    rw [Block.line_ok bl _ (by omega) (by omega), ok_bind,
      Block.set_self bl _ (by omega) (by omega), ok_bind, Block.mapLinesM_pure, ok_bind]
    simp only [if_neg (gLen_nil_not_pos' hs), pure_bind]
    rfl

theorem alignParaCenter_nil (hs : cx.Sane) (width : Int) (sep p : List α) :
    alignParaCenter cx width sep p [] [] =
      .ok (alignParaWith (fun l => alignCenter cx l width) sep p) := by
  unfold alignParaCenter alignParaWith
  simp only [gRepeat_gLen_nil hs, if_neg (gLen_nil_not_pos hs)]
  generalize Block.new p sep = bl
  by_cases he : bl.lines.isEmpty = true
  · rw [if_pos he, Block.join_mapLines_of_isEmpty _ _ he]
    rfl
  · rw [if_neg he, Block.mapLinesM_pure, ok_bind]
    rfl

end align
end ParaStructure
open ParaStructure OpsStructure

/-- **Align (Left / Right / Center), paragraph mode, no visible affixes**: in every paragraph
`p` every line of `Block.new p sep` is aligned and the lines are joined by `sep` again (plus the
paragraph's trailing `sep` if it had one); the results are joined by the paragraph separator.
(`None` and unknown alignments leave the text unchanged: `alignOpts_none`.) -/
theorem alignOpts_para (hs : cx.Sane) (ed : Editor α) (align width : Int) (o : Options α)
    (hal : align = Gen.alignLeft ∨ align = Gen.alignRight ∨ align = Gen.alignCenter)
    (hpp : (o.withDefaults cx).preservePara = true) (haf : AffixFree (o.withDefaults cx)) :
    ed.alignOpts cx align width o =
      .ok (ed.withText (joinWith (o.withDefaults cx).paraSep
        ((paragraphsOf ed.text (o.withDefaults cx)).map
          (alignParaWith (fun l => alignFn cx align l width) (o.withDefaults cx).lineSep)))) := by
  unfold Editor.alignOpts
  rw [if_neg]
  · dsimp only
    rw [hpp]
    simp only [if_true]
    rw [applyParasM_withDefaults]
    apply applyParasM_affixFree_ok cx ed _ _ o haf
    intro i p
    unfold alignFn
    rcases hal with h | h | h <;> subst h
    · simp only [alignParaLeft_nil cx hs]
      rfl
    · simp only [alignParaRight_nil cx hs]
      rfl
    · simp only [alignParaCenter_nil cx hs]
      rfl
  · simp only [beq_iff_eq, bne_iff_ne, ne_eq]
    rcases hal with h | h | h <;> subst h <;> decide

theorem alignOpts_para_left (hs : cx.Sane) (ed : Editor α) (width : Int) (o : Options α)
    (hpp : (o.withDefaults cx).preservePara = true) (haf : AffixFree (o.withDefaults cx)) :
    ed.alignOpts cx Gen.alignLeft width o =
      .ok (ed.withText (joinWith (o.withDefaults cx).paraSep
        ((paragraphsOf ed.text (o.withDefaults cx)).map
          (alignParaWith (fun l => alignLeft cx l width) (o.withDefaults cx).lineSep)))) :=
  alignOpts_para cx hs ed _ width o (.inl rfl) hpp haf

theorem alignOpts_para_right (hs : cx.Sane) (ed : Editor α) (width : Int) (o : Options α)
    (hpp : (o.withDefaults cx).preservePara = true) (haf : AffixFree (o.withDefaults cx)) :
    ed.alignOpts cx Gen.alignRight width o =
      .ok (ed.withText (joinWith (o.withDefaults cx).paraSep
        ((paragraphsOf ed.text (o.withDefaults cx)).map
          (alignParaWith (fun l => alignRight cx l width) (o.withDefaults cx).lineSep)))) :=
  alignOpts_para cx hs ed _ width o (.inr (.inl rfl)) hpp haf

theorem alignOpts_para_center (hs : cx.Sane) (ed : Editor α) (width : Int) (o : Options α)
    (hpp : (o.withDefaults cx).preservePara = true) (haf : AffixFree (o.withDefaults cx)) :
    ed.alignOpts cx Gen.alignCenter width o =
      .ok (ed.withText (joinWith (o.withDefaults cx).paraSep
        ((paragraphsOf ed.text (o.withDefaults cx)).map
          (alignParaWith (fun l => alignCenter cx l width) (o.withDefaults cx).lineSep)))) :=
  alignOpts_para cx hs ed _ width o (.inr (.inr rfl)) hpp haf

namespace ParaStructure

section indent
variable (cx : Ctx α)

/-- the per-paragraph result of Indent: the lines of the paragraph (the paragraph seen as an editor
of its own, with the trailing-separator policy `nt`), each prefixed with `indent`, joined by `sep`;
the paragraph's trailing separator is kept -/
def indentPara (indent sep : List α) (nt : Bool) (p : List α) : List α :=
  joinWith sep ((Spec.bareLines p sep nt).map (indent ++ ·) ++
    (if !nt ∧ (Spec.bareLines p sep nt).length < (splitOn p sep).length then [[]] else []))

/-- a callback that ignores the affixes and never fails is mapped over the paragraphs -/
theorem applyParasM_ignoring (ed : Editor α)
    (op : Nat → List α → List α → List α → R (List (List α))) (g : List α → List α)
    (o : Options α) (hop : ∀ i p a b, op i p a b = .ok [g p]) :
    ed.applyParasM cx op o =
      .ok (ed.withText (joinWith (o.withDefaults cx).paraSep
        ((paragraphsOf ed.text (o.withDefaults cx)).map g))) := by
  have : op = (fun _ p _ _ => do pure [← (pure (g p) : R (List α))]) := by
    funext i p a b
    exact hop i p a b
  rw [this, applyParasM_single_pure]

theorem indent_callback (indent : List α) (o : Options α) (p : List α) :
    (do let e ← (Editor.root p o).applyOpts cx (fun (_ : Nat) (line : List α) => [indent ++ line]) o
        pure [← e.string cx]) =
      .ok [indentPara indent (o.withDefaults cx).lineSep (o.withDefaults cx).noTrailing p] := by
  rw [applyOpts_map cx (Editor.root p o) (indent ++ ·) o, ok_bind, trailing_eq, inLines_eq]
  rfl

end indent
end ParaStructure
open ParaStructure OpsStructure

/-- **Indent, paragraph mode** (any paragraph separator, with or without visible affixes — the
callback of Indent ignores them; any context): every paragraph is indented as an editor of its
own — each of its lines gets the indent, the lines are joined by `sep`, a trailing `sep` is
kept — and the results are joined by the paragraph separator -/
theorem indentOpts_para (ed : Editor α) (level : Int) (o : Options α) (hl : 1 ≤ level)
    (hpp : (o.withDefaults cx).preservePara = true) :
    ed.indentOpts cx level o =
      .ok (ed.withText (joinWith (o.withDefaults cx).paraSep
        ((paragraphsOf ed.text (o.withDefaults cx)).map
          (indentPara (List.replicate level.toNat (o.withDefaults cx).indentStr).flatten
            (o.withDefaults cx).lineSep (o.withDefaults cx).noTrailing)))) := by
  unfold Editor.indentOpts
  rw [if_neg (by omega)]
  dsimp only
  rw [repeatStr_of_nonneg _ _ (by omega), ok_bind, hpp]
  simp only [if_true]
  exact applyParasM_ignoring cx ed _ _ o (fun _ p _ _ => indent_callback cx _ o p)

namespace ParaStructure

section blocknew

/-- a non-empty text whose last piece is empty has more than one piece -/
theorem one_lt_length_splitOn (p sep : List α) (hp : p ≠ [])
    (h : (splitOn p sep).getLastD [] = []) : 1 < (splitOn p sep).length := by
  have hj := joinWith_splitOn_all p sep
  have hne : splitOn p sep ≠ [] := splitOn_ne_nil p sep (.inl hp)
  generalize splitOn p sep = ls at *
  cases ls with
  | nil => exact absurd rfl hne
  | cons x t =>
    cases t with
    | nil =>
      exfalso
      apply hp
      rw [← hj, joinWith_singleton]
      simpa [List.getLastD] using h
    | cons y u => simp only [List.length_cons]; omega

/-- `tb.New(p, sep)`: the lines are those an editor with the default trailing policy sees in `p`
(for every separator, also the empty one); the trailing flag is set when the last piece of a
non-empty text is empty -/
theorem _root_.RosedVerif.Block.new_eq (p sep : List α) :
    Block.new p sep = ⟨Spec.bareLines p sep false, sep,
      decide (p ≠ [] ∧ (splitOn p sep).getLastD [] = [])⟩ := by
  unfold Block.new Spec.bareLines
  by_cases hp : p = []
  · subst hp
    by_cases hsep : sep = []
    · subst hsep; rfl
    · rw [splitOn_nil sep hsep]; rfl
  · rw [if_neg (by simpa using hp)]
    have hone := one_lt_length_splitOn p sep hp
    have hne : splitOn p sep ≠ [] := splitOn_ne_nil p sep (.inl hp)
    generalize splitOn p sep = ls at *
    have hl : ls.getLast? = some (ls.getLastD []) := by
      rw [List.getLastD_eq_getLast?]
      cases h : ls.getLast? with
      | none => exact absurd (List.getLast?_eq_none_iff.1 h) hne
      | some x => rfl
    by_cases he : ls.getLastD [] = []
    · rw [if_pos ⟨hone he, by rw [hl, he]; rfl⟩, decide_eq_true ⟨hp, he⟩]
      simp only [he, List.isEmpty_nil, Bool.not_false, Bool.and_self, if_true]
    · have hE : (ls.getLastD []).isEmpty = false :=
        Bool.eq_false_iff.2 (fun h => he (List.isEmpty_iff.1 h))
      rw [if_neg (fun h => he (by have := h.2; rw [hl] at this; simpa using this)),
        decide_eq_false (fun h => he h.2)]
      simp only [hE, Bool.and_false, Bool.false_eq_true, if_false]

theorem _root_.RosedVerif.Block.new_lines (p sep : List α) : (Block.new p sep).lines = Spec.bareLines p sep false := by
  rw [Block.new_eq]

/-- `Block.Join` after a line-wise change: the new lines joined by `sep`, and the trailing flag of
`tb.New` is the extra empty line of the non-paragraph closed forms (`trailing` for the paragraph as
an editor of its own); `tb.New` never yields "no lines but a trailing separator" -/
theorem _root_.RosedVerif.Block.new_join_lines (p sep : List α) (hsep : sep ≠ []) (ls' : List (List α))
    (hlen : ls'.length = (Spec.bareLines p sep false).length) :
    ({ Block.new p sep with lines := ls' } : Block α).join =
      joinWith sep (ls' ++ trailingPieces p sep false) := by
  rw [Block.new_eq, Block.join_eq]
  dsimp only
  have hlt := Spec.bareLines_length_lt_iff' p sep false hsep
  by_cases hl : (splitOn p sep).getLastD [] = []
  · have htp : trailingPieces p sep false = [[]] := if_pos ⟨rfl, hlt.2 ⟨rfl, hl⟩⟩
    rw [htp]
    by_cases hp : p = []
    · subst hp
      have hb : Spec.bareLines ([] : List α) sep false = [] := by
        unfold Spec.bareLines; rw [splitOn_nil sep hsep]; rfl
      rw [hb] at hlen
      rw [List.length_eq_zero_iff.1 hlen, decide_eq_false (fun h => h.1 rfl)]
      rfl
    · have hne : ls' ≠ [] := by
        intro h0
        have h1 : (Spec.bareLines p sep false ++ trailingPieces p sep false).length =
            (splitOn p sep).length :=
          congrArg List.length (Spec.bareLines_append_trailing p sep false)
        have := one_lt_length_splitOn p sep hp hl
        rw [htp, List.length_append, ← hlen, h0] at h1
        simp only [List.length_nil, List.length_singleton] at h1
        omega
      rw [decide_eq_true ⟨hp, hl⟩, if_pos rfl, joinWith_append_nil_piece sep ls' hne]
  · have htp : trailingPieces p sep false = [] := if_neg (fun h => hl (hlt.1 h.2).2)
    rw [htp, decide_eq_false (fun h => hl h.2), List.append_nil, if_neg (by decide),
      List.append_nil]

theorem alignParaWith_eq (F : List α → List α) (sep p : List α) (hsep : sep ≠ []) :
    alignParaWith F sep p =
      joinWith sep ((Spec.bareLines p sep false).map F ++ trailingPieces p sep false) := by
  unfold alignParaWith
  rw [Block.new_lines, Block.new_join_lines p sep hsep _ (List.length_map _)]

theorem justifyParaWith_eq (J : List α → List α) (sep : List α) (jl : Bool) (p : List α)
    (hsep : sep ≠ []) :
    justifyParaWith J sep jl p =
      joinWith sep (justifyLines J jl (Spec.bareLines p sep false) ++
        trailingPieces p sep false) := by
  unfold justifyParaWith
  rw [Block.new_lines, Block.new_join_lines p sep hsep _ (justifyLines_length _ _ _)]

end blocknew

/-- the result `res` of an operation on `ed` is the paragraph-separator join of one piece per
paragraph, the `i`-th piece being `F` of the `i`-th paragraph (and of nothing else); the editor is
otherwise unchanged (same options, same parent) -/
def ParagraphWise (ed : Editor α) (od : Options α) (F : List α → List α) (res : R (Editor α)) :
    Prop :=
  ∃ r rs, res = .ok r ∧ r = ed.withText (joinWith od.paraSep rs) ∧
    r.text = joinWith od.paraSep rs ∧ r.opts = ed.opts ∧
    rs = (paragraphsOf ed.text od).map F ∧
    rs.length = (paragraphsOf ed.text od).length ∧
    rs.length = (splitOn ed.text od.paraSep).length ∧
    ed.text = joinWith od.paraSep (paragraphsOf ed.text od) ∧
    ∀ i, i < (paragraphsOf ed.text od).length →
      rs.getD i [] = F ((paragraphsOf ed.text od).getD i [])

theorem paragraphWise_of_eq (ed : Editor α) (od : Options α) (F : List α → List α)
    (res : R (Editor α))
    (h : res = .ok (ed.withText (joinWith od.paraSep ((paragraphsOf ed.text od).map F)))) :
    ParagraphWise ed od F res := by
  refine ⟨_, _, h, rfl, Editor.withText_text _ _, Editor.withText_opts _ _, rfl,
    List.length_map _, ?_, (joinWith_paragraphsOf _ _).symm, fun i hi => ?_⟩
  · rw [List.length_map, paragraphsOf_length]
  · exact getD_map_of_lt F _ [] [] i hi

end ParaStructure
open ParaStructure OpsStructure

/-- Wrap: paragraph separators kept in place, each paragraph on its own -/
theorem wrapOpts_paragraphWise (hs : cx.Sane) (ed : Editor α) (width : Int) (o : Options α)
    (hpp : (o.withDefaults cx).preservePara = true) (haf : AffixFree (o.withDefaults cx)) :
    ParagraphWise ed (o.withDefaults cx) (wrapPara cx width (o.withDefaults cx).lineSep)
      (ed.wrapOpts cx width o) :=
  paragraphWise_of_eq _ _ _ _ (wrapOpts_para_sane cx hs ed width o hpp haf)

theorem justifyOpts_paragraphWise (hs : cx.Sane) (ed : Editor α) (width : Int) (o : Options α)
    (hpp : (o.withDefaults cx).preservePara = true) (haf : AffixFree (o.withDefaults cx)) :
    ParagraphWise ed (o.withDefaults cx)
      (justifyParaWith (fun l => justified cx l width) (o.withDefaults cx).lineSep
        (o.withDefaults cx).justifyLast)
      (ed.justifyOpts cx width o) :=
  paragraphWise_of_eq _ _ _ _ (justifyOpts_para_sane cx hs ed width o hpp haf)

theorem alignOpts_paragraphWise (hs : cx.Sane) (ed : Editor α) (align width : Int) (o : Options α)
    (hal : align = Gen.alignLeft ∨ align = Gen.alignRight ∨ align = Gen.alignCenter)
    (hpp : (o.withDefaults cx).preservePara = true) (haf : AffixFree (o.withDefaults cx)) :
    ParagraphWise ed (o.withDefaults cx)
      (alignParaWith (fun l => alignFn cx align l width) (o.withDefaults cx).lineSep)
      (ed.alignOpts cx align width o) :=
  paragraphWise_of_eq _ _ _ _ (alignOpts_para cx hs ed align width o hal hpp haf)

/-- Indent: no hypothesis on the context or on the separators -/
theorem indentOpts_paragraphWise (ed : Editor α) (level : Int) (o : Options α) (hl : 1 ≤ level)
    (hpp : (o.withDefaults cx).preservePara = true) :
    ParagraphWise ed (o.withDefaults cx)
      (indentPara (List.replicate level.toNat (o.withDefaults cx).indentStr).flatten
        (o.withDefaults cx).lineSep (o.withDefaults cx).noTrailing)
      (ed.indentOpts cx level o) :=
  paragraphWise_of_eq _ _ _ _ (indentOpts_para cx ed level o hl hpp)

namespace ParaStructure

/-! ## the per-paragraph results and the non-paragraph operations on the single paragraph

For EVERY non-empty line separator (also a self-overlapping one) the per-paragraph result of Align /
Justify IS the result of the same operation, non-paragraph mode, on the paragraph as an editor of its
own (with the default trailing-separator policy, since Align and Justify go through `tb.New`):
`tb.New` and `ApplyOpts` use the same rule "the last piece of the split is empty" for the trailing
line separator.  For Indent and Wrap this holds for every line separator too (even the empty one):
both modes use the same test for the trailing line separator of the paragraph. -/
section link
variable (cx : Ctx α)

/-- for an unbordered separator, `tb.New` sets the trailing flag exactly when the text ends in the
separator -/
theorem Block.new_trailing (p sep : List α) (hsep : sep ≠ []) (hu : Unbordered sep) :
    (Block.new p sep).trailing = sep.isSuffixOf p := by
  rw [Block.new_eq]
  dsimp only
  by_cases hp : p = []
  · subst hp
    rw [decide_eq_false (fun h => h.1 rfl)]
    symm
    rw [Bool.eq_false_iff]
    intro h
    exact hsep (List.suffix_nil.1 (List.isSuffixOf_iff_suffix.1 h))
  · rw [Bool.eq_iff_iff, decide_eq_true_iff, isSuffixOf_iff_getLastD_nil p sep hsep hu hp]
    exact ⟨fun h => h.2, fun h => ⟨hp, h⟩⟩

/-- the options of the single paragraph seen as an editor of its own: non-paragraph mode, default
trailing-separator policy -/
def single (o : Options α) : Options α := { o with preservePara := false, noTrailing := false }

omit [DecidableEq α] in
theorem single_fields (o : Options α) :
    ((single o).withDefaults cx).lineSep = (o.withDefaults cx).lineSep ∧
    ((single o).withDefaults cx).noTrailing = false ∧
    ((single o).withDefaults cx).preservePara = false ∧
    ((single o).withDefaults cx).justifyLast = (o.withDefaults cx).justifyLast := by
  unfold single
  rw [withDefaults_setFlags]
  exact ⟨rfl, rfl, rfl, rfl⟩

/-- **Align**: the per-paragraph result is `AlignOpts` (non-paragraph mode) of the paragraph -/
theorem alignOpts_single (align width : Int) (o : Options α)
    (hal : align = Gen.alignLeft ∨ align = Gen.alignRight ∨ align = Gen.alignCenter)
    (hsep : (o.withDefaults cx).lineSep ≠ [])
    (p : List α) :
    (Editor.root p (single o)).alignOpts cx align width (single o) =
      .ok (Editor.root (alignParaWith (fun l => alignFn cx align l width)
        (o.withDefaults cx).lineSep p) (single o)) := by
  obtain ⟨h1, h2, h3, -⟩ := single_fields cx o
  rw [alignOpts_structure cx _ align width _ hal h3, trailing_eq, inLines_eq, h1, h2,
    alignParaWith_eq _ _ _ hsep]
  rfl

/-- **Justify**: the per-paragraph result is `JustifyOpts` (non-paragraph mode) of the paragraph -/
theorem justifyOpts_single (hs : cx.Sane) (hd : cx.dLineSep ≠ []) (width : Int) (o : Options α)
    (p : List α) :
    (Editor.root p (single o)).justifyOpts cx width (single o) =
      .ok (Editor.root (justifyParaWith (fun l => justified cx l width)
        (o.withDefaults cx).lineSep (o.withDefaults cx).justifyLast p) (single o)) := by
  obtain ⟨h1, h2, h3, h4⟩ := single_fields cx o
  rw [justifyParaWith_eq _ _ _ _ (withDefaults_lineSep_ne_nil cx hd o)]
  unfold justifyLines
  cases hjl : (o.withDefaults cx).justifyLast with
  | true =>
    rw [justifyOpts_all_sane cx hs _ width _ h3 (by rw [h4, hjl]), trailing_eq, inLines_eq, h1, h2]
    rfl
  | false =>
    rw [justifyOpts_notLast_closed_sane cx hs hd _ width _ h3 (by rw [h4, hjl]), trailing_eq,
      inLines_eq, h1, h2]
    rfl

omit [DecidableEq α] in
theorem withDefaults_noPara (o : Options α) :
    ({ o with preservePara := false } : Options α).withDefaults cx =
      { o.withDefaults cx with preservePara := false } :=
  (withDefaults_setFlags cx o false o.noTrailing).trans (by
    dsimp only
    rw [withDefaults_noTrailing])

/-- **Indent**: the per-paragraph result is `IndentOpts` (non-paragraph mode, same trailing
policy) of the paragraph — for every separator -/
theorem indentOpts_single (level : Int) (o : Options α) (hl : 1 ≤ level) (p : List α) :
    (Editor.root p { o with preservePara := false }).indentOpts cx level
        { o with preservePara := false } =
      .ok (Editor.root (indentPara (List.replicate level.toNat (o.withDefaults cx).indentStr).flatten
        (o.withDefaults cx).lineSep (o.withDefaults cx).noTrailing p)
        { o with preservePara := false }) := by
  have hod := withDefaults_noPara cx o
  unfold Editor.indentOpts
  rw [if_neg (by omega)]
  dsimp only
  rw [hod, repeatStr_of_nonneg _ _ (by omega), ok_bind]
  simp only [Bool.false_eq_true, if_false]
  rw [applyOpts_map cx _ (_ ++ ·), trailing_eq, inLines_eq, hod]
  rfl

/-- Wrap outside paragraph mode is `wrapPara` of the whole text.  No hypothesis on the line
separator: neither `sep ≠ []` nor `Unbordered sep` is needed, both sides use the same `isSuffixOf`
test (`cx.Sane` only makes `wrapLines` total). -/
theorem wrapOpts_eq_wrapPara (hs : cx.Sane) (ed : Editor α) (width : Int) (o : Options α)
    (hpp : (o.withDefaults cx).preservePara = false) :
    ed.wrapOpts cx width o =
      .ok (ed.withText (wrapPara cx width (o.withDefaults cx).lineSep ed.text)) := by
  obtain ⟨lines, hw⟩ := wrapLines_total hs ed.text (max width 2) (o.withDefaults cx).lineSep
  rw [wrapOpts_structure cx ed width o lines hpp hw, wrapPara_eq cx width _ _ lines hw]

/-- **Wrap**: the per-paragraph result is `WrapOpts` (non-paragraph mode) of the paragraph — for
every line separator -/
theorem wrapOpts_single (hs : cx.Sane) (width : Int) (o : Options α) (p : List α) :
    (Editor.root p (single o)).wrapOpts cx width (single o) =
      .ok (Editor.root (wrapPara cx width (o.withDefaults cx).lineSep p) (single o)) := by
  obtain ⟨h1, -, h3, -⟩ := single_fields cx o
  rw [wrapOpts_eq_wrapPara cx hs _ width _ h3, h1]
  rfl

/-- … and with the trailing-separator policy of `o` itself (`NoTrailingLineSep` plays no role in
Wrap), as in `indentOpts_single` -/
theorem wrapOpts_single' (hs : cx.Sane) (width : Int) (o : Options α) (p : List α) :
    (Editor.root p { o with preservePara := false }).wrapOpts cx width
        { o with preservePara := false } =
      .ok (Editor.root (wrapPara cx width (o.withDefaults cx).lineSep p)
        { o with preservePara := false }) := by
  have hod := withDefaults_noPara cx o
  rw [wrapOpts_eq_wrapPara cx hs _ width _ (by rw [hod]), hod]
  rfl

end link

/-! ## example: a paragraph that ends in a line separator keeps it

With the default separators the text "a\n\n\nb" has the paragraphs "a\n" and "b" (the third "\n" is
handed back to the first paragraph by the ambiguity repair).  Non-paragraph Wrap of "a\n" keeps the
trailing line separator ("a\n"), and so does the paragraph callback: paragraph mode leaves
"a\n\n\nb" as it is, no line separator is lost. -/
theorem wrapPara_single_example :
    paragraphsOf [97, 0, 0, 0, 98] (({ preservePara := true } : Options Nat).withDefaults testCtx) =
      [[97, 0], [98]] ∧
    ((Editor.root [97, 0] {}).wrapOpts testCtx 5 (single { preservePara := true })).toOption.map
      Editor.text = some [97, 0] ∧
    wrapPara testCtx 5 [0] [97, 0] = [97, 0] ∧
    ((Editor.root [97, 0, 0, 0, 98] {}).wrapOpts testCtx 5 { preservePara := true }).toOption.map
      Editor.text = some [97, 0, 0, 0, 98] := by
  decide +kernel

/-- … the same through the theorems -/
example : (Editor.root [97, 0] (single { preservePara := true })).wrapOpts testCtx 5
      (single { preservePara := true }) =
    .ok (.root [97, 0] (single { preservePara := true })) := by
  rw [wrapOpts_single testCtx testCtx_sane 5 { preservePara := true } [97, 0]]
  congr 1
example : (Editor.root [97, 0, 0, 0, 98] ({} : Options Nat)).wrapOpts testCtx 5
      { preservePara := true } =
    .ok ((Editor.root [97, 0, 0, 0, 98] ({} : Options Nat)).withText [97, 0, 0, 0, 98]) := by
  rw [wrapOpts_para_sane testCtx testCtx_sane _ 5 { preservePara := true } (by decide) (by decide)]
  congr 2

/-! ## the theorems at work: three paragraphs, one empty, one whitespace-only

`testCtx` (LinesLemmas.lean): every atom is its own cluster, "\n" is `0`, the space is `32`, the
paragraph separator is "\n\n", the indent is `9`.  The text is "a b\nc d" ¶ "" ¶ "  ". -/

def exPara : Editor Nat := .root [97, 32, 98, 0, 99, 32, 100, 0, 0, 0, 0, 32, 32] {}
def exOpts : Options Nat := { preservePara := true }

example : AffixFree (exOpts.withDefaults testCtx) := by decide +kernel
example : AffixFree (exOpts.withDefaults testCtx) :=
  affixFree_of_double _ (by decide) (by decide)
example : paragraphsOf exPara.text (exOpts.withDefaults testCtx) =
    [[97, 32, 98, 0, 99, 32, 100], [], [32, 32]] := by decide +kernel
/-- a paragraph separator with visible affixes: "x\n\ny" -/
example : ¬ AffixFree (({ lineSep := [0], paraSep := [7, 0, 0, 8] } : Options Nat)) ∧
    ({ lineSep := [0], paraSep := [7, 0, 0, 8] } : Options Nat).prevSuffix = [7] ∧
    ({ lineSep := [0], paraSep := [7, 0, 0, 8] } : Options Nat).nextPrefix = [8] := by decide +kernel
/-- "\r\n" and "\r\n\r\n" (atoms 13, 10) -/
example : AffixFree ({ lineSep := [13, 10], paraSep := [13, 10, 13, 10] } : Options Nat) :=
  affixFree_of_prefix_suffix _ (by decide) (by decide) (by decide) (by decide)

/-- Wrap (width 3): "a b\nc d" ¶ "" ¶ "" — the whitespace-only paragraph collapses to nothing,
both paragraph separators stay -/
example : exPara.wrapOpts testCtx 3 exOpts =
    .ok (exPara.withText [97, 32, 98, 0, 99, 32, 100, 0, 0, 0, 0]) := by
  rw [wrapOpts_para_sane testCtx testCtx_sane exPara 3 exOpts (by decide) (by decide)]
  congr 2
example : (paragraphsOf exPara.text (exOpts.withDefaults testCtx)).map (wrapPara testCtx 3 [0]) =
    [[97, 32, 98, 0, 99, 32, 100], [], []] := by decide +kernel

/-- Justify (width 5), last line of every paragraph left alone -/
example : exPara.justifyOpts testCtx 5 exOpts =
    .ok (exPara.withText [97, 32, 32, 32, 98, 0, 99, 32, 100, 0, 0, 0, 0, 32, 32]) := by
  rw [justifyOpts_para_sane testCtx testCtx_sane exPara 5 exOpts (by decide) (by decide)]
  congr 2
/-- … and with `JustifyLastLine` -/
example : exPara.justifyOpts testCtx 5 { exOpts with justifyLast := true } =
    .ok (exPara.withText [97, 32, 32, 32, 98, 0, 99, 32, 32, 32, 100, 0, 0, 0, 0,
      32, 32, 32, 32, 32]) := by
  rw [justifyOpts_para_sane testCtx testCtx_sane exPara 5 _ (by decide) (by decide)]
  congr 2

/-- Align (width 4): the empty paragraph has no line and stays empty, the whitespace-only one
is a line of its own -/
example : exPara.alignOpts testCtx Gen.alignLeft 4 exOpts =
    .ok (exPara.withText [97, 32, 98, 32, 0, 99, 32, 100, 32, 0, 0, 0, 0, 32, 32, 32, 32]) := by
  rw [alignOpts_para_left testCtx testCtx_sane exPara 4 exOpts (by decide) (by decide)]
  congr 2
example : exPara.alignOpts testCtx Gen.alignRight 4 exOpts =
    .ok (exPara.withText [32, 97, 32, 98, 0, 32, 99, 32, 100, 0, 0, 0, 0, 32, 32, 32, 32]) := by
  rw [alignOpts_para_right testCtx testCtx_sane exPara 4 exOpts (by decide) (by decide)]
  congr 2
example : exPara.alignOpts testCtx Gen.alignCenter 4 exOpts =
    .ok (exPara.withText [32, 97, 32, 98, 0, 32, 99, 32, 100, 0, 0, 0, 0, 32, 32, 32, 32]) := by
  rw [alignOpts_para_center testCtx testCtx_sane exPara 4 exOpts (by decide) (by decide)]
  congr 2
example : exPara.alignOpts testCtx Gen.alignNone 4 exOpts = .ok exPara :=
  alignOpts_none testCtx exPara _ 4 _ (.inl rfl)

/-- Indent (level 2) -/
example : exPara.indentOpts testCtx 2 exOpts =
    .ok (exPara.withText [9, 9, 97, 32, 98, 0, 9, 9, 99, 32, 100, 0, 0, 0, 0, 9, 9, 32, 32]) := by
  rw [indentOpts_para testCtx exPara 2 exOpts (by decide) (by decide)]
  congr 2

/-- `alignOpts_paragraphWise` applied -/
example : ∃ r rs, exPara.alignOpts testCtx Gen.alignLeft 4 exOpts = .ok r ∧
    r.text = joinWith [0, 0] rs ∧ rs.length = 3 := by
  obtain ⟨r, rs, h1, -, h3, -, -, h6, -⟩ := alignOpts_paragraphWise testCtx testCtx_sane exPara
    Gen.alignLeft 4 exOpts (.inl rfl) (by decide) (by decide)
  exact ⟨r, rs, h1, h3, h6.trans (by decide)⟩

/-- the single-paragraph link -/
example : (Editor.root [97, 32, 98, 0, 99, 32, 100] (single exOpts)).alignOpts testCtx
      Gen.alignLeft 4 (single exOpts) =
    .ok (.root [97, 32, 98, 32, 0, 99, 32, 100, 32] (single exOpts)) := by
  rw [alignOpts_single testCtx Gen.alignLeft 4 exOpts (.inl rfl) (by decide)]
  congr 1

/-- `AffixFree` cannot be dropped from the Wrap closed form: with the paragraph separator
"x\n\ny" the first paragraph "ab cd" is wrapped together with one placeholder for the visible
suffix "x"; at width 5 the placeholder no longer fits, so the paragraph is broken ("ab\ncd"),
while on its own it fits on one line -/
theorem wrap_needs_affixFree :
    let o : Options Nat := { preservePara := true, lineSep := [0], paraSep := [7, 0, 0, 8] }
    let ed : Editor Nat := .root [97, 98, 32, 99, 100, 7, 0, 0, 8, 101] {}
    ¬ AffixFree (o.withDefaults testCtx) ∧
    paragraphsOf ed.text (o.withDefaults testCtx) = [[97, 98, 32, 99, 100], [101]] ∧
    (paragraphsOf ed.text (o.withDefaults testCtx)).map (wrapPara testCtx 5 [0]) =
      [[97, 98, 32, 99, 100], [101]] ∧
    (ed.wrapOpts testCtx 5 o).toOption.map Editor.text =
      some [97, 98, 0, 99, 100, 7, 0, 0, 8, 101] := by
  decide +kernel

end ParaStructure
end RosedVerif
