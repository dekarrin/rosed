/-
Property C09 on CODE POINTS over a stable vocabulary: inserting a text over the vocabulary into a
text over the vocabulary creates NO junction effect (the hypothesis of `C09_roundtrip` holds), so
deleting what was just inserted restores the text, at Spec level and at Editor level; and the
closed form of Overtype on clusters.
-/
import RosedVerif.Model.BridgeComposite
namespace RosedVerif
namespace BridgeEdit

theorem over_append {V : List (List Int)} {a b : List (List Int)} (ha : ∀ t ∈ a, t ∈ V)
    (hb : ∀ t ∈ b, t ∈ V) : ∀ t ∈ a ++ b, t ∈ V := BridgeWrap.over_append ha hb

theorem over_take {V : List (List Int)} {a : List (List Int)} (ha : ∀ t ∈ a, t ∈ V) (k : Nat) :
    ∀ t ∈ a.take k, t ∈ V := fun t h => ha t (List.mem_of_mem_take h)

theorem over_drop {V : List (List Int)} {a : List (List Int)} (ha : ∀ t ∈ a, t ∈ V) (k : Nat) :
    ∀ t ∈ a.drop k, t ∈ V := fun t h => ha t (List.mem_of_mem_drop h)

theorem over_splice {V : List (List Int)} {toks ins : List (List Int)} (ht : ∀ t ∈ toks, t ∈ V)
    (hi : ∀ t ∈ ins, t ∈ V) (k j : Nat) : ∀ t ∈ toks.take k ++ ins ++ toks.drop j, t ∈ V :=
  over_append (over_append (over_take ht k) hi) (over_drop ht j)

section vocab
variable {V : List (List Int)}

/-- the normalised position over the flattened text is the normalised position over the tokens -/
theorem posNat_flat (hV : VocabStable V = true) (toks : List (List Int))
    (ht : ∀ t ∈ toks, t ∈ V) (p : Int) :
    Spec.posNat cxA toks.flatten p = (Spec.normPos (toks.length : Int) p).toNat := by
  unfold Spec.posNat
  rw [clusters_flat_over hV ht]

theorem posNat_flat_le (hV : VocabStable V = true) (toks : List (List Int))
    (ht : ∀ t ∈ toks, t ∈ V) (p : Int) : Spec.posNat cxA toks.flatten p ≤ toks.length := by
  have := Spec.posNat_le (cx := cxA) toks.flatten p
  rwa [clusters_flat_over hV ht] at this

/-- `Spec.insert` on the flattened text is the flattening of the splice of the token lists -/
theorem insert_flat (hV : VocabStable V = true) (toks ins : List (List Int))
    (ht : ∀ t ∈ toks, t ∈ V) (p : Int) :
    Spec.insert cxA toks.flatten p ins.flatten =
      (toks.take (Spec.posNat cxA toks.flatten p) ++ ins ++
        toks.drop (Spec.posNat cxA toks.flatten p)).flatten := by
  rw [Spec.insert_eq, clusters_flat_over hV ht,
    List.flatten_append, List.flatten_append]

/-- `Spec.overtype` on the flattened text is the flattening of the splice of the token lists -/
theorem overtype_flat (hV : VocabStable V = true) (toks ins : List (List Int))
    (ht : ∀ t ∈ toks, t ∈ V) (hi : ∀ t ∈ ins, t ∈ V) (p : Int) :
    Spec.overtype cxA toks.flatten p ins.flatten =
      (toks.take (Spec.posNat cxA toks.flatten p) ++ ins ++
        toks.drop (min (Spec.posNat cxA toks.flatten p + ins.length) toks.length)).flatten := by
  have hle := posNat_flat_le hV toks ht p
  have hc := Spec.posNat_cast (cx := cxA) toks.flatten p
  rw [Spec.overtype_eq, gLen_flatten_stable ins (stableRunes_of_vocab V hV ins hi), ← hc]
  rw [clusters_flat_over hV ht] at hc ⊢
  rw [List.flatten_append, List.flatten_append]
  congr 3
  split <;> omega

end vocab
end BridgeEdit

open BridgeEdit

section vocab
variable {V : List (List Int)}

/-- Over a stable vocabulary an insertion has NO junction effect: the clusters of the
result are the clusters before the position, the inserted tokens, the clusters after it. -/
theorem insert_clusters_stable (hV : VocabStable V = true) (toks ins : List (List Int))
    (ht : ∀ t ∈ toks, t ∈ V) (hi : ∀ t ∈ ins, t ∈ V) (p : Int) :
    clusters cxA (Spec.insert cxA toks.flatten p ins.flatten) =
      toks.take (Spec.posNat cxA toks.flatten p) ++ ins ++
        toks.drop (Spec.posNat cxA toks.flatten p) := by
  rw [insert_flat hV toks ins ht p]
  exact clusters_flatten_stable _ (stableRunes_of_vocab V hV _ (over_splice ht hi _ _))

/-- the position is the normalised position counted in tokens -/
theorem posNat_flatten_stable (hV : VocabStable V = true) (toks : List (List Int))
    (ht : ∀ t ∈ toks, t ∈ V) (p : Int) :
    Spec.posNat cxA toks.flatten p = (Spec.normPos (toks.length : Int) p).toNat ∧
      Spec.posNat cxA toks.flatten p ≤ toks.length :=
  ⟨posNat_flat hV toks ht p, posNat_flat_le hV toks ht p⟩

/-- `insert_clusters_stable` in the form of the junction-freeness hypothesis `h` of
`Props.C09_roundtrip` -/
theorem insert_junction_free (hV : VocabStable V = true) (toks ins : List (List Int))
    (ht : ∀ t ∈ toks, t ∈ V) (hi : ∀ t ∈ ins, t ∈ V) (p : Int) :
    clusters cxA (Spec.insert cxA toks.flatten p ins.flatten) =
      (clusters cxA toks.flatten).take (Spec.posNat cxA toks.flatten p) ++
        clusters cxA ins.flatten ++
        (clusters cxA toks.flatten).drop (Spec.posNat cxA toks.flatten p) := by
  rw [insert_clusters_stable hV toks ins ht hi p,
    clusters_flat_over hV ht,
    clusters_flatten_stable ins (stableRunes_of_vocab V hV ins hi)]

/-- Deleting what was just inserted restores the text: the
hypothesis of `C09_roundtrip` is discharged on a stable vocabulary. -/
theorem delete_insert_stable (hV : VocabStable V = true) (toks ins : List (List Int))
    (ht : ∀ t ∈ toks, t ∈ V) (hi : ∀ t ∈ ins, t ∈ V) (p : Int) :
    Spec.delete cxA (Spec.insert cxA toks.flatten p ins.flatten)
      (Spec.posNat cxA toks.flatten p : Nat)
      ((Spec.posNat cxA toks.flatten p + ins.length : Nat) : Int) = toks.flatten := by
  have h := Spec.delete_insert_wf cxA_WF toks.flatten p ins.flatten (insert_junction_free hV toks ins ht hi p)
  rwa [clusters_flatten_stable ins (stableRunes_of_vocab V hV ins hi)] at h

/-- `Insert` followed by `Delete` of the inserted range gives back the editor: any editor (root
or sub-editor) whose text is over the vocabulary, every integer position -/
theorem editor_delete_insert_stable_gen (hV : VocabStable V = true) (ed : Editor Int)
    (toks ins : List (List Int)) (hed : ed.text = toks.flatten)
    (ht : ∀ t ∈ toks, t ∈ V) (hi : ∀ t ∈ ins, t ∈ V) (p : Int) :
    (ed.insert cxA p ins.flatten >>= fun e =>
        e.delete cxA (Spec.posNat cxA toks.flatten p : Nat)
          ((Spec.posNat cxA toks.flatten p + ins.length : Nat) : Int)) = .ok ed := by
  rw [Editor.insert_eq_spec cxA_WF.1 _ (cxA_WF.pos _)]
  show Editor.delete cxA (ed.withText (Spec.insert cxA ed.text p ins.flatten)) _ _ = _
  rw [Editor.delete_eq_spec cxA_WF]
  have e1 : (ed.withText (Spec.insert cxA ed.text p ins.flatten)).text =
      Spec.insert cxA ed.text p ins.flatten := by cases ed <;> rfl
  rw [e1, hed, delete_insert_stable hV toks ins ht hi p, ← hed]
  cases ed <;> rfl

theorem editor_delete_insert_stable (hV : VocabStable V = true) (toks ins : List (List Int))
    (ht : ∀ t ∈ toks, t ∈ V) (hi : ∀ t ∈ ins, t ∈ V) (o : Options Int) (p : Int) :
    ((Editor.root toks.flatten o).insert cxA p ins.flatten >>= fun e =>
        e.delete cxA (Spec.posNat cxA toks.flatten p : Nat)
          ((Spec.posNat cxA toks.flatten p + ins.length : Nat) : Int)) =
      .ok (Editor.root toks.flatten o) :=
  editor_delete_insert_stable_gen hV _ toks ins rfl ht hi p

/-- the closed form of Overtype on clusters: the tokens before the position, the new
tokens, the tokens from `min (k + |ins|) n` on. -/
theorem overtype_clusters_stable (hV : VocabStable V = true) (toks ins : List (List Int))
    (ht : ∀ t ∈ toks, t ∈ V) (hi : ∀ t ∈ ins, t ∈ V) (p : Int) :
    clusters cxA (Spec.overtype cxA toks.flatten p ins.flatten) =
      toks.take (Spec.posNat cxA toks.flatten p) ++ ins ++
        toks.drop (min (Spec.posNat cxA toks.flatten p + ins.length) toks.length) := by
  rw [overtype_flat hV toks ins ht hi p]
  exact clusters_flatten_stable _ (stableRunes_of_vocab V hV _ (over_splice ht hi _ _))

/-- `Overtype` succeeds and the clusters of its result are the closed form
(texts with fewer than 2^63 clusters together) -/
theorem editor_overtype_stable (hV : VocabStable V = true) (toks ins : List (List Int))
    (ht : ∀ t ∈ toks, t ∈ V) (hi : ∀ t ∈ ins, t ∈ V) (o : Options Int) (p : Int)
    (hno : (toks.length : Int) + (ins.length : Int) < 2 ^ 63) :
    ∃ e, (Editor.root toks.flatten o).overtype cxA p ins.flatten = .ok e ∧ e.opts = o ∧
      clusters cxA e.text = toks.take (Spec.posNat cxA toks.flatten p) ++ ins ++
        toks.drop (min (Spec.posNat cxA toks.flatten p + ins.length) toks.length) := by
  refine ⟨_, Editor.overtype_eq_spec cxA_WF _ p ins.flatten ?_, rfl,
    overtype_clusters_stable hV toks ins ht hi p⟩
  show (gLen cxA toks.flatten : Int) + (gLen cxA ins.flatten : Int) < 2 ^ 63
  rw [gLen_flatten_stable toks (stableRunes_of_vocab V hV toks ht),
    gLen_flatten_stable ins (stableRunes_of_vocab V hV ins hi)]
  exact hno

end vocab

end RosedVerif
