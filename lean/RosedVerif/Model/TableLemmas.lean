/-
C16 at cluster level (every atom is its own cluster): a table row and the horizontal bar are lines of
segments, one per column; the widths `makeTable` computes leave room for every cell and add up to
the target width; hence the table is rectangular.  What is IN the lines: `TableShape.lean`.
-/
import RosedVerif.Model.ListSums
import RosedVerif.Model.AlignRefine
import RosedVerif.Model.Table
namespace RosedVerif
set_option linter.unusedSectionVars false

/-! ## the column widths -/
section
variable {α : Type}

/-- number of columns: the longest row -/
def tableColCount (data : List (List (List α))) : Nat := data.foldl (fun m r => max m r.length) 0

/-- widest cell (unstripped) of column `col` -/
def colContent (data : List (List (List α))) (col : Nat) : Nat :=
  maxLineLen (data.map fun row => row.getD col [])

/-- content width + padding: 2 for every column of a bordered table, 2 for all but the last
column of a borderless one -/
def padW (data : List (List (List α))) (border : Bool) (i : Nat) : Int :=
  (colContent data i : Int) +
    (if border = true then 2 else if i + 1 < tableColCount data then 2 else 0)

/-- the model's minimum table width -/
def tableMinWidth (data : List (List (List α))) (border : Bool) : Int :=
  (if border = true then 1 else 0) +
    sumTo (fun i => padW data border i + (if border = true then 1 else 0)) (tableColCount data)

/-- the number of columns the extra space is distributed over -/
def numToSpace (data : List (List (List α))) (border : Bool) : Int :=
  if border = false ∧ tableColCount data > 1 then (tableColCount data : Int) - 1
  else (tableColCount data : Int)

/-- final column widths -/
def colW (data : List (List (List α))) (width : Int) (border : Bool) (i : Nat) : Int :=
  let sp := width - tableMinWidth data border
  if sp > 0 then
    if (i : Int) < numToSpace data border then
      padW data border i + sp / numToSpace data border +
        (if (i : Int) < sp % numToSpace data border then 1 else 0)
    else padW data border i
  else padW data border i

def tableColWidths (data : List (List (List α))) (width : Int) (border : Bool) : List Int :=
  (List.range (tableColCount data)).map (colW data width border)

theorem tableColWidths_getD (data : List (List (List α))) (width : Int) (border : Bool)
    (k : Nat) (hk : k < tableColCount data) :
    (tableColWidths data width border).getD k 0 = colW data width border k :=
  getD_map_range _ _ _ _ hk

theorem tableColWidths_length (data : List (List (List α))) (width : Int) (border : Bool) :
    (tableColWidths data width border).length = tableColCount data := by
  simp [tableColWidths]

theorem tableColCount_eq (data : List (List (List α))) : tableColCount data = maxLineLen data := by
  refine (foldl_max_eq (fun r => r) id _ (fun _ _ => rfl) data 0).trans ?_
  rw [List.map_id', Nat.zero_max]
  rfl

theorem tableColCount_eq_zero_iff (data : List (List (List α))) :
    tableColCount data = 0 ↔ ∀ r ∈ data, r = [] := by
  rw [tableColCount_eq]
  constructor
  · intro h r hr
    have := le_maxLineLen data r hr
    exact List.eq_nil_of_length_eq_zero (by omega)
  · intro h
    have := maxLineLen_le 0 data (fun r hr => by rw [h r hr]; exact Nat.le_refl _)
    omega

/-- every cell (unstripped) is at most as long as the content width of its column -/
theorem cell_le_colContent (data : List (List (List α))) (row : List (List α)) (hrow : row ∈ data)
    (col : Nat) : (row.getD col []).length ≤ colContent data col :=
  le_maxLineLen _ _ (List.mem_map.2 ⟨row, hrow, rfl⟩)

theorem numToSpace_bounds (data : List (List (List α))) (border : Bool) (hk : tableColCount data ≠ 0) :
    1 ≤ numToSpace data border ∧ numToSpace data border ≤ tableColCount data := by
  unfold numToSpace
  split <;> omega

theorem padW_le_colW (data : List (List (List α))) (width : Int) (border : Bool) (i : Nat)
    (hk : tableColCount data ≠ 0) :
    padW data border i ≤ colW data width border i := by
  have hn := numToSpace_bounds data border hk
  unfold colW
  simp only
  split
  · rename_i hsp
    split
    · have h1 : 0 ≤ (width - tableMinWidth data border) / numToSpace data border :=
        Int.ediv_nonneg (by omega) (by omega)
      split <;> omega
    · exact Int.le_refl _
  · exact Int.le_refl _

/-- the padding of a bordered column is part of its width -/
theorem pad_le_colW (data : List (List (List α))) (width : Int) (border : Bool) (i : Nat)
    (hk : tableColCount data ≠ 0) :
    (if border = true then 2 else 0) ≤ colW data width border i := by
  have h := padW_le_colW data width border i hk
  unfold padW at h
  cases border <;> simp only [Bool.false_eq_true, if_false, if_true] at h ⊢
  · split at h <;> omega
  · omega

/-- `makeTable`'s widths leave room for every cell of `data` (unstripped), plus 2 with
borders -/
theorem cell_le_colW (data : List (List (List α))) (width : Int) (border : Bool)
    (hk : tableColCount data ≠ 0) (row : List (List α)) (hrow : row ∈ data) (k : Nat) :
    ((row.getD k []).length : Int) + (if border = true then 2 else 0) ≤ colW data width border k := by
  have h1 := cell_le_colContent data row hrow k
  have h2 := padW_le_colW data width border k hk
  unfold padW at h2
  cases border <;> simp only [Bool.false_eq_true, if_false, if_true] at h2 ⊢
  · split at h2 <;> omega
  · omega

/-- the extra space is distributed completely: the final widths add up to the target width -/
theorem sumTo_colW (data : List (List (List α))) (width : Int) (border : Bool)
    (hk : tableColCount data ≠ 0) :
    (if border = true then 1 else 0) +
      sumTo (fun i => colW data width border i + (if border = true then 1 else 0)) (tableColCount data)
      = max width (tableMinWidth data border) := by
  have hn := numToSpace_bounds data border hk
  have hm : tableMinWidth data border = (if border = true then 1 else 0) +
    sumTo (fun i => padW data border i + (if border = true then 1 else 0)) (tableColCount data) := rfl
  by_cases hsp : width - tableMinWidth data border > 0
  · rw [Int.max_eq_left (by omega), sumTo_congr (g := fun i =>
      (padW data border i + (if border = true then 1 else 0)) +
      ((if (i : Int) < numToSpace data border then
          (width - tableMinWidth data border) / numToSpace data border else 0) +
       (if (i : Int) < (width - tableMinWidth data border) % numToSpace data border then 1 else 0))) _
      (fun i _ => ?_), sumTo_distribute _ _ _ _ hn.1 hn.2]
    · omega
    · -- a column beyond `numToSpace` is also beyond the remainder
      have hmod := Int.emod_lt_of_pos (width - tableMinWidth data border)
        (b := numToSpace data border) (by omega)
      unfold colW
      simp only [if_pos hsp]
      split
      · omega
      · have hir : ¬ (i : Int) < (width - tableMinWidth data border) % numToSpace data border := by
          omega
        rw [if_neg hir]
        omega
  · rw [Int.max_eq_right (by omega), sumTo_congr (g := fun i =>
      padW data border i + (if border = true then 1 else 0)) _
      (fun i _ => by unfold colW; simp only [if_neg hsp])]
    rfl

/-- `colOffset colWidths border vlen k`: the offset at which the segment of column `k` starts in
every row of a table: bordered `vlen + Σ_{i<k} (w_i + vlen)`, borderless `Σ_{i<k} w_i` -/
def colOffset (colWidths : List Int) (border : Bool) (vlen : Nat) (k : Nat) : Int :=
  segOffset (fun i => colWidths.getD i 0) (if border = true then vlen else 0)
    (if border = true then vlen else 0) k

/-- the length of every line of a table with column widths `cws`:
bordered `1 + Σ (w_i + 1)`, borderless `Σ w_i` -/
def tableLineLen (cws : List Int) (border : Bool) : Int :=
  (if border then 1 else 0) + sumTo (fun i => cws.getD i 0 + (if border then 1 else 0)) cws.length

/-- a line ends where the column after the last would start -/
theorem tableLineLen_eq_colOffset (cws : List Int) (border : Bool) :
    tableLineLen cws border = colOffset cws border 1 cws.length := by
  cases border <;> rfl

theorem tableLineLen_colWidths (data : List (List (List α))) (width : Int) (border : Bool)
    (hk : tableColCount data ≠ 0) :
    tableLineLen (tableColWidths data width border) border = max width (tableMinWidth data border) := by
  rw [← sumTo_colW data width border hk]
  unfold tableLineLen
  rw [tableColWidths_length]
  congr 1
  apply sumTo_congr
  intro i hi
  rw [tableColWidths_getD _ _ _ _ hi]

end

/-! ## the horizontal bar -/
section
variable {α : Type}

/-- the horizontal bar of a bordered table -/
def tableHorzBar (cws : List Int) (chars : TableChars α) : List α :=
  cws.foldl (fun bar w => bar ++ gRepeat chars.horz w ++ chars.corner) chars.corner

theorem tableHorzBar_eq_segs (cws : List Int) (chars : TableChars α) :
    tableHorzBar cws chars =
      segLine chars.corner chars.corner cws.length (fun k => gRepeat chars.horz (cws.getD k 0)) := by
  unfold tableHorzBar segLine
  simp only [List.append_assoc]
  conv => lhs; rw [← map_range_getD cws 0]
  rw [List.foldl_map, foldl_append_eq]

theorem gRepeat_length_one (s : List α) (hs : s.length = 1) (w : Int) (hw : 0 ≤ w) :
    ((gRepeat s w).length : Int) = w := by
  match s, hs with
  | [h], _ =>
    rw [gRepeat_single, List.length_replicate]
    omega

/-- the horizontal bar is as long as the bordered rows -/
theorem tableHorzBar_length (cws : List Int) (chars : TableChars α)
    (hc : chars.corner.length = 1) (hh : chars.horz.length = 1)
    (hpos : ∀ i, i < cws.length → 0 ≤ cws.getD i 0) :
    ((tableHorzBar cws chars).length : Int) = tableLineLen cws true := by
  rw [tableHorzBar_eq_segs, segLine_length _ _ _ _ (fun i => cws.getD i 0)
    (fun i hi => gRepeat_length_one _ hh _ (hpos i hi)), hc, tableLineLen_eq_colOffset]
  rfl

end

/-! ## rows -/
section
variable {α : Type} [DecidableEq α] (cx : Ctx α)

/-- the three cuts `parseTableCharSet` makes in a character set of three atoms -/
theorem tableChars_of_three (htriv : ∀ s, cx.ends s = List.range' 1 s.length) (a b c : α) :
    (⟨gSub cx [a, b, c] 0 1, gSub cx [a, b, c] 1 2, gSub cx [a, b, c] 2 3⟩ : TableChars α) =
      ⟨[a], [b], [c]⟩ := by
  rw [gSub_triv_int cx htriv [a, b, c] 0 1 (by omega) (by omega) (by simp),
    gSub_triv_int cx htriv [a, b, c] 1 2 (by omega) (by omega) (by simp),
    gSub_triv_int cx htriv [a, b, c] 2 3 (by omega) (by omega) (by simp)]
  rfl

theorem parseTableCharSet_triv (htriv : ∀ s, cx.ends s = List.range' 1 s.length)
    (a b c : α) :
    parseTableCharSet cx [a, b, c] = ⟨[a], [b], [c]⟩ := by
  unfold parseTableCharSet
  simp only [gLen_triv cx htriv, List.length_cons, List.length_nil]
  rw [if_neg (by omega), if_neg (by omega)]
  exact tableChars_of_three cx htriv a b c

theorem parseTableCharSet_lengths (htriv : ∀ s, cx.ends s = List.range' 1 s.length)
    (charSet : List α) (h3 : charSet.length = 3) :
    (parseTableCharSet cx charSet).corner.length = 1 ∧
    (parseTableCharSet cx charSet).vert.length = 1 ∧
    (parseTableCharSet cx charSet).horz.length = 1 := by
  match charSet, h3 with
  | [a, b, c], _ =>
    rw [parseTableCharSet_triv cx htriv]
    exact ⟨rfl, rfl, rfl⟩

/-- at cluster level, as soon as the default character set has (at least) three atoms,
`parseTableCharSet` of an ARBITRARY character set (too short: completed from the default; too
long: cut) is three single atoms -/
theorem parseTableCharSet_triv_exists (htriv : ∀ s, cx.ends s = List.range' 1 s.length)
    (h3 : 3 ≤ cx.dCharset.length) (charSet : List α) :
    ∃ c v h, parseTableCharSet cx charSet = ⟨[c], [v], [h]⟩ := by
  -- the completed or cut character set has three atoms
  have key : ∀ cs : List α, cs.length = 3 →
      ∃ c v h, (⟨gSub cx cs 0 1, gSub cx cs 1 2, gSub cx cs 2 3⟩ : TableChars α) =
        ⟨[c], [v], [h]⟩ := by
    intro cs hcs
    match cs, hcs with
    | [a, b, c], _ => exact ⟨a, b, c, tableChars_of_three cx htriv a b c⟩
  unfold parseTableCharSet
  simp only [gLen_triv cx htriv]
  apply key
  split
  · rename_i hlt
    rw [gSub_triv_int cx htriv cx.dCharset 0 (3 - (charSet.length : Int)) (by omega) (by omega)
      (by omega)]
    simp only [List.length_append, List.length_take, List.length_drop]
    omega
  · split
    · rename_i hgt
      rw [gSub_triv_int cx htriv charSet 0 3 (by omega) (by omega) (by omega)]
      simp only [List.length_take, List.length_drop]
      omega
    · omega

/-- the aligned text is never shorter than `w` (it is `max w (stripped length)` long:
`Spec.alignLeft_length_max`) -/
theorem alignLeft_length_ge_triv (htriv : ∀ s, cx.ends s = List.range' 1 s.length) (t : List α)
    (w : Int) : w ≤ ((alignLeft cx t w).length : Int) := by
  rw [alignLeft_triv cx htriv, Spec.alignLeft_length_max]
  omega

/-- the segment of column `k` in a laid-out row (without the vertical bar that follows it):
header cells are upper-cased and centred (bordered) or left-aligned (borderless); body cells are
left-aligned, after one space when bordered.  A missing cell is the empty text. -/
def cellSeg (row : List (List α)) (cws : List Int) (isHeader border : Bool) (k : Nat) : List α :=
  if isHeader = true then
    (if border = true then alignCenter cx ((row.getD k []).map cx.upper) (cws.getD k 0)
     else alignLeft cx ((row.getD k []).map cx.upper) (cws.getD k 0))
  else
    (if border = true then [cx.sp] ++ alignLeft cx (row.getD k []) (cws.getD k 0 - 1)
     else alignLeft cx (row.getD k []) (cws.getD k 0))

/-- what stands between the segments of a row: the vertical bar, or nothing -/
def rowSep (border : Bool) (chars : TableChars α) : List α :=
  if border = true then chars.vert else []

omit [DecidableEq α] in
theorem rowSep_length (border : Bool) (chars : TableChars α) :
    (rowSep border chars).length = if border = true then chars.vert.length else 0 := by
  cases border <;> rfl

/-- EVERY row is `v ++ cell_0 ++ v ++ cell_1 ++ v …` (bordered) resp. `cell_0 ++ cell_1 ++ …`
(borderless); no side condition -/
theorem tableRow_eq_segs (row : List (List α)) (cws : List Int) (isHeader border : Bool)
    (chars : TableChars α) :
    tableRow cx row cws isHeader border chars =
      segLine (rowSep border chars) (rowSep border chars) cws.length
        (cellSeg cx row cws isHeader border) := by
  unfold tableRow segLine rowSep
  simp only
  rw [foldl_append_eq]
  congr 2
  apply List.map_congr_left
  intro k _
  unfold cellSeg
  cases border <;> cases isHeader <;>
    simp only [Bool.false_eq_true, if_false, if_true, List.append_nil, List.append_assoc]

/-- the text a cell shows: upper-cased in a header row -/
def cellText (row : List (List α)) (isHeader : Bool) (k : Nat) : List α :=
  if isHeader = true then (row.getD k []).map cx.upper else row.getD k []

omit [DecidableEq α] in
theorem cellText_missing (row : List (List α)) (isHeader : Bool) (k : Nat) (hk : row.length ≤ k) :
    cellText cx row isHeader k = [] := by
  unfold cellText
  rw [List.getD_eq_getElem?_getD, List.getElem?_eq_none hk]
  cases isHeader <;> rfl

/-- a cell segment in terms of the specification's alignment functions: the cell's text is
centred in a bordered header, left-aligned after one space in a bordered body row, left-aligned
without borders -/
theorem cellSeg_triv (htriv : ∀ s, cx.ends s = List.range' 1 s.length)
    (row : List (List α)) (cws : List Int) (isHeader border : Bool) (k : Nat) :
    cellSeg cx row cws isHeader border k =
      if border = true then
        (if isHeader = true then
          Spec.alignCenter ⟨cx.isSpace, cx.sp, cx.hy⟩ (cws.getD k 0) (cellText cx row isHeader k)
         else
          [cx.sp] ++
            Spec.alignLeft ⟨cx.isSpace, cx.sp, cx.hy⟩ (cws.getD k 0 - 1) (cellText cx row isHeader k))
      else Spec.alignLeft ⟨cx.isSpace, cx.sp, cx.hy⟩ (cws.getD k 0) (cellText cx row isHeader k) := by
  unfold cellSeg cellText
  cases isHeader <;> cases border <;>
    simp only [Bool.false_eq_true, if_false, if_true, alignLeft_triv cx htriv,
      alignCenter_triv cx htriv]

/-- the exact condition under which the segment of column `k` is `colWidths[k]` long: the
STRIPPED text fits (plus the leading space of a bordered body cell) -/
def cellFits (row : List (List α)) (cws : List Int) (isHeader border : Bool) (k : Nat) : Prop :=
  if border = true then
    (if isHeader = true then
      ((Spec.stripRight ⟨cx.isSpace, cx.sp, cx.hy⟩ (Spec.stripLeft ⟨cx.isSpace, cx.sp, cx.hy⟩
        (cellText cx row isHeader k))).length : Int) ≤ cws.getD k 0
     else
      ((Spec.stripLeft ⟨cx.isSpace, cx.sp, cx.hy⟩ (cellText cx row isHeader k)).length : Int) + 1
        ≤ cws.getD k 0)
  else
    ((Spec.stripLeft ⟨cx.isSpace, cx.sp, cx.hy⟩ (cellText cx row isHeader k)).length : Int)
      ≤ cws.getD k 0

theorem cellSeg_length_iff (htriv : ∀ s, cx.ends s = List.range' 1 s.length)
    (row : List (List α)) (cws : List Int) (isHeader border : Bool) (k : Nat) :
    ((cellSeg cx row cws isHeader border k).length : Int) = cws.getD k 0 ↔
      cellFits cx row cws isHeader border k := by
  rw [cellSeg_triv cx htriv]
  unfold cellFits
  split
  · split
    · rw [Spec.alignCenter_length_max]
      omega
    · rw [List.length_append, Int.natCast_add, Spec.alignLeft_length_max, List.length_singleton]
      omega
  · rw [Spec.alignLeft_length_max]
    omega

/-- a cell that fits unstripped fits (this is what `makeTable` guarantees, with room to spare) -/
theorem cellFits_of_le (row : List (List α)) (cws : List Int) (isHeader border : Bool) (k : Nat)
    (h : ((row.getD k []).length : Int) + (if border = true then 1 else 0) ≤ cws.getD k 0) :
    cellFits cx row cws isHeader border k := by
  have ht : (cellText cx row isHeader k).length = (row.getD k []).length := by
    unfold cellText
    split
    · exact List.length_map _
    · rfl
  have h1 := Spec.stripLeft_length_le ⟨cx.isSpace, cx.sp, cx.hy⟩ (cellText cx row isHeader k)
  have h2 := Spec.stripRight_length_le ⟨cx.isSpace, cx.sp, cx.hy⟩
    (Spec.stripLeft ⟨cx.isSpace, cx.sp, cx.hy⟩ (cellText cx row isHeader k))
  unfold cellFits
  split at h
  · rw [if_pos ‹_›]
    split <;> omega
  · rw [if_neg ‹_›]
    omega

/-- a laid-out row is `tableLineLen` long as soon as every cell fits its column -/
theorem tableRow_length (htriv : ∀ s, cx.ends s = List.range' 1 s.length)
    (row : List (List α)) (cws : List Int) (isHeader border : Bool) (chars : TableChars α)
    (hv : chars.vert.length = 1)
    (hfit : ∀ k, k < cws.length → cellFits cx row cws isHeader border k) :
    ((tableRow cx row cws isHeader border chars).length : Int) = tableLineLen cws border := by
  rw [tableRow_eq_segs, segLine_length _ _ _ _ (fun i => cws.getD i 0)
    (fun k hk => (cellSeg_length_iff cx htriv row cws isHeader border k).2 (hfit k hk)),
    rowSep_length, hv, tableLineLen_eq_colOffset]
  rfl

/-- `tableRow_length` with hypotheses on the cells: body rows and borderless header rows only need the STRIPPED
cell (leading whitespace removed, as `AlignLineLeft` does) to fit the column; the centred header
cells of a bordered table are required to fit unstripped. -/
theorem tableRow_length_strip (htriv : ∀ s, cx.ends s = List.range' 1 s.length)
    (row : List (List α)) (cws : List Int) (isHeader border : Bool) (chars : TableChars α)
    (hv : chars.vert.length = 1)
    (hbody : isHeader = false → ∀ col, col < cws.length →
      ((Spec.stripLeft ⟨cx.isSpace, cx.sp, cx.hy⟩ (row.getD col [])).length : Int) +
        (if border = true then 1 else 0) ≤ cws.getD col 0)
    (hhead : isHeader = true → border = false → ∀ col, col < cws.length →
      ((Spec.stripLeft ⟨cx.isSpace, cx.sp, cx.hy⟩ ((row.getD col []).map cx.upper)).length : Int)
        ≤ cws.getD col 0)
    (hheadB : isHeader = true → border = true → ∀ col, col < cws.length →
      ((row.getD col []).length : Int) ≤ cws.getD col 0) :
    ((tableRow cx row cws isHeader border chars).length : Int) = tableLineLen cws border := by
  apply tableRow_length cx htriv _ _ _ _ _ hv
  intro k hk
  cases isHeader
  · cases border <;> exact hbody rfl k hk
  · cases border
    · exact hhead rfl rfl k hk
    · have h1 := hheadB rfl rfl k hk
      have h2 := Spec.stripLeft_length_le ⟨cx.isSpace, cx.sp, cx.hy⟩ ((row.getD k []).map cx.upper)
      have h3 := Spec.stripRight_length_le ⟨cx.isSpace, cx.sp, cx.hy⟩
        (Spec.stripLeft ⟨cx.isSpace, cx.sp, cx.hy⟩ ((row.getD k []).map cx.upper))
      rw [List.length_map] at h2
      show ((Spec.stripRight ⟨cx.isSpace, cx.sp, cx.hy⟩ (Spec.stripLeft ⟨cx.isSpace, cx.sp, cx.hy⟩
        ((row.getD k []).map cx.upper))).length : Int) ≤ cws.getD k 0
      omega

/-! ## the lines of `buildTable` -/

/-- the lines row `i` contributes to the table: the row itself and, after a header row, the
separator (a horizontal bar if bordered and there are more rows; the break bar if borderless) -/
def tableRowLines (data : List (List (List α))) (cws : List Int) (width : Int)
    (header border : Bool) (chars : TableChars α) (i : Nat) : List (List α) :=
  [tableRow cx (data.getD i []) cws (i == 0 && header) border chars] ++
    (if (i == 0 && header) = true then
      (if border = true then (if data.length > 1 then [tableHorzBar cws chars] else [])
       else [gRepeat chars.horz width])
     else [])

theorem buildTable_eq (data : List (List (List α))) (cws : List Int) (width : Int)
    (header border : Bool) (chars : TableChars α) :
    buildTable cx data cws width header border chars =
      (if border = true then [tableHorzBar cws chars] else []) ++
      ((List.range data.length).map (tableRowLines cx data cws width header border chars)).flatten ++
      (if border = true then [tableHorzBar cws chars] else []) := by
  unfold buildTable
  simp only
  rw [foldl_step_eq _ (tableRowLines cx data cws width header border chars)]
  · cases border <;> simp [tableHorzBar]
  · intro acc i
    unfold tableRowLines tableHorzBar
    cases hih : (i == 0 && header)
    · simp only [Bool.false_eq_true, if_false, List.append_nil]
    · -- a header row: `header` holds, so the break bar of a borderless table is not empty
      obtain rfl : header = true := (Bool.and_eq_true_iff.1 hih).2
      cases border
      · simp
      · by_cases hd : data.length > 1 <;> simp [hd]

/-- only row 0 can be a header row -/
theorem tableRowLines_succ (data : List (List (List α))) (cws : List Int) (width : Int)
    (header border : Bool) (chars : TableChars α) (j : Nat) :
    tableRowLines cx data cws width header border chars (j + 1) =
      [tableRow cx (data.getD (j + 1) []) cws false border chars] := by
  simp [tableRowLines]

/-- the rows before row `i` take `i` lines, and one more for the rule under a header row (which a
bordered table has only if there is a second row) -/
theorem length_tableRowLines_prefix (data : List (List (List α))) (cws : List Int) (width : Int)
    (header border : Bool) (chars : TableChars α) : ∀ (i : Nat),
    (((List.range i).map (tableRowLines cx data cws width header border chars)).flatten).length =
      i + (if header = true ∧ 0 < i then
        (if border = true then (if data.length > 1 then 1 else 0) else 1) else 0)
  | 0 => by simp
  | n + 1 => by
    rw [List.range_succ, List.map_append, List.flatten_append, List.length_append,
      length_tableRowLines_prefix data cws width header border chars n]
    cases n with
    | zero =>
      unfold tableRowLines
      cases header
      · simp
      · cases border
        · simp
        · by_cases hd : data.length > 1 <;> simp [hd]
    | succ m =>
      simp [tableRowLines_succ]
      omega

theorem buildTable_length (data : List (List (List α))) (cws : List Int) (width : Int)
    (header border : Bool) (chars : TableChars α) :
    (buildTable cx data cws width header border chars).length =
      data.length + (if border = true then 2 else 0) +
        (if header = true ∧ 0 < data.length then
          (if border = true then (if data.length > 1 then 1 else 0) else 1) else 0) := by
  rw [buildTable_eq, List.length_append, List.length_append, length_tableRowLines_prefix]
  cases border <;> simp only [Bool.false_eq_true, if_false, if_true, List.length_nil,
    List.length_cons] <;> omega

theorem mem_buildTable (data : List (List (List α))) (cws : List Int) (width : Int)
    (header border : Bool) (chars : TableChars α) (line : List α)
    (h : line ∈ buildTable cx data cws width header border chars) :
    (border = true ∧ line = tableHorzBar cws chars) ∨
    (header = true ∧ border = false ∧ line = gRepeat chars.horz width) ∨
    ∃ i, i < data.length ∧
      line = tableRow cx (data.getD i []) cws (i == 0 && header) border chars := by
  rw [buildTable_eq] at h
  have hb : line ∈ (if border = true then [tableHorzBar cws chars] else []) →
      border = true ∧ line = tableHorzBar cws chars := by
    intro h
    split at h
    · exact ⟨‹_›, List.mem_singleton.1 h⟩
    · simp at h
  rcases List.mem_append.1 h with h | h
  · rcases List.mem_append.1 h with h | h
    · exact .inl (hb h)
    · obtain ⟨ls, hls, hl⟩ := List.mem_flatten.1 h
      obtain ⟨i, hi, rfl⟩ := List.mem_map.1 hls
      have hi := List.mem_range.1 hi
      unfold tableRowLines at hl
      rcases List.mem_append.1 hl with hl | hl
      · exact .inr (.inr ⟨i, hi, List.mem_singleton.1 hl⟩)
      · split at hl
        · rename_i hih
          have hhd : header = true := (Bool.and_eq_true_iff.1 hih).2
          split at hl
          · split at hl
            · exact .inl ⟨‹_›, List.mem_singleton.1 hl⟩
            · simp at hl
          · rename_i hnb
            exact .inr (.inl ⟨hhd, by simpa using hnb, List.mem_singleton.1 hl⟩)
        · simp at hl
  · exact .inl (hb h)

/-- all lines of `buildTable` have the same length -/
theorem buildTable_rect (htriv : ∀ s, cx.ends s = List.range' 1 s.length)
    (data : List (List (List α))) (cws : List Int) (width : Int)
    (header border : Bool) (chars : TableChars α)
    (hc : chars.corner.length = 1) (hv : chars.vert.length = 1) (hh : chars.horz.length = 1)
    (hpos : ∀ i, i < cws.length → 0 ≤ cws.getD i 0)
    (hfit : ∀ row ∈ data, ∀ (isHeader : Bool) (k : Nat), k < cws.length →
      cellFits cx row cws isHeader border k)
    (hw : header = true → border = false → width = tableLineLen cws false) :
    ∀ line ∈ buildTable cx data cws width header border chars,
      (line.length : Int) = tableLineLen cws border := by
  intro line hl
  rcases mem_buildTable cx data cws width header border chars line hl with
    ⟨hb, rfl⟩ | ⟨hhd, hb, rfl⟩ | ⟨i, hi, rfl⟩
  · rw [hb]
    exact tableHorzBar_length cws chars hc hh hpos
  · have h0 : 0 ≤ tableLineLen cws false :=
      Int.add_nonneg (Int.le_refl 0) (sumTo_nonneg _ fun i hi => Int.add_nonneg (hpos i hi) (Int.le_refl 0))
    rw [gRepeat_length_one _ hh _ (hw hhd hb ▸ h0), hb, hw hhd hb]
  · apply tableRow_length cx htriv _ _ _ _ _ hv
    exact hfit _ (getD_mem_of_lt data [] i hi) _

/-! ## `makeTable` -/

theorem makeTable_eq (htriv : ∀ s, cx.ends s = List.range' 1 s.length)
    (data : List (List (List α))) (width : Int) (header border : Bool) (charSet : List α)
    (hh : (parseTableCharSet cx charSet).horz.length = 1)
    (hd : data ≠ []) (hk : tableColCount data ≠ 0) :
    makeTable cx data width header border charSet =
      buildTable cx data (tableColWidths data width border) (max width (tableMinWidth data border))
        header border (parseTableCharSet cx charSet) := by
  rw [makeTable_eq_core]
  unfold makeTableCore
  -- the `let`s of the model stay variables; each is identified with its closed form in turn
  extract_lets K chars horzLen contentW padded minW sp nts per rem cws
  rw [if_neg (by simpa using hd), if_neg (by simpa [K, tableColCount] using hk)]
  have hpad : padded = (List.range (tableColCount data)).map (padW data border) := by
    apply List.map_congr_left
    intro i hi
    rw [getD_map_range _ _ _ _ (List.mem_range.1 hi)]
    simp only [gLen_triv cx htriv]
    congr 1
    refine (foldl_max_eq (fun row : List (List α) => row.getD i []) Nat.cast _ (fun m b => ?_)
      data 0).trans ?_
    · show (if _ ≥ _ then _ else _) = _
      split <;> omega
    · rw [Nat.zero_max]
      rfl
  have hmin : minW = tableMinWidth data border := by
    show List.foldl _ _ padded = _
    rw [hpad, List.foldl_map, show horzLen = 1 from congrArg Nat.cast ((gLen_triv cx htriv _).trans hh)]
    simp only [Int.add_assoc]
    rw [foldl_range_add]
    rfl
  have hsp : sp = width - tableMinWidth data border := congrArg (width - ·) hmin
  have hnts : nts = numToSpace data border := by
    simp only [nts, numToSpace, Bool.not_eq_true']
    rfl
  by_cases hs : width - tableMinWidth data border > 0
  · rw [if_pos (hsp ▸ hs), Int.max_eq_left (by omega)]
    congr 1
    apply List.map_congr_left
    intro i hi
    have hi : i < tableColCount data := List.mem_range.1 hi
    simp only [per, rem, hsp, hnts, hpad, getD_map_range _ _ _ _ hi, colW, if_pos hs]
  · rw [if_neg (hsp ▸ hs), Int.max_eq_right (by omega), hmin, hpad]
    congr 1
    apply List.map_congr_left
    intro i hi
    unfold colW
    simp only [if_neg hs]

theorem makeTable_eq_buildTable (htriv : ∀ s, cx.ends s = List.range' 1 s.length)
    (data : List (List (List α))) (width : Int) (header border : Bool) (c v h : α)
    (hd : data ≠ []) (hk : tableColCount data ≠ 0) :
    makeTable cx data width header border [c, v, h] =
      buildTable cx data (tableColWidths data width border) (max width (tableMinWidth data border))
        header border ⟨[c], [v], [h]⟩ := by
  have hpc := parseTableCharSet_triv cx htriv c v h
  rw [makeTable_eq cx htriv data width header border [c, v, h] (by rw [hpc]; rfl) hd hk, hpc]

/-- `makeTable` sees the character set only through `parseTableCharSet` -/
theorem makeTable_charSet_congr (data : List (List (List α))) (width : Int) (header border : Bool)
    (cs cs' : List α) (h : parseTableCharSet cx cs = parseTableCharSet cx cs') :
    makeTable cx data width header border cs = makeTable cx data width header border cs' := by
  simp only [makeTable_eq_core]
  unfold makeTableCore
  rw [h]

/-- `makeTable`'s own widths satisfy the side condition of the segment lemmas: every cell of
every row of `data` fits its column, header or not -/
theorem makeTable_cellFits (data : List (List (List α))) (width : Int) (border : Bool)
    (hk : tableColCount data ≠ 0) (row : List (List α)) (hrow : row ∈ data) (isHeader : Bool)
    (k : Nat) (hkK : k < tableColCount data) :
    cellFits cx row (tableColWidths data width border) isHeader border k := by
  apply cellFits_of_le
  rw [tableColWidths_getD data width border k hkK]
  have := cell_le_colW data width border hk row hrow k
  cases border <;> simp only [Bool.false_eq_true, if_false, if_true] at this ⊢ <;> omega

theorem makeTable_nil (width : Int) (header border : Bool) (charSet : List α) :
    makeTable cx [] width header border charSet = [] := rfl

theorem makeTable_of_rows_empty (data : List (List (List α))) (width : Int) (header border : Bool)
    (charSet : List α) (h : ∀ r ∈ data, r = []) :
    makeTable cx data width header border charSet = [] := by
  have hk : tableColCount data = 0 := (tableColCount_eq_zero_iff data).2 h
  rw [makeTable_eq_core]
  unfold makeTableCore
  extract_lets K
  rw [if_pos (show (K == 0) = true by simpa [K, tableColCount] using hk), ite_self]

theorem makeTable_length (data : List (List (List α))) (width : Int) (header border : Bool)
    (charSet : List α) (hd : data ≠ []) (hk : tableColCount data ≠ 0) :
    (makeTable cx data width header border charSet).length =
      data.length + (if border = true then 2 else 0) +
        (if header = true then
          (if border = true then (if data.length > 1 then 1 else 0) else 1) else 0) := by
  have hpos : 0 < data.length := List.length_pos_iff.2 hd
  rw [makeTable_eq_core]
  unfold makeTableCore
  extract_lets K
  rw [if_neg (by simpa using hd), if_neg (by simpa [K, tableColCount] using hk),
    apply_ite List.length, buildTable_length, buildTable_length, ite_self]
  simp [hpos]

/-- C16, rectangularity: every line of the table has the same length,
`max width minTableWidth`. -/
theorem makeTable_rect (htriv : ∀ s, cx.ends s = List.range' 1 s.length)
    (data : List (List (List α))) (width : Int) (header border : Bool) (charSet : List α)
    (h3 : charSet.length = 3) :
    ∀ line ∈ makeTable cx data width header border charSet,
      (line.length : Int) = max width (tableMinWidth data border) := by
  by_cases hd : data = []
  · subst hd; intro line hl; simp [makeTable_nil] at hl
  by_cases hk : tableColCount data = 0
  · rw [makeTable_of_rows_empty cx data width header border charSet
      ((tableColCount_eq_zero_iff data).1 hk)]
    intro line hl; simp at hl
  obtain ⟨hc, hv, hh⟩ := parseTableCharSet_lengths cx htriv charSet h3
  rw [makeTable_eq cx htriv data width header border charSet hh hd hk,
    ← tableLineLen_colWidths data width border hk]
  apply buildTable_rect cx htriv data _ _ header border _ hc hv hh
  · intro i hi
    rw [tableColWidths_length] at hi
    rw [tableColWidths_getD _ _ _ _ hi]
    have := pad_le_colW data width border i hk
    split at this <;> omega
  · intro row hrow isHeader k hkK
    exact makeTable_cellFits cx data width border hk row hrow isHeader k (tableColWidths_length .. ▸ hkK)
  · intro _ hb
    rw [hb, tableLineLen_colWidths data width false hk]

/-- C16 for the operation: with a three-token default character set every line of the table
block that `InsertTableOpts` inserts has the same length -/
theorem insertTableOpts_lines_rect (htriv : ∀ s, cx.ends s = List.range' 1 s.length)
    (h3 : cx.dCharset.length = 3) (data : List (List (List α))) (width : Int) (o : Options α) :
    ∀ line ∈ makeTable cx data width (o.withDefaults cx).headers (o.withDefaults cx).borders
        (o.withDefaults cx).charset,
      (line.length : Int) = max width (tableMinWidth data o.borders) := by
  have hb : (o.withDefaults cx).borders = o.borders := (withDefaults_fields cx o).2.2.2.2.2.2.1
  rw [← hb]
  exact makeTable_rect cx htriv data width _ _ _ (withDefaults_charset_length_triv cx htriv h3 o)

end

/-! ## concrete checks (leading whitespace in cells, an `upper` that maps a letter to a space) -/
section examples

/-- a cluster-level context over `Nat`: `0` and `5` are whitespace, `upper 7 = 0` -/
def cxEx : Ctx Nat where
  ends := fun s => List.range' 1 s.length
  isSpace := fun c => c == 0 || c == 5
  blen := fun _ => 1
  upper := fun c => if c == 7 then 0 else c
  sp := 0
  hy := 99
  phA := 65
  nl := 10
  dIndent := [9]
  dLineSep := [10]
  dParaSep := [10, 10]
  dCharset := [43, 124, 45]

/-- the cell `"  12"` is laid out as `"12"`, but the column width was computed from the
unstripped length 4, and the padding compensates: all lines are 15 long -/
example : (makeTable cxEx [[[0, 0, 1, 2], [3]], [[4], [0, 6, 0, 0]]] 0 true true [43, 124, 45]).map
    List.length = [15, 15, 15, 15, 15] := by decide +kernel

example : makeTable cxEx [[[0, 0, 1, 2], [3]], [[4], [0, 6, 0, 0]]] 0 false false [43, 124, 45] =
    [[1, 2, 0, 0, 0, 0, 3, 0, 0, 0], [4, 0, 0, 0, 0, 0, 6, 0, 0, 0]] := by decide +kernel

/-- header cells whose upper-cased form starts with whitespace, ragged rows, an empty row, and a
requested width (17) below the minimum (21) -/
example : (makeTable cxEx [[[7, 7, 1, 2], [3]], [[4], [0, 6, 0, 0]], [], [[1], [2], [3, 3, 3]]] 17
    true true [43, 124, 45]).map List.length = [21, 21, 21, 21, 21, 21, 21] := by decide +kernel

example : (makeTable cxEx [[[7, 7, 1, 2], [3]], [[4], [0, 6, 0, 0]]] 30 true false
    [43, 124, 45]).map List.length = [30, 30, 30] := by decide +kernel

end examples
end RosedVerif
