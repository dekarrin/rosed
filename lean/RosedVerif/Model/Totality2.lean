/-
Totality of the remaining editor-level operations of the model: for a well-formed context
(`Ctx.Sane`) `applyOptsM`/`applyParasM` with total callbacks, `wrapOpts`, `justifyOpts`,
`alignOpts`, `indentOpts`, `insertDefTableOpts` and `Editor.string` return normally
(`∃ r, op … = .ok r`): no modelled Go panic is reachable.
-/
import RosedVerif.Model.Totality
import RosedVerif.Model.ParaLemmas
import RosedVerif.Model.LinesLemmas
namespace RosedVerif
set_option linter.unusedSectionVars false

/-- a `List.mapM` over a function that is total everywhere is total (`mapM_total` of
`Totality.lean` is the membership-relative form) -/
theorem mapM_total_of_forall {β γ : Type} (f : β → R γ) (hf : ∀ x, ∃ r, f x = .ok r)
    (l : List β) : ∃ r, l.mapM f = .ok r :=
  mapM_total f l (fun x _ => hf x)

theorem foldlM_total {β γ : Type} (f : γ → β → R γ) (hf : ∀ acc x, Total (f acc x)) :
    ∀ (l : List β) (init : γ), Total (l.foldlM f init)
  | [], init => ⟨init, rfl⟩
  | x :: l, init => by
    rw [List.foldlM_cons]
    exact bind_total (hf init x) (fun a _ => foldlM_total f hf l a)

section ops
variable {α : Type} [DecidableEq α] {cx : Ctx α}

theorem applyOptsM_total (ed : Editor α) (op : Nat → List α → R (List (List α))) (o : Options α)
    (hop : ∀ i l, ∃ r, op i l = .ok r) : ∃ r, ed.applyOptsM cx op o = .ok r := by
  unfold Editor.applyOptsM
  dsimp only
  exact bind_total (mapM_total _ _ (fun i _ => hop _ _)) (fun _ _ => ⟨_, rfl⟩)

theorem applyOpts_total (ed : Editor α) (op : Nat → List α → List (List α)) (o : Options α) :
    ∃ r, ed.applyOpts cx op o = .ok r :=
  applyOptsM_total ed _ o (fun _ _ => ⟨_, rfl⟩)

theorem applyParasM_total (ed : Editor α)
    (op : Nat → List α → List α → List α → R (List (List α))) (o : Options α)
    (hop : ∀ i p a b, ∃ r, op i p a b = .ok r) : ∃ r, ed.applyParasM cx op o = .ok r := by
  rw [applyParasM_eq_mapM]
  exact bind_total (mapM_total _ _ (fun c _ => hop _ _ _ _)) (fun _ _ => ⟨_, rfl⟩)

theorem wrapOpts_total (hs : cx.Sane) (ed : Editor α) (w : Int) (o : Options α) :
    ∃ r, ed.wrapOpts cx w o = .ok r := by
  unfold Editor.wrapOpts
  dsimp only
  refine ite_total (fun _ => ?_) (fun _ => ?_)
  · refine applyParasM_total ed _ _ (fun i p a b => ?_)
    exact bind_total (wrapLines_total hs _ _ _) (fun _ _ => ⟨_, rfl⟩)
  · exact bind_total (wrapLines_total hs _ _ _) (fun _ _ => ⟨_, rfl⟩)

/-! ## Block helpers

The paragraph callbacks read and write lines of a block by index; the indexes stay in range
because every step keeps the number of lines. -/

theorem Block.line_total (b : Block α) (pos : Int) (h0 : 0 ≤ pos) (h1 : pos < b.lines.length) :
    Total (b.line pos) := by
  unfold Block.line
  rw [if_neg (by omega)]
  exact ⟨_, rfl⟩

theorem Block.set_total (b : Block α) (pos : Int) (c : List α) (h0 : 0 ≤ pos)
    (h1 : pos < b.lines.length) : Total (b.set pos c) := by
  unfold Block.set
  rw [if_neg (by omega)]
  exact ⟨_, rfl⟩

theorem Block.set_ok {b r : Block α} {pos : Int} {c : List α} (h : b.set pos c = .ok r) :
    r.lines.length = b.lines.length := by
  unfold Block.set at h
  split at h
  · cases h
  · cases h
    exact List.length_set

theorem Block.mapLinesM_total (b : Block α) (f : Nat → List α → R (List α))
    (hf : ∀ i l, Total (f i l)) : Total (b.mapLinesM f) :=
  bind_total (mapM_total _ _ (fun _ _ => hf _ _)) (fun _ _ => ⟨_, rfl⟩)

theorem Block.mapLinesM_ok {b r : Block α} {f : Nat → List α → R (List α)}
    (h : b.mapLinesM f = .ok r) : r.lines.length = b.lines.length := by
  obtain ⟨ls, hls, h⟩ := bind_ok.1 h
  cases h
  exact (mapM_ok_length _ _ _ hls).trans List.length_range

/-- read line `idx`, write back a function of it, continue: total when `idx` is in range and the
continuation is total on blocks with the same number of lines -/
theorem Block.modLine_total {β : Type} (bl : Block α) (idx : Int) (h0 : 0 ≤ idx)
    (h1 : idx < bl.lines.length) (g : List α → List α) (k : Block α → R β)
    (hk : ∀ b : Block α, b.lines.length = bl.lines.length → Total (k b)) :
    Total (do let l ← bl.line idx; let b ← bl.set idx (g l); k b) :=
  bind_total (Block.line_total bl idx h0 h1) fun l _ =>
    bind_total (Block.set_total bl idx (g l) h0 h1) fun b hb => hk b (Block.set_ok hb)

/-- the same step under a condition, as `do`-notation lays it out: the continuation is repeated
in both branches -/
theorem Block.modLineIf_total {β : Type} (c : Prop) [Decidable c] (bl : Block α) (idx : Int)
    (h0 : 0 ≤ idx) (h1 : idx < bl.lines.length) (g : List α → List α) (k : Block α → R β)
    (hk : ∀ b : Block α, b.lines.length = bl.lines.length → Total (k b)) :
    Total (if c then (do let l ← bl.line idx; let b ← bl.set idx (g l); k b)
      else (do let b ← pure bl; k b)) := by
  split
  · exact Block.modLine_total bl idx h0 h1 g k hk
  · exact hk bl rfl

theorem Block.lines_length_pos (b : Block α) (h : ¬ b.lines.isEmpty = true) :
    0 < b.lines.length := by
  cases hl : b.lines with
  | nil => rw [hl] at h; exact absurd rfl h
  | cons _ _ => simp only [List.length_cons]; omega

theorem justifyOpts_total (hs : cx.Sane) (ed : Editor α) (w : Int) (o : Options α) :
    ∃ r, ed.justifyOpts cx w o = .ok r := by
  unfold Editor.justifyOpts
  dsimp only
  refine ite_total (fun _ => ?_) (fun _ => ?_)
  · refine applyParasM_total ed _ _ (fun i p a b => ?_)
    refine bind_total (Block.mapLinesM_total _ _ (fun idx line => ?_)) (fun _ _ => ⟨_, rfl⟩)
    exact ite_total (fun _ => ⟨_, rfl⟩) (fun _ => justifyLine_total hs _ _)
  · have hcb : ∀ (i : Nat) (l : List α),
        ∃ r, (do pure [← justifyLine cx l w] : R (List (List α))) = .ok r :=
      fun i l => bind_total (justifyLine_total hs l w) (fun _ _ => ⟨_, rfl⟩)
    cases hjl : (o.withDefaults cx).justifyLast
    · simp only [Bool.not_false, if_true]
      obtain ⟨r1, h1, hcut⟩ := linesSel_total' hs (ed.withOpts (o.withDefaults cx)) 0 (-1)
      unfold Editor.linesTo
      rw [h1, ok_bind]
      obtain ⟨r2, h2⟩ := applyOptsM_total (cx := cx) r1
        (fun _ line => do pure [← justifyLine cx line w]) (o.withDefaults cx) hcb
      rw [h2, ok_bind]
      obtain ⟨t, rfl⟩ := applyOptsM_shape cx _ _ _ _ h2
      obtain ⟨r3, h3⟩ := (linesSel_commit_total hs _ _ _ _ h1 t).2
      rw [h3, ok_bind]
      exact ⟨_, rfl⟩
    · simp only [Bool.not_true, Bool.false_eq_true, if_false]
      rw [pure_bind]
      refine bind_total (applyOptsM_total ed _ _ hcb) (fun _ _ => ⟨_, rfl⟩)

/-- the paragraph callbacks of `AlignOpts` never index their block out of range -/
theorem alignParaLeft_total (width : Int) (lineSep para pre suf : List α) :
    ∃ r, alignParaLeft cx width lineSep para pre suf = .ok r := by
  unfold alignParaLeft
  dsimp only
  generalize Block.new (para ++ gRepeat [cx.sp] (gLen cx suf)) lineSep = bl0
  by_cases hne : bl0.lines.isEmpty = true
  · rw [if_pos hne]
    exact ⟨_, rfl⟩
  · rw [if_neg hne]
    have hpos := Block.lines_length_pos bl0 hne
    refine Block.modLine_total bl0 0 (by omega) (by omega) _ _ (fun b1 h1 => ?_)
    refine bind_total (Block.mapLinesM_total b1 _ (fun _ _ => ⟨_, rfl⟩)) (fun b2 h2 => ?_)
    have h2 := (Block.mapLinesM_ok h2).trans h1
    refine Block.modLineIf_total _ b2 0 (by omega) (by omega) _ _ (fun b3 h3 => ?_)
    exact Block.modLineIf_total _ b3 _ (by omega) (by omega) _ _ (fun _ _ => ⟨_, rfl⟩)

theorem alignParaRight_total (width : Int) (lineSep para pre suf : List α) :
    ∃ r, alignParaRight cx width lineSep para pre suf = .ok r := by
  unfold alignParaRight
  dsimp only
  generalize Block.new (gRepeat [cx.sp] (gLen cx pre) ++ para) lineSep = bl0
  by_cases hne : bl0.lines.isEmpty = true
  · rw [if_pos hne]
    exact ⟨_, rfl⟩
  · rw [if_neg hne]
    have hpos := Block.lines_length_pos bl0 hne
    refine Block.modLine_total bl0 _ (by omega) (by omega) _ _ (fun b1 h1 => ?_)
    refine bind_total (Block.mapLinesM_total b1 _ (fun _ _ => ⟨_, rfl⟩)) (fun b2 h2 => ?_)
    have h2 := (Block.mapLinesM_ok h2).trans h1
    refine Block.modLineIf_total _ b2 0 (by omega) (by omega) _ _ (fun b3 h3 => ?_)
    exact Block.modLineIf_total _ b3 _ (by omega) (by omega) _ _ (fun _ _ => ⟨_, rfl⟩)

theorem alignParaCenter_total (width : Int) (lineSep para pre suf : List α) :
    ∃ r, alignParaCenter cx width lineSep para pre suf = .ok r := by
  unfold alignParaCenter
  dsimp only
  generalize Block.new para lineSep = bl0
  by_cases hne : bl0.lines.isEmpty = true
  · rw [if_pos hne]
    exact ⟨_, rfl⟩
  · rw [if_neg hne]
    have hpos := Block.lines_length_pos bl0 hne
    refine bind_total (Block.mapLinesM_total bl0 _ (fun _ _ => ⟨_, rfl⟩)) (fun b2 h2 => ?_)
    have h2 := Block.mapLinesM_ok h2
    refine Block.modLineIf_total _ b2 0 (by omega) (by omega) _ _ (fun b3 h3 => ?_)
    exact Block.modLineIf_total _ b3 _ (by omega) (by omega) _ _ (fun _ _ => ⟨_, rfl⟩)

theorem alignOpts_total (ed : Editor α) (al w : Int) (o : Options α) :
    ∃ r, ed.alignOpts cx al w o = .ok r := by
  unfold Editor.alignOpts
  dsimp only
  refine ite_total (fun _ => ⟨_, rfl⟩) (fun _ => ite_total (fun _ => ?_) (fun _ => ?_))
  · refine applyParasM_total ed _ _ (fun i p a b => ?_)
    refine ite_total (fun _ => ?_) (fun _ => ite_total (fun _ => ?_) (fun _ => ?_))
    · exact bind_total (alignParaLeft_total _ _ _ _ _) (fun _ _ => ⟨_, rfl⟩)
    · exact bind_total (alignParaRight_total _ _ _ _ _) (fun _ _ => ⟨_, rfl⟩)
    · exact bind_total (alignParaCenter_total _ _ _ _ _) (fun _ _ => ⟨_, rfl⟩)
  · exact applyOpts_total ed _ _

/-- every link of the parent chain is a sub-editor cut at atom positions of its parent -/
inductive Editor.WellCut (cx : Ctx α) : Editor α → Prop
  | root (t : List α) (o : Options α) : Editor.WellCut cx (.root t o)
  | sub (t : List α) (o : Options α) (p : Editor α) (i j : Nat) : Editor.WellCut cx p →
      Editor.WellCut cx (.sub t o p (byteOff cx p.text i : Nat) (byteOff cx p.text j : Nat))

theorem Editor.WellCut.withText {ed : Editor α} (h : ed.WellCut cx) (t : List α) :
    (ed.withText t).WellCut cx := by
  cases h with
  | root _ o => exact .root t o
  | sub _ o p i j hp => exact .sub t o p i j hp

theorem Editor.WellCut.withOpts {ed : Editor α} (h : ed.WellCut cx) (o : Options α) :
    (ed.withOpts o).WellCut cx := by
  cases h with
  | root t _ => exact .root t o
  | sub t _ p i j hp => exact .sub t o p i j hp

theorem Editor.WellCut.of_cut {ed r : Editor α} (h : ed.WellCut cx) (hc : ed.CutAtAtoms cx r) :
    r.WellCut cx := by
  obtain ⟨t, i, j, rfl⟩ := hc
  exact .sub t _ ed i j h

theorem Editor.depth_withText (ed : Editor α) (t : List α) : (ed.withText t).depth = ed.depth := by
  cases ed <;> rfl

/-- committing a well-cut editor is total, the result is well-cut and one level shallower -/
theorem commit_total_wellCut (hs : cx.Sane) {ed : Editor α} (h : ed.WellCut cx) :
    ∃ r, ed.commit cx = .ok r ∧ r.WellCut cx ∧ r.depth = ed.depth - 1 := by
  cases h with
  | root t o => exact ⟨_, rfl, .root t o, rfl⟩
  | sub t o p i j hp =>
    obtain ⟨s, hs'⟩ := spliceBytes_byteOff hs p.text i j t
    refine ⟨p.withText s, ?_, hp.withText s, ?_⟩
    · simp only [Editor.commit, hs']
      rfl
    · simp only [Editor.depth_withText, Editor.depth, Nat.add_sub_cancel]

theorem commitAllFuel_total (hs : cx.Sane) : ∀ (n : Nat) (ed : Editor α), ed.WellCut cx →
    ed.depth ≤ n → ∃ r, commitAllFuel cx n ed = .ok r ∧ r.isSub = false
  | 0, ed, h, hd => by
    cases h with
    | root t o => exact ⟨_, rfl, rfl⟩
    | sub t o p i j hp => simp only [Editor.depth] at hd; omega
  | n + 1, ed, h, hd => by
    cases hsub : ed.isSub with
    | false =>
      refine ⟨ed, ?_, hsub⟩
      simp only [commitAllFuel, hsub, Bool.false_eq_true, if_false]
      rfl
    | true =>
      obtain ⟨r, hr, hw, hdep⟩ := commit_total_wellCut hs h
      obtain ⟨r', hr', hroot⟩ := commitAllFuel_total hs n r hw (by omega)
      refine ⟨r', ?_, hroot⟩
      simp only [commitAllFuel, hsub, if_true, hr]
      exact hr'

/-- `CommitAll` is total on well-cut editors (the fuel `depth` suffices) -/
theorem commitAll_total (hs : cx.Sane) {ed : Editor α} (h : ed.WellCut cx) :
    ∃ r, ed.commitAll cx = .ok r :=
  let ⟨r, hr, _⟩ := commitAllFuel_total hs ed.depth ed h (Nat.le_refl _); ⟨r, hr⟩

theorem string_total (hs : cx.Sane) {ed : Editor α} (h : ed.WellCut cx) :
    ∃ s, ed.string cx = .ok s := by
  unfold Editor.string
  exact bind_total (commitAll_total hs h) (fun _ _ => ⟨_, rfl⟩)

theorem string_root_ok (t : List α) (o : Options α) : (Editor.root t o).string cx = .ok t := rfl

/-- `String` of a sub-editor cut (at atom positions) from a root editor is total, whatever
its text and options have become in the meantime -/
theorem string_total_of_cut_root (hs : cx.Sane) (t : List α) (o : Options α) (r : Editor α)
    (h : (Editor.root t o).CutAtAtoms cx r) (t' : List α) (o' : Options α) :
    (∃ s, r.string cx = .ok s) ∧ ∃ s, ((r.withText t').withOpts o').string cx = .ok s :=
  have hw : r.WellCut cx := (Editor.WellCut.root t o).of_cut h
  ⟨string_total hs hw, string_total hs ((hw.withText t').withOpts o')⟩

theorem chars_wellCut (hs : cx.Sane) {ed r : Editor α} (h : ed.WellCut cx) (st en : Int)
    (hr : ed.chars cx st en = .ok r) : r.WellCut cx := by
  obtain ⟨r0, h0, hc⟩ := chars_total' hs ed st en
  rw [hr] at h0
  cases h0
  exact h.of_cut hc

theorem linesSel_wellCut (hs : cx.Sane) {ed r : Editor α} (h : ed.WellCut cx) (st en : Int)
    (hr : ed.linesSel cx st en = .ok r) : r.WellCut cx := by
  obtain ⟨r0, h0, hc⟩ := linesSel_total' hs ed st en
  rw [hr] at h0
  cases h0
  exact h.of_cut hc

theorem Editor.SameBut.wellCut {ed r : Editor α} (h : ed.SameBut r) (hw : ed.WellCut cx) :
    r.WellCut cx := by
  obtain ⟨t, rfl⟩ := h
  exact hw.withText t

theorem indentOpts_total (ed : Editor α) (lv : Int) (o : Options α) :
    ∃ r, ed.indentOpts cx lv o = .ok r := by
  unfold Editor.indentOpts
  split
  · exact ⟨_, rfl⟩
  · dsimp only
    refine bind_total (repeatStr_total _ _ (by omega)) (fun indent _ => ?_)
    split
    · refine applyParasM_total ed _ _ (fun i p a b => ?_)
      obtain ⟨e, he⟩ := applyOpts_total (cx := cx) (Editor.root p o)
        (fun (_ : Nat) (line : List α) => [indent ++ line]) o
      obtain ⟨t, rfl⟩ := applyOpts_shape cx _ _ _ _ he
      rw [he, ok_bind]
      exact ⟨_, rfl⟩
    · exact applyOpts_total ed _ _

theorem insertDefTableOpts_total (hs : cx.Sane) (ed : Editor α) (pos : Int)
    (defs : List (List α × List α)) (w : Int) (o : Options α) :
    ∃ r, ed.insertDefTableOpts cx pos defs w o = .ok r := by
  simp only [Editor.insertDefTableOpts_eq_core]
  unfold Editor.insertDefTableOptsCore
  dsimp only
  refine bind_total (foldlM_total _ (fun full item => ?_) defs []) (fun full _ => ?_)
  · refine ite_bind_total (fun _ => repeatStr_total _ _ (by omega)) (fun _ => ⟨_, rfl⟩)
      (fun pad => ?_)
    refine bind_total (wrapLines_total hs _ _ _) (fun rc _ => ?_)
    refine bind_total (combineColumns_total cx _ _ 2 (by omega)) (fun comb _ => ?_)
    split <;> exact ⟨_, rfl⟩
  · exact ite_total (fun _ => insert_total hs _ _ _) (fun _ => ⟨_, rfl⟩)

end ops

/-! ## non-vacuity: the paragraph-mode callbacks on a concrete sane context (`cxBad_sane`) -/

example : ((Editor.root [1, 2, 0, 3, 10, 4, 5, 10, 10, 6, 0, 0, 7, 10] {}).alignOpts cxBad
      Gen.alignRight 8 { preservePara := true }).toOption.map Editor.text =
    some [0, 0, 0, 0, 1, 2, 0, 3, 10, 0, 0, 0, 0, 0, 0, 0, 4, 5, 10, 10,
      0, 0, 0, 0, 6, 0, 0, 7, 10] := by rfl

example : ((Editor.root [1, 2, 0, 3, 10, 4, 5, 10, 10, 6, 0, 0, 7, 10] {}).alignOpts cxBad
      Gen.alignCenter 8 { preservePara := true }).toOption.map Editor.text =
    some [0, 0, 1, 2, 0, 3, 0, 0, 10, 0, 0, 0, 0, 4, 5, 0, 0, 0, 10, 10,
      0, 0, 6, 0, 0, 7, 0, 0, 10] := by rfl

/-- a sub-editor of a sub-editor, edited, then `String`: both commits go through -/
example : (do
      let r ← (Editor.root [1, 2, 0, 3, 10, 4, 5, 10, 10, 6, 0, 0, 7, 10] {}).linesSel cxBad 1 2
      let r2 ← r.chars cxBad 0 1
      (r2.withText [42, 42]).string cxBad) =
    .ok [1, 2, 0, 3, 10, 42, 42, 10, 6, 0, 0, 7, 10] := by rfl

end RosedVerif
