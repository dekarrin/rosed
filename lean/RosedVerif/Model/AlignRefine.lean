/-
Refinement for Align and JustifyLine: under trivial segmentation (every atom is its own
cluster) the model (transliterated Go, via IndexFunc / LastIndexFunc / Sub on clusters) equals
the token-level specification.
-/
import RosedVerif.Model.Manip
import RosedVerif.Model.OptionsLemmas
import RosedVerif.Model.WrapRefine
import RosedVerif.Model.JustifyLemmas
import RosedVerif.Model.StringsLemmas
import RosedVerif.Spec.AlignLemmas
namespace RosedVerif
open WrapRefine

section
variable {α : Type}

theorem findIdx?_not_eq_takeWhile (p : α → Bool) (s : List α) :
    s.findIdx? (fun c => !p c) =
      if (s.takeWhile p).length = s.length then none else some (s.takeWhile p).length := by
  have := List.findIdx_le_length (p := fun c => !p c) (xs := s)
  rw [List.findIdx?_eq_guard_findIdx_lt, List.takeWhile_eq_take_findIdx_not, List.length_take,
    Nat.min_eq_left this, Option.guard]
  simp only [decide_eq_true_eq]
  split <;> split <;> first | rfl | omega

theorem drop_length_takeWhile (p : α → Bool) (s : List α) :
    s.drop (s.takeWhile p).length = s.dropWhile p := by
  have := List.drop_left (l₁ := s.takeWhile p) (l₂ := s.dropWhile p)
  rwa [List.takeWhile_append_dropWhile] at this

/-- a prefix containing an element that fails `p` stops `takeWhile` -/
theorem takeWhile_append_of_exists (p : α → Bool) (x y : List α) (h : ∃ c ∈ x, p c = false) :
    (x ++ y).takeWhile p = x.takeWhile p := by
  rw [List.takeWhile_append, if_neg]
  intro hl
  obtain ⟨c, hc, hpc⟩ := h
  rw [← (List.takeWhile_prefix p).eq_of_length hl] at hc
  have := List.all_eq_true.1 List.all_takeWhile c hc
  rw [hpc] at this
  cases this

theorem replicate_singleton_flatten (c : α) (k : Nat) :
    (List.replicate k [c]).flatten = List.replicate k c :=
  List.flatten_replicate_singleton

theorem gRepeat_single (c : α) (n : Int) : gRepeat [c] n = List.replicate n.toNat c :=
  replicate_singleton_flatten c n.toNat

theorem natCast_beq_neg_one (k : Nat) : ((k : Int) == -1) = false := by
  rw [beq_eq_false_iff_ne]; omega

end

section
variable {α : Type} (cx : Ctx α)

theorem findIdx?_notSpaceHead_singletons (s : List α) :
    (s.map fun c => [c]).findIdx? (notSpaceHead cx) = s.findIdx? (fun c => !cx.isSpace c) :=
  List.findIdx?_map

/-- IndexFunc(not-space) on singleton clusters -/
theorem gIndexFunc_notSpace_triv (htriv : ∀ s, cx.ends s = List.range' 1 s.length) (s : List α) :
    gIndexFunc cx (notSpaceHead cx) s =
      if (s.takeWhile cx.isSpace).length = s.length then -1
      else ((s.takeWhile cx.isSpace).length : Int) := by
  unfold gIndexFunc findIdxInt
  rw [clusters_triv cx htriv, findIdx?_notSpaceHead_singletons, findIdx?_not_eq_takeWhile]
  by_cases h : (s.takeWhile cx.isSpace).length = s.length <;> simp only [h, ↓reduceIte]

/-- LastIndexFunc(not-space) on singleton clusters -/
theorem gLastIndexFunc_notSpace_triv (htriv : ∀ s, cx.ends s = List.range' 1 s.length)
    (s : List α) :
    gLastIndexFunc cx (notSpaceHead cx) s =
      if (s.reverse.takeWhile cx.isSpace).length = s.length then -1
      else (s.length : Int) - 1 - ((s.reverse.takeWhile cx.isSpace).length : Int) := by
  unfold gLastIndexFunc findIdxInt
  simp only [clusters_triv cx htriv, ← List.map_reverse, findIdx?_notSpaceHead_singletons,
    findIdx?_not_eq_takeWhile, List.length_reverse, List.length_map]
  by_cases h : (s.reverse.takeWhile cx.isSpace).length = s.length
  · simp only [h, ↓reduceIte, BEq.rfl]
  · simp only [h, ↓reduceIte, natCast_beq_neg_one, Bool.false_eq_true]

theorem countLeadingWs_triv (htriv : ∀ s, cx.ends s = List.range' 1 s.length) (s : List α) :
    countLeadingWs cx s = ((s.takeWhile cx.isSpace).length : Int) := by
  unfold countLeadingWs
  rw [gIndexFunc_notSpace_triv cx htriv, gLen_triv cx htriv]
  split
  · rename_i h
    simp only [BEq.rfl, ↓reduceIte, h]
  · simp only [natCast_beq_neg_one, Bool.false_eq_true, ↓reduceIte]

theorem countTrailingWs_triv (htriv : ∀ s, cx.ends s = List.range' 1 s.length) (s : List α) :
    countTrailingWs cx s = ((s.reverse.takeWhile cx.isSpace).length : Int) := by
  unfold countTrailingWs
  rw [gLastIndexFunc_notSpace_triv cx htriv, gLen_triv cx htriv]
  split
  · rename_i h
    omega
  · omega

end

section
variable {α : Type} (cx : Ctx α)

theorem rangeToIndexes_neg_end (n a e : Int) (ha : 0 ≤ a) (han : a ≤ n) (he : 0 < e)
    (hen : e ≤ n) :
    rangeToIndexes n a (-e) = (a, if n - e < a then a else n - e) := by
  unfold rangeToIndexes
  simp only [show ¬ a < 0 by omega, show -e < 0 by omega, show ¬ (-e + n < 0) by omega,
    show ¬ (-e + n > n) by omega, show ¬ a > n by omega, if_false, if_true]
  split <;> split <;> first | rfl | (congr 1; omega) | omega

/-- `text.Sub(a, -e)` with `0 ≤ a ≤ n`, `0 < e ≤ n` -/
theorem gSub_neg_end_triv (htriv : ∀ s, cx.ends s = List.range' 1 s.length) (s : List α)
    (a e : Nat) (han : a ≤ s.length) (he : 0 < e) (hen : e ≤ s.length) :
    gSub cx s (a : Int) (-(e : Int)) = (s.drop a).take (s.length - e - a) := by
  rw [gSub_triv_of_rti cx htriv s _ _ _ _
    (rangeToIndexes_neg_end s.length a e (by omega) (by omega) (by omega) (by omega))
    (by omega) (by omega) (by omega)]
  congr 1
  omega

/-! The text that `AlignLine*` keeps, for any counts `a`, `e` of leading and trailing atoms. -/

theorem gSub_lead_triv (htriv : ∀ s, cx.ends s = List.range' 1 s.length) (s : List α) (a : Nat)
    (ha : a ≤ s.length) :
    (if (a : Int) > 0 then gSub cx s a s.length else s) = s.drop a := by
  split
  · rw [gSub_triv cx htriv s _ _ ha (Nat.le_refl _), List.take_of_length_le (by simp)]
  · rw [show a = 0 by omega, List.drop_zero]

theorem gSub_trail_triv (htriv : ∀ s, cx.ends s = List.range' 1 s.length) (s : List α) (e : Nat)
    (he : e ≤ s.length) :
    (if (e : Int) > 0 then gSub cx s 0 (-(e : Int)) else s) = s.take (s.length - e) := by
  split
  · exact gSub_neg_end_triv cx htriv s 0 e (Nat.zero_le _) (by omega) he
  · rw [show e = 0 by omega, Nat.sub_zero, List.take_length]

theorem gSub_mid_triv (htriv : ∀ s, cx.ends s = List.range' 1 s.length) (s : List α) (a e : Nat)
    (ha : a ≤ s.length) (he : e ≤ s.length) :
    (if (e : Int) > 0 then gSub cx s a (-(e : Int)) else gSub cx s a s.length) =
      (s.drop a).take (s.length - e - a) := by
  split
  · exact gSub_neg_end_triv cx htriv s a e ha (by omega) he
  · rw [gSub_triv cx htriv s _ _ ha (Nat.le_refl _), show e = 0 by omega, Nat.sub_zero]

theorem stripRight_eq_take (tk : Spec.Toks α) (s : List α) :
    Spec.stripRight tk s = s.take (s.length - (s.reverse.takeWhile tk.ws).length) := by
  have h := Spec.stripRight_decomp tk s
  have hl := congrArg List.length h
  simp only [List.length_append, List.length_reverse] at hl
  symm
  calc s.take (s.length - (s.reverse.takeWhile tk.ws).length)
      = (Spec.stripRight tk s ++ (s.reverse.takeWhile tk.ws).reverse).take
          (s.length - (s.reverse.takeWhile tk.ws).length) := by rw [← h]
    _ = Spec.stripRight tk s := List.take_left' (by omega)

theorem toNat_clamp_pos (x : Int) : (if x > 0 then x else 0).toNat = x.toNat := by
  split <;> omega

theorem length_reverse_takeWhile_le (p : α → Bool) (s : List α) :
    (s.reverse.takeWhile p).length ≤ s.length :=
  s.length_reverse ▸ (List.takeWhile_prefix p).length_le

theorem alignLeft_triv (htriv : ∀ s, cx.ends s = List.range' 1 s.length) (s : List α) (w : Int) :
    alignLeft cx s w = Spec.alignLeft ⟨cx.isSpace, cx.sp, cx.hy⟩ w s := by
  simp only [alignLeft_eq_core]
  unfold alignLeftCore
  dsimp only
  rw [countLeadingWs_triv cx htriv, gLen_triv cx htriv s,
    gSub_lead_triv cx htriv s _ (List.takeWhile_prefix _).length_le, drop_length_takeWhile]
  simp only [gLen_triv cx htriv, gRepeat_single, toNat_clamp_pos]
  rfl

theorem alignRight_triv (htriv : ∀ s, cx.ends s = List.range' 1 s.length) (s : List α) (w : Int) :
    alignRight cx s w = Spec.alignRight ⟨cx.isSpace, cx.sp, cx.hy⟩ w s := by
  simp only [alignRight_eq_core]
  unfold alignRightCore
  dsimp only
  rw [countTrailingWs_triv cx htriv,
    gSub_trail_triv cx htriv s _ (length_reverse_takeWhile_le _ s),
    ← stripRight_eq_take ⟨cx.isSpace, cx.sp, cx.hy⟩]
  simp only [gLen_triv cx htriv, gRepeat_single, toNat_clamp_pos]
  rfl

/-- trailing whitespace of the left-stripped text: unchanged unless everything was whitespace -/
theorem trailing_dropWhile (p : α → Bool) (s : List α) (h : s.dropWhile p ≠ []) :
    (s.dropWhile p).reverse.takeWhile p = s.reverse.takeWhile p := by
  have hd : s = s.takeWhile p ++ s.dropWhile p := List.takeWhile_append_dropWhile.symm
  have hr : s.reverse = (s.dropWhile p).reverse ++ (s.takeWhile p).reverse := by
    rw [← List.reverse_append, ← hd]
  rw [hr, takeWhile_append_of_exists]
  cases hdw : s.dropWhile p with
  | nil => exact absurd hdw h
  | cons c t =>
    refine ⟨c, by simp, ?_⟩
    have := List.head?_dropWhile_not p s
    rw [hdw] at this
    simpa using this

theorem stripRight_stripLeft_eq (tk : Spec.Toks α) (s : List α) :
    Spec.stripRight tk (Spec.stripLeft tk s) =
      (s.drop (s.takeWhile tk.ws).length).take
        (s.length - (s.reverse.takeWhile tk.ws).length - (s.takeWhile tk.ws).length) := by
  show Spec.stripRight tk (s.dropWhile tk.ws) = _
  rw [stripRight_eq_take, drop_length_takeWhile]
  by_cases hd : s.dropWhile tk.ws = []
  · rw [hd, List.take_nil, List.take_nil]
  · rw [trailing_dropWhile tk.ws s hd, ← drop_length_takeWhile, List.length_drop]
    congr 1
    omega

theorem alignCenter_triv (htriv : ∀ s, cx.ends s = List.range' 1 s.length) (s : List α) (w : Int) :
    alignCenter cx s w = Spec.alignCenter ⟨cx.isSpace, cx.sp, cx.hy⟩ w s := by
  simp only [alignCenter_eq_core]
  unfold alignCenterCore
  dsimp only
  rw [countTrailingWs_triv cx htriv, countLeadingWs_triv cx htriv, gLen_triv cx htriv s,
    gSub_mid_triv cx htriv s _ _ (List.takeWhile_prefix _).length_le
      (length_reverse_takeWhile_le _ s),
    ← stripRight_stripLeft_eq ⟨cx.isSpace, cx.sp, cx.hy⟩]
  simp only [gLen_triv cx htriv, gRepeat_single]
  rfl

end

section
variable {α : Type} [DecidableEq α]

/-! ### `splitOn` with a one-atom separator -/

theorem splitOnAux_single_cons (a c : α) (t cur : List α) :
    splitOnAux [a] (c :: t) 0 cur =
      if a = c then cur.reverse :: splitOnAux [a] t 0 [] else splitOnAux [a] t 0 (c :: cur) := by
  rw [splitOnAux]
  by_cases h : a = c
  · subst h; simp
  · simp [h]

theorem splitOn_single (a : α) (s : List α) : splitOn s [a] = splitOnAux [a] s 0 [] := rfl

theorem splitOnAux_single_length (a : α) : ∀ (s cur : List α),
    (splitOnAux [a] s 0 cur).length = s.count a + 1
  | [], _ => rfl
  | c :: t, cur => by
    rw [splitOnAux_single_cons, List.count_cons]
    by_cases h : a = c
    · subst h
      simp only [↓reduceIte, List.length_cons, splitOnAux_single_length a t [], BEq.rfl]
    · have h' : (c == a) = false := by rw [beq_eq_false_iff_ne]; exact fun e => h e.symm
      simp only [if_neg h, splitOnAux_single_length a t (c :: cur), h', Bool.false_eq_true,
        ↓reduceIte, Nat.add_zero]

/-- the number of pieces is the number of separator atoms plus one -/
theorem splitOn_single_length (a : α) (s : List α) : (splitOn s [a]).length = s.count a + 1 :=
  splitOnAux_single_length a s []

theorem splitOnAux_single_not_mem (a : α) : ∀ (s cur : List α), a ∉ cur →
    ∀ w ∈ splitOnAux [a] s 0 cur, a ∉ w
  | [], cur, hcur, w, hw => by
    simp only [splitOnAux, List.mem_singleton] at hw
    subst hw; simpa using hcur
  | c :: t, cur, hcur, w, hw => by
    rw [splitOnAux_single_cons] at hw
    by_cases h : a = c
    · rw [if_pos h] at hw
      rcases List.mem_cons.1 hw with rfl | hw
      · simpa using hcur
      · exact splitOnAux_single_not_mem a t [] (by simp) w hw
    · rw [if_neg h] at hw
      exact splitOnAux_single_not_mem a t (c :: cur)
        (by simp only [List.mem_cons, not_or]; exact ⟨h, hcur⟩) w hw

/-- no piece contains the separator atom -/
theorem splitOn_single_not_mem (a : α) (s : List α) : ∀ w ∈ splitOn s [a], a ∉ w :=
  splitOnAux_single_not_mem a s [] (by simp)

theorem joinWith_splitOnAux_single_map (a b : α) : ∀ (s cur : List α),
    joinWith [b] (splitOnAux [a] s 0 cur) =
      cur.reverse ++ s.map (fun x => if x = a then b else x)
  | [], cur => by simp [splitOnAux]
  | c :: t, cur => by
    rw [splitOnAux_single_cons]
    by_cases h : a = c
    · subst h
      rw [if_pos rfl, joinWith_cons_of_ne_nil _ _ (splitOnAux_ne_nil _ _ _ _),
        joinWith_splitOnAux_single_map a b t []]
      simp
    · have h' : ¬ c = a := fun e => h e.symm
      rw [if_neg h, joinWith_splitOnAux_single_map a b t (c :: cur)]
      simp [h']

/-- `strings.ReplaceAll(s, a, b)` for one-atom `a`, `b` is a `map` -/
theorem replaceAll_single (a b : α) (s : List α) :
    replaceAll s [a] [b] = s.map (fun x => if x = a then b else x) := by
  unfold replaceAll
  rw [splitOn_single, joinWith_splitOnAux_single_map]
  rfl

omit [DecidableEq α] in
theorem length_joinWith_single (b : α) : ∀ (parts : List (List α)), parts ≠ [] →
    (joinWith [b] parts).length = (parts.map List.length).sum + (parts.length - 1)
  | [], h => absurd rfl h
  | [x], _ => by simp
  | x :: y :: t, _ => by
    rw [joinWith_cons_cons, List.length_append, List.length_append,
      length_joinWith_single b (y :: t) (by simp)]
    simp only [List.length_cons, List.length_nil, List.map_cons, List.sum_cons]
    omega

end

section
variable {α : Type} [DecidableEq α] (cx : Ctx α)

omit [DecidableEq α] in
/-- with no extra spaces `interleave` is `strings.Join(words, " ")` -/
theorem interleave_nil_eq_joinWith : ∀ (words : List (List α)),
    interleave cx words [] = joinWith [cx.sp] words
  | [] => rfl
  | [w] => by simp [interleave]
  | w :: w' :: ws => by
    rw [interleave, joinWith_cons_cons, interleave_nil_eq_joinWith (w' :: ws)]
    simp

omit [DecidableEq α] in
/-- replacing one whitespace atom by the space atom is invisible to `collapse` -/
theorem collapse_map_ws (tk : Spec.Toks α) (f : α → α) (hws : ∀ x, tk.ws (f x) = tk.ws x)
    (hid : ∀ x, tk.ws x = false → f x = x) (l : List α) :
    Spec.collapse tk (l.map f) = Spec.collapse tk l := by
  have h1 : ∀ x, (if tk.ws x = true then tk.sp else f x) = if tk.ws x = true then tk.sp else x :=
    fun x => ite_congr rfl (fun _ => rfl) (fun h => hid x (Bool.eq_false_iff.2 h))
  fun_induction Spec.collapse tk l with
  | case1 => rfl
  | case2 c => rw [List.map_cons, List.map_nil, Spec.collapse, hws, h1]
  | case3 c d t h ih =>
    rw [← ih, List.map_cons, List.map_cons, Spec.collapse, hws, hws, if_pos h]
  | case4 c d t h ih =>
    rw [← ih, List.map_cons, List.map_cons, Spec.collapse, hws, hws, if_neg h, h1]

/-- the newline pre-pass of JustifyLine does not change the collapsed text -/
theorem collapse_replaceAll'_nl (hsp : cx.isSpace cx.sp = true) (hnl : cx.isSpace cx.nl = true)
    (line : List α) :
    Spec.collapse ⟨cx.isSpace, cx.sp, cx.hy⟩ (replaceAll' cx line [cx.nl]) =
      Spec.collapse ⟨cx.isSpace, cx.sp, cx.hy⟩ line := by
  have : replaceAll' cx line [cx.nl] = line.map (fun x => if x = cx.nl then cx.sp else x) := by
    unfold replaceAll'
    simp only [List.isEmpty_cons, Bool.false_eq_true, ↓reduceIte, replaceAll_single]
  rw [this]
  apply collapse_map_ws
  · intro x
    show cx.isSpace (if x = cx.nl then cx.sp else x) = cx.isSpace x
    split
    · rename_i h; rw [h, hsp, hnl]
    · rfl
  · intro x hx
    show (if x = cx.nl then cx.sp else x) = x
    split
    · rename_i h
      rw [h] at hx
      exact absurd hnl (by rw [show cx.isSpace cx.nl = false from hx]; simp)
    · rfl

/-- the C12 postcondition, relative to the collapsed text `c` -/
def JustifyPost (cx : Ctx α) (c : List α) (w : Int) (r : List α) : Prop :=
  (((c.length : Int) ≥ w ∨ cx.sp ∉ c) → r = c) ∧
  (¬ ((c.length : Int) ≥ w ∨ cx.sp ∉ c) →
    (r.length : Int) = w ∧
    r.filter (· != cx.sp) = c.filter (· != cx.sp) ∧
    ∃ extra : List Nat, r = interleave cx (splitOn c [cx.sp]) extra ∧
      extra.length = (splitOn c [cx.sp]).length - 1 ∧
      extra.length = c.count cx.sp ∧
      extra.sum = (w - (c.length : Int)).toNat ∧
      ∀ x ∈ extra, ∀ y ∈ extra, x ≤ y + 1)

/-- JustifyLine on an already collapsed text `c`: the part after `CollapseSpace` -/
def justifyCore (cx : Ctx α) (c : List α) (w : Int) : R (List α) :=
  if (gLen cx c : Int) ≥ w then (pure c : R (List α))
  else
    let words := splitOn c [cx.sp]
    let numGaps : Int := (words.length : Int) - 1
    if numGaps < 1 then pure c
    else
      let spacesToAdd : Int := w - gLen cx c
      let odd : Int := if numGaps % 2 == 0 then 0 else 1
      do
        let extra ← distribute numGaps odd spacesToAdd.toNat 0 false
          (List.replicate numGaps.toNat 0)
        pure (interleave cx words extra)

theorem justifyLine_eq_core (text : List α) (w : Int) :
    justifyLine cx text w =
      (collapseSpace cx (replaceAll text [cx.nl] [cx.sp]) []).bind fun c => justifyCore cx c w :=
  rfl

theorem justifyCore_triv (htriv : ∀ s, cx.ends s = List.range' 1 s.length) (c : List α) (w : Int) :
    ∃ r, justifyCore cx c w = .ok r ∧ JustifyPost cx c w r := by
  unfold justifyCore
  rw [gLen_triv cx htriv]
  have hlen := splitOn_single_length cx.sp c
  by_cases h1 : (c.length : Int) ≥ w
  · exact ⟨c, by rw [if_pos h1]; rfl, fun _ => rfl, fun h => absurd (Or.inl h1) h⟩
  · rw [if_neg h1]
    by_cases h2 : cx.sp ∈ c
    · -- the words are the pieces between the spaces: joined by one space they give `c` back
      have hcnt : 0 < c.count cx.sp := List.count_pos_iff.2 h2
      have hwords : splitOn c [cx.sp] ≠ [] := splitOn_ne_nil' c [cx.sp] (by simp)
      have hnomem := splitOn_single_not_mem cx.sp c
      have hjoin : joinWith [cx.sp] (splitOn c [cx.sp]) = c := joinWith_splitOn c [cx.sp] (by simp)
      obtain ⟨extra, hd, hl, hs, hev⟩ :=
        distribute_int ((splitOn c [cx.sp]).length - 1) (by omega) (w - (c.length : Int)).toNat
      refine ⟨interleave cx (splitOn c [cx.sp]) extra, ?_, fun h => ?_, fun _ => ?_⟩
      · simp only
        rw [if_neg (by omega), hd]
        rfl
      · exact (h.elim h1 (fun h => h h2)).elim
      · refine ⟨?_, ?_, extra, rfl, by omega, by omega, hs, hev⟩
        · rw [interleave_length cx _ extra hwords (by omega), hs]
          have := length_joinWith_single cx.sp _ hwords
          rw [hjoin] at this
          omega
        · rw [interleave_words cx _ extra hnomem]
          conv => rhs; rw [← hjoin, ← interleave_nil_eq_joinWith, interleave_words cx _ [] hnomem]
    · have hcnt : c.count cx.sp = 0 := List.count_eq_zero.2 h2
      refine ⟨c, ?_, fun _ => rfl, fun h => absurd (Or.inr h2) h⟩
      simp only
      rw [if_pos (by omega)]
      rfl

/-- the newline pre-pass only replaces one whitespace atom by another (`hnl`), which `collapse` does not see -/
theorem justifyLine_triv_eq_core (htriv : ∀ s, cx.ends s = List.range' 1 s.length)
    (hsp : cx.isSpace cx.sp = true) (hnl : cx.isSpace cx.nl = true) (line : List α) (w : Int) :
    justifyLine cx line w = justifyCore cx (Spec.collapse ⟨cx.isSpace, cx.sp, cx.hy⟩ line) w := by
  unfold justifyLine
  rw [collapseSpace_triv_all cx htriv hsp, collapse_replaceAll'_nl cx hsp hnl]
  rfl

theorem justifyLine_triv (htriv : ∀ s, cx.ends s = List.range' 1 s.length)
    (hsp : cx.isSpace cx.sp = true) (hnl : cx.isSpace cx.nl = true) (line : List α) (w : Int) :
    ∃ r, justifyLine cx line w = .ok r ∧
      JustifyPost cx (Spec.collapse ⟨cx.isSpace, cx.sp, cx.hy⟩ line) w r := by
  rw [justifyLine_triv_eq_core cx htriv hsp hnl]
  exact justifyCore_triv cx htriv _ w

end
end RosedVerif
