/-
The regenerated tie at the real instance `cxA` (code points with the real segmentation).  The hypotheses that
`_regenerated` theorems carry hold there: `cx.WF` with its positive byte lengths (`cxA_WF`), `DefaultsOk cx`
(`defaultsOk_cxA`), `cx.PhFresh` (`phFresh_cxA`).  The corollaries `<fn>_cxA` that are stated stand behind their theorems,
in the modules Chars, Lines, Edit, Paras, AffixPlaceholder, WrapOpts, IndentOpts, InsertTable, AlignOpts, JustifyOpts, TwoCol
and DefTable; the other functions with a hypothesis are instantiated in the same way.  Only `Overtype` keeps a premise
at `cxA` (no overflow).  `literal_map_cxA` (GenEq/InstA) states which values the `Ctx` fields have that the translator
writes for the literals `" "`, `"-"`, `"\n"`, …  This module only collects the others; it holds no theorem.
-/
import RosedVerif.Model.GenCodeEq
import RosedVerif.Model.GenEq.InstA
