/-
Layer H lemmas (C19/C20): gem.String values with shared, lazily filled cache cells are pure
values (caches never stale), filled cells never change, and writes have a small footprint.

Every operation is summarised, unconditionally, by a transition record `Tr` (heap growth, what may
happen to pre-existing cells, footprint of the write events, completeness of the write events).
`Tr` composes (`Tr.comp`), so each operation is a short composition of `initialized` / `ensure` /
alloc / set steps; its `_spec` lemma gives the transition together with the result on a valid
receiver.  The pool invariant `Inv`, the pure-value results and the footprint theorems are
consequences of these.
-/
import RosedVerif.Heap.Model
import RosedVerif.Gem.RulesLemmas
namespace RosedVerif.H

theorem Heap.get_set (h : Heap) (c c' : Nat) (v) :
    (h.set c v).get c' = if c = c' ∧ c < h.cells.length then v else h.get c' := by
  unfold Heap.get Heap.set
  grind

theorem Heap.size_set (h : Heap) (c : Nat) (v) : (h.set c v).cells.length = h.cells.length := by
  simp [Heap.set]

theorem Heap.get_alloc (h : Heap) (v) (c : Nat) :
    (h.alloc v).1.get c = if c = h.cells.length then v else h.get c := by
  unfold Heap.get Heap.alloc
  grind

theorem Heap.get_alloc_self (h : Heap) (v) : (h.alloc v).1.get h.cells.length = v := by
  rw [Heap.get_alloc, if_pos rfl]

theorem Heap.size_alloc (h : Heap) (v) : (h.alloc v).1.cells.length = h.cells.length + 1 := by
  simp [Heap.alloc]

theorem Heap.alloc_snd (h : Heap) (v) : (h.alloc v).2 = h.cells.length := rfl

/-- overwriting the cell just allocated -/
theorem Heap.alloc_set (h : Heap) (x v) : (h.alloc x).1.set h.cells.length v = (h.alloc v).1 := by
  simp [Heap.alloc, Heap.set]

theorem Heap.get_of_le (h : Heap) (c : Nat) (hc : h.cells.length ≤ c) : h.get c = none := by
  unfold Heap.get; grind

theorem Heap.get_eq_of_cells (h h' : Heap) (c : Nat) (e : h'.cells[c]? = h.cells[c]?) :
    h'.get c = h.get c := by
  unfold Heap.get; grind

/-- footprint of one write event, relative to the first `n` (pre-existing) cells, for a receiver
with cell `rc`. -/
def WrOK (n : Nat) (rc : Option Nat) (h : Heap) : Wr → Prop
  | .alloc c => n ≤ c
  | .clear c => n ≤ c
  | .fill c => n ≤ c ∨ (rc = some c ∧ h.get c = none)

def Mentions (ws : List Wr) (c : Nat) : Prop := Wr.alloc c ∈ ws ∨ Wr.fill c ∈ ws ∨ Wr.clear c ∈ ws

/-- the cell an event is about -/
def Wr.cell : Wr → Nat
  | .alloc c | .fill c | .clear c => c

theorem mentions_iff {ws c} : Mentions ws c ↔ ∃ w ∈ ws, w.cell = c := by
  constructor
  · rintro (m | m | m) <;> exact ⟨_, m, rfl⟩
  · rintro ⟨w, m, rfl⟩
    cases w
    · exact .inl m
    · exact .inr (.inl m)
    · exact .inr (.inr m)

theorem mentions_append {w1 w2 c} : Mentions (w1 ++ w2) c ↔ Mentions w1 c ∨ Mentions w2 c := by
  simp only [mentions_iff, List.mem_append, or_and_right, exists_or]

/-- an allowed write goes to a cell that is not among the first `n`, or is the first fill of the
receiver's cell -/
theorem wrOK_iff {n rc h w} :
    WrOK n rc h w ↔ n ≤ w.cell ∨ (w = .fill w.cell ∧ rc = some w.cell ∧ h.get w.cell = none) := by
  cases w <;> simp [WrOK, Wr.cell]

/-- Transition summary of a computation `h ⟶ h'` reporting the events `ws`, relative to the first
`n` cells and a receiver with cell `rc` and content `rr`: the heap grows; the only thing that can
happen to one of the first `n` cells is the first fill of `rc` with the boundaries of `rr`; every
event is allowed by `WrOK`; cells no event mentions are untouched. -/
structure Tr (n : Nat) (rc : Option Nat) (rr : List Int) (h h' : Heap) (ws : List Wr) : Prop where
  mono : h.cells.length ≤ h'.cells.length
  old : ∀ c, c < n → h'.get c = h.get c ∨
      (rc = some c ∧ h.get c = none ∧ h'.get c = some (splitRunes rr))
  foot : ∀ w ∈ ws, WrOK n rc h w
  agree : ∀ c, ¬ Mentions ws c → h'.cells[c]? = h.cells[c]?

theorem Tr.refl (n rc rr h) : Tr n rc rr h h [] :=
  ⟨Nat.le_refl _, fun _ _ => .inl rfl, nofun, fun _ _ => rfl⟩

theorem Tr.anti {n n' rc rr h h' ws} (t : Tr n rc rr h h' ws) (hn : n' ≤ n) : Tr n' rc rr h h' ws := by
  refine ⟨t.mono, fun c hc => t.old c (by omega), fun w hw => ?_, t.agree⟩
  exact wrOK_iff.2 ((wrOK_iff.1 (t.foot w hw)).imp_left (Nat.le_trans hn))

theorem Tr.comp {n rc rr rc2 rr2 h h1 h2 w1 w2}
    (t1 : Tr n rc rr h h1 w1) (t2 : Tr n rc2 rr2 h1 h2 w2)
    (hc : (rc2 = rc ∧ rr2 = rr) ∨ ∀ c, rc2 = some c → n ≤ c) :
    Tr n rc rr h h2 (w1 ++ w2) := by
  -- a first fill by the second step is a first fill of the whole: the cell was empty all along
  have key : ∀ c, c < n → rc2 = some c → h1.get c = none → rc = some c ∧ rr2 = rr ∧ h.get c = none := by
    intro c hcn e1 e2
    rcases hc with ⟨rfl, rfl⟩ | hc
    · refine ⟨e1, rfl, ?_⟩
      rcases t1.old c hcn with e | ⟨_, _, e⟩
      · rw [← e]; exact e2
      · rw [e2] at e; cases e
    · have := hc c e1; omega
  refine ⟨Nat.le_trans t1.mono t2.mono, fun c hcn => ?_, fun w hw => ?_, fun c hm => ?_⟩
  · rcases t2.old c hcn with e | ⟨e1, e2, e3⟩
    · rw [e]; exact t1.old c hcn
    · obtain ⟨k1, k2, k3⟩ := key c hcn e1 e2
      exact .inr ⟨k1, k3, k2 ▸ e3⟩
  · rcases List.mem_append.1 hw with hw | hw
    · exact t1.foot w hw
    · rcases wrOK_iff.1 (t2.foot w hw) with l | ⟨ew, e1, e2⟩
      · exact wrOK_iff.2 (.inl l)
      · by_cases hcn : w.cell < n
        · obtain ⟨k1, _, k3⟩ := key _ hcn e1 e2
          exact wrOK_iff.2 (.inr ⟨ew, k1, k3⟩)
        · exact wrOK_iff.2 (.inl (by omega))
  · rw [mentions_append, not_or] at hm
    rw [t2.agree c hm.2, t1.agree c hm.1]

/-- a computation that never fills an old cell can be composed under any receiver -/
theorem Tr.comp_none {n rc rr rr2 h h1 h2 w1 w2}
    (t1 : Tr n rc rr h h1 w1) (t2 : Tr n none rr2 h1 h2 w2) : Tr n rc rr h h2 (w1 ++ w2) :=
  t1.comp t2 (.inr nofun)

theorem Tr.comp_same {n rc rr h h1 h2 w1 w2}
    (t1 : Tr n rc rr h h1 w1) (t2 : Tr n rc rr h1 h2 w2) : Tr n rc rr h h2 (w1 ++ w2) :=
  t1.comp t2 (.inl ⟨rfl, rfl⟩)

theorem Tr.of_none {n rc rr rr' h h' ws} (t : Tr n none rr' h h' ws) : Tr n rc rr h h' ws :=
  (Tr.refl n rc rr h).comp_none t

/-- filled cells never change -/
theorem Tr.frame {rc rr h h' ws} (t : Tr h.cells.length rc rr h h' ws) (c : Nat) (x)
    (hx : h.get c = some x) : h'.get c = some x := by
  by_cases hc : c < h.cells.length
  · rcases t.old c hc with e | ⟨_, e, _⟩
    · rw [e, hx]
    · rw [hx] at e; cases e
  · rw [Heap.get_of_le h c (by omega)] at hx; cases hx

/-- … and no write event is about them -/
theorem Tr.not_mentions {rc rr h h' ws} (t : Tr h.cells.length rc rr h h' ws) (c : Nat) (x)
    (hx : h.get c = some x) : ¬ Mentions ws c := by
  intro hm
  obtain ⟨w, hw, rfl⟩ := mentions_iff.1 hm
  rcases wrOK_iff.1 (t.foot w hw) with l | ⟨_, _, e⟩
  · rw [Heap.get_of_le h _ l] at hx; cases hx
  · rw [hx] at e; cases e

/-! primitive steps -/

theorem Tr.alloc (n h v) (hn : n ≤ h.cells.length) :
    Tr n none [] h (h.alloc v).1 [.alloc h.cells.length] := by
  refine ⟨by simp [Heap.alloc], fun c hc => .inl ?_, ?_, fun c hm => ?_⟩
  · rw [Heap.get_alloc, if_neg (by omega)]
  · simpa [WrOK] using hn
  · have : c ≠ h.cells.length := fun e => hm (mentions_iff.2 ⟨_, List.mem_singleton_self _, e.symm⟩)
    simp only [Heap.alloc]
    rw [List.getElem?_append]
    grind

/-- overwriting one cell, reported as a fill or a clear: a cell that is not among the first `n`, or
the first fill of the receiver's cell -/
theorem Tr.set (n rc rr h c v) (k : Nat → Wr) (hk : k = .fill ∨ k = .clear)
    (hc : n ≤ c ∨ (k = .fill ∧ rc = some c ∧ h.get c = none ∧ v = some (splitRunes rr))) :
    Tr n rc rr h (h.set c v) [k c] := by
  have kc : (k c).cell = c := by rcases hk with rfl | rfl <;> rfl
  refine ⟨by rw [Heap.size_set]; exact Nat.le_refl _, fun c' hc' => ?_, fun w hw => ?_, fun c' hm => ?_⟩
  · rw [Heap.get_set]
    split
    · next e =>
      obtain ⟨rfl, -⟩ := e
      rcases hc with l | ⟨-, e1, e2, rfl⟩
      · omega
      · exact .inr ⟨e1, e2, rfl⟩
    · exact .inl rfl
  · rw [List.mem_singleton.1 hw, wrOK_iff, kc]
    exact hc.imp_right fun ⟨e, e1, e2, _⟩ => ⟨e ▸ rfl, e1, e2⟩
  · have : c ≠ c' := fun e => hm (mentions_iff.2 ⟨_, List.mem_singleton_self _, kc.trans e⟩)
    simp only [Heap.set, List.getElem?_set_ne this]

/-- a fresh cell is allocated (in `clone`, as a copy of the receiver's) and at once overwritten -/
theorem Tr.allocSet {n rc rr h0 h ws} (t : Tr n rc rr h0 h ws) (hn : n ≤ h.cells.length) (v)
    (k : Nat → Wr) (hk : k = .fill ∨ k = .clear) :
    Tr n rc rr h0 (h.alloc v).1 (ws ++ [.alloc h.cells.length] ++ [k h.cells.length]) := by
  rw [← Heap.alloc_set h v v]
  exact (t.comp_none (Tr.alloc n h v hn)).comp_none (Tr.set n none [] _ _ v k hk (.inl hn))

/-! ### the invariant on single values -/

/-- "a cached value is never stale" -/
def CellOK (h : Heap) (v : GStr) : Prop :=
  match v.cell with
  | none => True
  | some c => c < h.cells.length ∧ (h.get c = none ∨ h.get c = some (splitRunes v.runes))

theorem CellOK.of_none {h v} (hv : v.cell = none) : CellOK h v := by
  simp [CellOK, hv]

theorem cellOK_some {h v c} (hv : v.cell = some c) :
    CellOK h v ↔ c < h.cells.length ∧ (h.get c = none ∨ h.get c = some (splitRunes v.runes)) := by
  simp [CellOK, hv]

theorem CellOK.get_eq {h v c e} (ok : CellOK h v) (hv : v.cell = some c) (he : h.get c = some e) :
    e = splitRunes v.runes := by
  rcases ((cellOK_some hv).1 ok).2 with k | k <;> rw [k] at he <;> cases he
  rfl

/-- a transition whose receiver (if it shares `v`'s cell) has `v`'s content keeps `v` valid -/
theorem CellOK.step {h h' v rc rr ws} (ok : CellOK h v) (t : Tr h.cells.length rc rr h h' ws)
    (hr : rc = v.cell → rc ≠ none → rr = v.runes) : CellOK h' v := by
  cases hv : v.cell with
  | none => exact .of_none hv
  | some c =>
    rw [cellOK_some hv] at ok ⊢
    refine ⟨Nat.lt_of_lt_of_le ok.1 t.mono, ?_⟩
    rcases t.old c ok.1 with e | ⟨e1, _, e3⟩
    · rw [e]; exact ok.2
    · rw [← hr (by rw [e1, hv]) (by simp [e1])]; exact .inr e3

/-- a result value living in a cell allocated by this very call -/
def FreshIn (h h' : Heap) (r : GStr) : Prop :=
  ∃ c, r.cell = some c ∧ h.cells.length ≤ c ∧ c < h'.cells.length

/-- a result value living in a cell allocated by this very call, still unfilled -/
def FreshNone (h h' : Heap) (r : GStr) : Prop :=
  ∃ c, r.cell = some c ∧ h.cells.length ≤ c ∧ c < h'.cells.length ∧ h'.get c = none

theorem FreshNone.cellOK {h h' r} (f : FreshNone h h' r) : CellOK h' r := by
  obtain ⟨c, hc, _, h2, h3⟩ := f
  rw [cellOK_some hc]; exact ⟨h2, .inl h3⟩

theorem FreshNone.fresh {h h' r} (f : FreshNone h h' r) : ∃ c, r.cell = some c ∧ h.cells.length ≤ c := by
  obtain ⟨c, hc, h1, _⟩ := f
  exact ⟨c, hc, h1⟩

/-! ### `initialized`, `ensure`, `len` on the three kinds of receiver: zero value, cache empty, cache filled -/

theorem initialized_zero (rs : List Int) (h : Heap) :
    initialized ⟨rs, none⟩ h = (⟨h.cells ++ [none]⟩, ⟨rs, some h.cells.length⟩, [.alloc h.cells.length]) := rfl

theorem initialized_mk (rs : List Int) (c : Nat) (h : Heap) : initialized ⟨rs, some c⟩ h = (h, ⟨rs, some c⟩, []) := rfl

@[simp] theorem cellOf_mk (r : List Int) (c : Nat) : cellOf ⟨r, some c⟩ = c := rfl

theorem cellOf_some {s : GStr} {c} (hs : s.cell = some c) : cellOf s = c := by simp [cellOf, hs]

theorem ensure_filled {rs : List Int} {c : Nat} {h : Heap} {e : List Nat} (hg : h.get c = some e) :
    ensure ⟨rs, some c⟩ h = (h, e, []) := by
  simp only [ensure, cellOf_mk, hg]

theorem ensure_empty {rs : List Int} {c : Nat} {h : Heap} (hg : h.get c = none) :
    ensure ⟨rs, some c⟩ h = (h.set c (some (splitRunes rs)), splitRunes rs, [.fill c]) := by
  simp only [ensure, cellOf_mk, hg]

theorem len_filled (rs : List Int) (c : Nat) (h : Heap) (e : List Nat) (hg : h.get c = some e) :
    len ⟨rs, some c⟩ h = (h, e.length, []) := by
  simp only [len, initialized_mk, cellOf_mk, hg]

/-- `Len()` of a non-empty value with an empty cache fills it -/
theorem len_empty (r0 : Int) (rs0 : List Int) (c : Nat) (h : Heap) (hg : h.get c = none) :
    len ⟨r0 :: rs0, some c⟩ h =
      (h.set c (some (splitRunes (r0 :: rs0))), (splitRunes (r0 :: rs0)).length, [.fill c]) := by
  simp only [len, initialized_mk, cellOf_mk, hg, ensure_empty hg, List.isEmpty_cons, Bool.false_eq_true,
    ↓reduceIte, List.nil_append]

/-- everything the callers need to know about `initialized s h = (h1, s1, w1)` -/
structure InitSpec (s : GStr) (h h1 : Heap) (s1 : GStr) (w1 : List Wr) : Prop where
  tr : Tr h.cells.length none [] h h1 w1
  runes : s1.runes = s.runes
  cell : ∃ c, s1.cell = some c ∧
    ((s.cell = some c ∧ h1 = h ∧ w1 = []) ∨
     (s.cell = none ∧ c = h.cells.length ∧ c < h1.cells.length ∧ h1.get c = none))

/-- the first step of every method: the local copy has `s`'s content and a cell of its own -/
theorem init_cases (s : GStr) (h : Heap) : ∃ h1 c w1,
    initialized s h = (h1, ⟨s.runes, some c⟩, w1) ∧ InitSpec s h h1 ⟨s.runes, some c⟩ w1 := by
  obtain ⟨rs, _ | c⟩ := s
  · refine ⟨(h.alloc none).1, _, _, initialized_zero rs h, Tr.alloc _ h none (Nat.le_refl _), rfl, _, rfl,
      .inr ⟨rfl, rfl, ?_, ?_⟩⟩
    · rw [Heap.size_alloc]; exact Nat.lt_succ_self _
    · exact Heap.get_alloc_self h none
  · exact ⟨h, c, [], initialized_mk rs c h, Tr.refl _ _ _ _, rfl, c, rfl, .inl ⟨rfl, rfl, rfl⟩⟩

theorem InitSpec.ok {s h h1 s1 w1} (i : InitSpec s h h1 s1 w1) (ok : CellOK h s) : CellOK h1 s1 := by
  obtain ⟨c, hc, h' | h'⟩ := i.cell
  · obtain ⟨e1, rfl, _⟩ := h'
    rw [cellOK_some hc, i.runes]; rwa [cellOK_some e1] at ok
  · rw [cellOK_some hc]; exact ⟨h'.2.2.1, .inl h'.2.2.2⟩

theorem InitSpec.idem {s h h1 s1 w1} (i : InitSpec s h h1 s1 w1) (h' : Heap) :
    initialized s1 h' = (h', s1, []) := by
  obtain ⟨c, hc, _⟩ := i.cell
  obtain ⟨rs, _⟩ := s1
  cases hc
  rfl

/-- a transition of the initialized copy is a transition of the receiver: either the copy has the
receiver's cell, or its cell is new -/
theorem InitSpec.glue {s h h1 s1 w1 h2 w2} (i : InitSpec s h h1 s1 w1)
    (t : Tr h1.cells.length s1.cell s1.runes h1 h2 w2) :
    Tr h.cells.length s.cell s.runes h h2 (w1 ++ w2) := by
  refine (i.tr.of_none).comp (t.anti i.tr.mono) ?_
  obtain ⟨c, hc, h' | h'⟩ := i.cell
  · exact .inl ⟨by rw [hc, h'.1], i.runes⟩
  · refine .inr fun c' e => ?_
    rw [hc] at e; cases e; omega

/-- `ensure` on the initialized copy: nothing happens on a filled cell, an empty one gets its first
fill; on a valid value the cell then holds the boundaries, which are the result -/
theorem ensure_cases (rs : List Int) (c : Nat) (h : Heap) : ∃ h2 e w2,
    ensure ⟨rs, some c⟩ h = (h2, e, w2) ∧ Tr h.cells.length (some c) rs h h2 w2 ∧
    (CellOK h ⟨rs, some c⟩ → e = splitRunes rs ∧ h2.get c = some e) := by
  cases hg : h.get c with
  | some e => exact ⟨h, e, [], ensure_filled hg, Tr.refl _ _ _ _, fun ok => ⟨ok.get_eq rfl hg, hg⟩⟩
  | none =>
    refine ⟨_, _, _, ensure_empty hg, Tr.set _ _ _ _ _ _ .fill (.inl rfl) (.inr ⟨rfl, rfl, hg, rfl⟩),
      fun ok => ⟨rfl, ?_⟩⟩
    rw [Heap.get_set, if_pos ⟨rfl, ((cellOK_some rfl).1 ok).1⟩]

/-! ### `new` -/

theorem new_eq (rs : List Int) (h : Heap) :
    new rs h = ((h.alloc none).1, ⟨rs, some h.cells.length⟩, [.alloc h.cells.length]) := rfl

theorem new_spec (rs : List Int) (h : Heap) :
    Tr h.cells.length none [] h (new rs h).1 (new rs h).2.2 ∧ FreshNone h (new rs h).1 (new rs h).2.1 := by
  rw [new_eq]
  refine ⟨Tr.alloc _ h none (Nat.le_refl _), _, rfl, Nat.le_refl _, ?_, ?_⟩
  · rw [Heap.size_alloc]; exact Nat.lt_succ_self _
  · exact Heap.get_alloc_self h none

/-! ### `clone` (only ever called on an initialized copy) -/

@[simp] theorem clone_mk (rs : List Int) (c : Nat) (h : Heap) :
    clone ⟨rs, some c⟩ h = ((h.alloc (h.get c)).1, ⟨rs, some h.cells.length⟩, [.alloc h.cells.length]) :=
  rfl

theorem tr_clone {s : GStr} {c} (hs : s.cell = some c) (h : Heap) :
    Tr h.cells.length none [] h (clone s h).1 (clone s h).2.2 := by
  obtain ⟨rs, _⟩ := s
  cases hs
  exact Tr.alloc _ h _ (Nat.le_refl _)

theorem CellOK.clone {h rs c} (ok : CellOK h ⟨rs, some c⟩) :
    CellOK (h.alloc (h.get c)).1 ⟨rs, some h.cells.length⟩ := by
  rw [cellOK_some rfl] at ok ⊢
  rw [Heap.size_alloc, Heap.get_alloc_self]
  exact ⟨Nat.lt_succ_self _, ok.2⟩

/-! ### the observers `len`, `charAt`, `graphemeIndexes`, `runes` -/

theorem len_spec (s : GStr) (h : Heap) :
    Tr h.cells.length s.cell s.runes h (len s h).1 (len s h).2.2 ∧
    (CellOK h s → (len s h).2.1 = (splitRunes s.runes).length) := by
  obtain ⟨h1, c, w1, hi, I⟩ := init_cases s h
  simp only [len, hi, cellOf_mk]
  split
  · next e he => exact ⟨I.tr.of_none, fun ok => by rw [(I.ok ok).get_eq rfl he]⟩
  · split
    · next hr => exact ⟨I.tr.of_none, fun _ => by rw [List.isEmpty_iff.1 hr, splitRunes_nil]; rfl⟩
    · obtain ⟨h2, e, w2, he, T, V⟩ := ensure_cases s.runes c h1
      simp only [he]
      exact ⟨I.glue T, fun ok => by rw [(V (I.ok ok)).1]⟩

theorem charAt_spec (s : GStr) (i : Int) (h : Heap) :
    Tr h.cells.length s.cell s.runes h (charAt s i h).1 (charAt s i h).2.2 ∧
    (CellOK h s → (charAt s i h).2.1 =
      (let e := splitRunes s.runes
       if i < 0 ∨ i ≥ e.length then throw .index
       else let (a, b) := clusterSpan e i.toNat; pure (sliceRunes s.runes a b))) := by
  obtain ⟨h1, c, w1, hi, I⟩ := init_cases s h
  obtain ⟨h2, e, w2, he, T, V⟩ := ensure_cases s.runes c h1
  simp only [charAt, hi, he]
  exact ⟨I.glue T, fun ok => by rw [(V (I.ok ok)).1]⟩

theorem graphemeIndexes_spec (s : GStr) (h : Heap) :
    Tr h.cells.length s.cell s.runes h (graphemeIndexes s h).1 (graphemeIndexes s h).2.2 ∧
    (CellOK h s → (graphemeIndexes s h).2.1 = splitRunes s.runes) := by
  obtain ⟨h1, c, w1, hi, I⟩ := init_cases s h
  obtain ⟨h2, e, w2, he, T, V⟩ := ensure_cases s.runes c h1
  simp only [graphemeIndexes, hi, he]
  exact ⟨I.glue T, fun ok => (V (I.ok ok)).1⟩

theorem runes_spec (s : GStr) (h : Heap) :
    Tr h.cells.length none [] h (runes s h).1 (runes s h).2.2 ∧ (runes s h).2.1 = s.runes := by
  obtain ⟨h1, c, w1, hi, I⟩ := init_cases s h
  simp only [runes, hi]
  exact ⟨I.tr, trivial⟩

/-- the four observers see only the content: two valid values with the same runes answer alike,
whichever heaps they live in -/
theorem obs_eq {h h' : Heap} {v w : GStr} (ok : CellOK h v) (ok' : CellOK h' w) (e : v.runes = w.runes) :
    (len v h).2.1 = (len w h').2.1 ∧
    (graphemeIndexes v h).2.1 = (graphemeIndexes w h').2.1 ∧
    (∀ i : Int, (charAt v i h).2.1 = (charAt w i h').2.1) ∧
    (runes v h).2.1 = (runes w h').2.1 := by
  refine ⟨?_, ?_, fun i => ?_, ?_⟩
  · rw [(len_spec v h).2 ok, (len_spec w h').2 ok', e]
  · rw [(graphemeIndexes_spec v h).2 ok, (graphemeIndexes_spec w h').2 ok', e]
  · rw [(charAt_spec v i h).2 ok, (charAt_spec w i h').2 ok', e]
  · rw [(runes_spec v h).2, (runes_spec w h').2, e]

/-! ### `add`, `setCharAt`, `repeat`: the result lives in a fresh cell, left empty -/

theorem add_spec (s t : GStr) (h : Heap) :
    Tr h.cells.length none [] h (add s t h).1 (add s t h).2.2 ∧
    (add s t h).2.1.runes = s.runes ++ t.runes ∧
    FreshNone h (add s t h).1 (add s t h).2.1 := by
  obtain ⟨h1, c, w1, hi, I⟩ := init_cases s h
  obtain ⟨h4, c', w4, hi', I'⟩ := init_cases t (h1.alloc none).1
  simp only [add, runes, hi, clone_mk, cellOf_mk, Heap.alloc_set, hi']
  have m := I.tr.mono
  have m4 := I'.tr.mono
  rw [Heap.size_alloc] at m4
  refine ⟨(I.tr.allocSet m none .clear (.inr rfl)).comp_none (I'.tr.anti ?_), trivial,
    h1.cells.length, rfl, m, m4, ?_⟩
  · rw [Heap.size_alloc]; omega
  · -- the result's cell `h1.cells.length` is still empty: `initialized t` runs under receiver `none`
    rcases I'.tr.old h1.cells.length (by rw [Heap.size_alloc]; omega) with e | ⟨e, _⟩
    · rw [e, Heap.get_alloc_self]
    · cases e

theorem setCharAt_spec (s : GStr) (i : Int) (r : List Int) (h : Heap) :
    Tr h.cells.length none [] h (setCharAt s i r h).1 (setCharAt s i r h).2.2 ∧
    (∀ v, (setCharAt s i r h).2.1 = .ok v → FreshNone h (setCharAt s i r h).1 v) ∧
    (CellOK h s → (setCharAt s i r h).2.1.map GStr.runes =
      (if r.isEmpty then throw .explicit
       else
        let e := splitRunes s.runes
        if i < 0 ∨ i ≥ e.length then throw .index
        else let (a, b) := clusterSpan e i.toNat; pure (s.runes.take a ++ r ++ s.runes.drop b))) := by
  obtain ⟨h1, c, w1, hi, I⟩ := init_cases s h
  obtain ⟨h3, e, w3, he, T, V⟩ := ensure_cases s.runes h1.cells.length (h1.alloc (h1.get c)).1
  simp only [setCharAt, hi, clone_mk, he, cellOf_mk]
  have m := I.tr.mono
  have m3 := T.mono
  rw [Heap.size_alloc] at T m3
  by_cases hr : r.isEmpty <;> simp only [hr, Bool.false_eq_true, ↓reduceIte]
  · exact ⟨I.tr, nofun, fun _ => rfl⟩
  · -- the clone's cell is fresh, so `ensure` on the clone fills no old cell
    have t3 : Tr h.cells.length none [] h h3 (w1 ++ [.alloc h1.cells.length] ++ w3) :=
      (I.tr.comp_none (Tr.alloc _ h1 _ m)).comp (T.anti (by omega)) (.inr (by rintro _ ⟨⟩; exact m))
    have V' : CellOK h s → e = splitRunes s.runes := fun ok => (V (I.ok ok).clone).1
    by_cases hidx : i < 0 ∨ i ≥ e.length <;> simp only [hidx, ↓reduceIte]
    · exact ⟨t3, nofun, fun ok => by obtain rfl := V' ok; rw [if_pos hidx]; rfl⟩
    · refine ⟨t3.comp_none (Tr.set _ none [] h3 _ none .clear (.inr rfl) (.inl m)), ?_, fun ok => ?_⟩
      · rintro _ ⟨⟩
        refine ⟨_, rfl, m, by rw [Heap.size_set]; omega, ?_⟩
        rw [Heap.get_set, if_pos ⟨rfl, by omega⟩]
      · obtain rfl := V' ok; rw [if_neg hidx]; rfl

theorem repeatN_spec (s : GStr) (n : Nat) (acc : GStr) (h : Heap) :
    Tr h.cells.length none [] h (repeatN s n acc h).1 (repeatN s n acc h).2.2 ∧
    (repeatN s n acc h).2.1.runes = acc.runes ++ (List.replicate n s.runes).flatten ∧
    ((n = 0 ∧ (repeatN s n acc h).2.1 = acc ∧ (repeatN s n acc h).1 = h) ∨
      FreshNone h (repeatN s n acc h).1 (repeatN s n acc h).2.1) := by
  induction n generalizing acc h with
  | zero => exact ⟨Tr.refl _ _ _ _, by simp [repeatN], .inl ⟨rfl, rfl, rfl⟩⟩
  | succ n ih =>
    unfold repeatN
    obtain ⟨A1, A2, A3⟩ := add_spec acc s h
    rcases ha : add acc s h with ⟨h1, acc', w1⟩
    simp only [ha] at A1 A2 A3 ⊢
    obtain ⟨B1, B2, B3⟩ := ih acc' h1
    rcases hb : repeatN s n acc' h1 with ⟨h2, r, w2⟩
    simp only [hb] at B1 B2 B3 ⊢
    refine ⟨A1.comp_none (B1.anti A1.mono), ?_, .inr ?_⟩
    · rw [B2, A2, List.replicate_succ, List.flatten_cons, List.append_assoc]
    · rcases B3 with ⟨_, rfl, rfl⟩ | ⟨c', C1, C2, C3, C4⟩
      · exact A3
      · exact ⟨c', C1, Nat.le_trans A1.mono C2, C3, C4⟩

/-! ### `sub` -/

/-- the slice property of the segmentation: a slice between two cluster boundaries segments exactly
as inside the whole string.  This file does not rest on the segmentation theory: the lemmas below
take the property as a hypothesis, which `sliceOK` (Model/InstAFacts.lean) discharges. -/
def SliceOK : Prop :=
  ∀ (s : List Int) (st en : Int), let e := splitRunes s
    0 ≤ st → st < en → en ≤ e.length →
    let a := if st > 0 then e.getD (st.toNat - 1) 0 else 0
    let b := e.getD (en.toNat - 1) 0
    splitRunes (sliceRunes s a b) = ((e.drop st.toNat).take (en - st).toNat).map (· - a)

/-- the result of `sub` on a valid value: either the shared `zero`, or a fresh value whose cell is
already filled, with the receiver's boundaries `st … en - 1` rebased to the slice (`a`, `b`: the
rune offsets where cluster `st` starts and cluster `en - 1` ends). -/
theorem sub_spec (s : GStr) (start end_ : Int) (h : Heap) :
    Tr h.cells.length s.cell s.runes h (sub s start end_ h).1 (sub s start end_ h).2.2 ∧
    (CellOK h s →
      let e := splitRunes s.runes
      let st := (rangeToIndexes e.length start end_).1
      let en := (rangeToIndexes e.length start end_).2
      let a := if st > 0 then e.getD (st.toNat - 1) 0 else 0
      let b := e.getD (en.toNat - 1) 0
      if st = en then (sub s start end_ h).2.1 = zero
      else
        (sub s start end_ h).2.1.runes = sliceRunes s.runes a b ∧
        ∃ c, (sub s start end_ h).2.1.cell = some c ∧ h.cells.length ≤ c ∧
          c < (sub s start end_ h).1.cells.length ∧
          (sub s start end_ h).1.get c = some (((e.drop st.toNat).take (en - st).toNat).map (· - a))) := by
  obtain ⟨h1, c, w1, hi, I⟩ := init_cases s h
  obtain ⟨T2, V2⟩ := len_spec ⟨s.runes, some c⟩ h1
  rcases hl : len ⟨s.runes, some c⟩ h1 with ⟨h2, n, w2⟩
  obtain ⟨h3, e, w3, he, T3, V3⟩ := ensure_cases s.runes c h2
  simp only [hl] at T2 V2
  simp only [sub, hi, hl, he, clone_mk, cellOf_mk, Heap.alloc_set, beq_iff_eq]
  have m1 := I.tr.mono
  have m2 := T2.mono
  have m3 := T3.mono
  refine ⟨?_, fun ok => ?_⟩
  · rcases rangeToIndexes n start end_ with ⟨a, b⟩
    by_cases hab : a = b <;> simp only [hab, ↓reduceIte]
    · simpa only [List.append_assoc] using I.glue T2
    · simpa only [List.append_assoc] using
        I.glue ((T2.comp_same (T3.anti m2)).allocSet (by omega) _ .fill (.inl rfl))
  · have ok1 := I.ok ok
    obtain ⟨rfl, G3⟩ := V3 (ok1.step T2 fun _ _ => rfl)
    rw [V2 ok1]
    rcases rangeToIndexes (splitRunes s.runes).length start end_ with ⟨a, b⟩
    -- `a = b` is closed by `simp` (`zero = zero`); otherwise the clone's cell holds the receiver's boundaries
    by_cases hab : a = b <;> simp only [hab, ↓reduceIte]
    rw [Heap.get_alloc_self, G3]
    refine ⟨rfl, _, rfl, by omega, by rw [Heap.size_alloc]; omega, ?_⟩
    rw [Heap.get_alloc_self]; rfl

theorem sub_cellOK (hs : SliceOK) {s : GStr} (start end_ : Int) {h : Heap} (ok : CellOK h s) :
    (sub s start end_ h).2.1 = zero ∨
    ((∃ c, (sub s start end_ h).2.1.cell = some c ∧ h.cells.length ≤ c) ∧
      CellOK (sub s start end_ h).1 (sub s start end_ h).2.1) := by
  have S := (sub_spec s start end_ h).2 ok
  simp only at S
  split at S
  · exact .inl S
  · obtain ⟨S1, c, S2, S3, S4, S5⟩ := S
    refine .inr ⟨⟨c, S2, S3⟩, ?_⟩
    rw [cellOK_some S2]
    refine ⟨S4, .inr ?_⟩
    rw [S5, S1]
    have B := rangeToIndexes_bounds (splitRunes s.runes).length start end_ (by omega)
    exact congrArg some (hs s.runes _ _ B.1 (by omega) B.2.2).symm

/-! ### `reverse`, `indexFunc`, `lastIndexFunc` (outside `Inv`, inside the footprint) -/

theorem reverse_spec (s : GStr) (h : Heap) :
    Tr h.cells.length s.cell s.runes h (reverse s h).1 (reverse s h).2.2 ∧
    ∃ c, (reverse s h).2.1.cell = some c ∧ h.cells.length ≤ c ∧ c < (reverse s h).1.cells.length := by
  obtain ⟨h1, c, w1, hi, I⟩ := init_cases s h
  obtain ⟨h2, e, w2, he, T, -⟩ := ensure_cases s.runes c h1
  simp only [reverse, hi, he, clone_mk, cellOf_mk, Heap.alloc_set]
  have m1 := I.tr.mono
  have m2 := T.mono
  refine ⟨?_, _, rfl, by omega, by rw [Heap.size_alloc]; omega⟩
  simpa only [List.append_assoc] using I.glue (T.allocSet m2 _ .fill (.inl rfl))

theorem tr_indexFunc (f : List Int → Bool) (s : GStr) (h : Heap) :
    Tr h.cells.length s.cell s.runes h (indexFunc f s h).1 (indexFunc f s h).2.2 := by
  obtain ⟨h1, c, w1, hi, I⟩ := init_cases s h
  have T2 := (len_spec ⟨s.runes, some c⟩ h1).1
  rcases hl : len ⟨s.runes, some c⟩ h1 with ⟨h2, n, w2⟩
  obtain ⟨h3, e, w3, he, T3, -⟩ := ensure_cases s.runes c h2
  simp only [hl] at T2
  simp only [indexFunc, hi, hl, he]
  split
  · simpa only [List.append_assoc] using I.glue T2
  · simpa only [List.append_assoc] using I.glue (T2.comp_same (T3.anti T2.mono))

theorem tr_lastIndexFunc (f : List Int → Bool) (s : GStr) (h : Heap) :
    Tr h.cells.length s.cell s.runes h (lastIndexFunc f s h).1 (lastIndexFunc f s h).2.2 := by
  unfold lastIndexFunc
  obtain ⟨T1, c, F1, F2, -⟩ := reverse_spec s h
  rcases hr : reverse s h with ⟨h1, rev, w1⟩
  simp only [hr] at T1 F1 F2 ⊢
  have T2 := tr_indexFunc f rev h1
  rcases hx : indexFunc f rev h1 with ⟨h2, ri, w2⟩
  simp only [hx] at T2 ⊢
  -- `rev` lives in a cell allocated by this call
  have t12 : Tr h.cells.length s.cell s.runes h h2 (w1 ++ w2) :=
    T1.comp (T2.anti T1.mono) (.inr (by intro c' e; rw [F1] at e; cases e; exact F2))
  split
  · exact t12
  · have T3 := (len_spec s h2).1
    rcases hl : len s h2 with ⟨h3, n, w3⟩
    simp only [hl] at T3 ⊢
    exact t12.comp_same (T3.anti t12.mono)

/-! ### the pool invariant -/

/-- Pool invariant.
* `ok`: no pool member has a stale cache;
* `noshare`: a cell is shared only between values with the same content;
* `zero_ok`, `zero_only`: the package-level `zero` value behaves as an (implicit) pool member:
  its cell 0 exists, is unfilled or holds `splitRunes []`, and only empty values point to it;
* `zero_filled`: if cell 0 starts filled, it stays filled. -/
structure Inv (h : Heap) (pool : List GStr) : Prop where
  ok : ∀ v ∈ pool, CellOK h v
  noshare : ∀ v ∈ pool, ∀ w ∈ pool, v.cell = w.cell → v.cell ≠ none → v.runes = w.runes
  zero_ok : CellOK h zero
  zero_only : ∀ v ∈ pool, v.cell = some 0 → v.runes = []
  zero_filled : Gen.zeroCachePrefilled = true → h.get 0 = some []

/-- at program start any pool of never-initialized values (`var s gem.String`) is valid -/
theorem inv_init_of_none {pool : List GStr} (hp : ∀ v ∈ pool, v.cell = none) : Inv Heap.init pool := by
  refine ⟨fun v hv => .of_none (hp v hv), fun v hv _ _ _ hn => absurd (hp v hv) hn, ?_,
    fun v hv e => ?_, fun hz => ?_⟩
  · rw [cellOK_some (c := 0) rfl]
    cases hz : Gen.zeroCachePrefilled <;> simp [Heap.init, Heap.get, hz, splitRunes_nil, zero]
  · rw [hp v hv] at e; cases e
  · simp [Heap.init, Heap.get, hz]

theorem inv_init : Inv Heap.init [] := inv_init_of_none nofun

theorem Inv.size_pos {h pool} (i : Inv h pool) : 0 < h.cells.length :=
  ((cellOK_some (v := zero) rfl).1 i.zero_ok).1

theorem Inv.get_zero {h pool} (i : Inv h pool) : h.get 0 = none ∨ h.get 0 = some [] := by
  have := ((cellOK_some (v := zero) rfl).1 i.zero_ok).2
  simpa [zero, splitRunes_nil] using this

/-- `zero` is an implicit pool member -/
theorem Inv.ok' {h pool} (i : Inv h pool) {v} (hv : v ∈ zero :: pool) : CellOK h v := by
  rcases List.mem_cons.1 hv with rfl | hv
  · exact i.zero_ok
  · exact i.ok v hv

theorem Inv.noshare' {h pool} (i : Inv h pool) {v w} (hv : v ∈ zero :: pool) (hw : w ∈ zero :: pool)
    (e : v.cell = w.cell) (hn : v.cell ≠ none) : v.runes = w.runes := by
  rcases List.mem_cons.1 hv with rfl | hv <;> rcases List.mem_cons.1 hw with rfl | hw
  · rfl
  · exact (i.zero_only w hw e.symm).symm
  · exact i.zero_only v hv e
  · exact i.noshare v hv w hw e hn

theorem Inv.mono {h pool pool'} (i : Inv h pool) (hs : ∀ v ∈ pool', v ∈ zero :: pool) :
    Inv h pool' :=
  ⟨fun v hv => i.ok' (hs v hv), fun v hv w hw => i.noshare' (hs v hv) (hs w hw), i.zero_ok,
    fun v hv e => i.noshare' (hs v hv) (List.mem_cons_self) e (by simp [e]), i.zero_filled⟩

/-- a transition whose receiver is `zero` or a pool member (or touches no old cell) preserves `Inv` -/
theorem Inv.step {h h' pool rc rr ws} (i : Inv h pool) (t : Tr h.cells.length rc rr h h' ws)
    (hr : rc = none ∨ ∃ v ∈ zero :: pool, v.cell = rc ∧ v.runes = rr) : Inv h' pool := by
  have key : ∀ w ∈ zero :: pool, rc = w.cell → rc ≠ none → rr = w.runes := by
    intro w hw e hn
    rcases hr with hr | ⟨v, hv, e1, e2⟩
    · exact absurd hr hn
    · rw [← e2]; exact i.noshare' hv hw (by rw [e1, e]) (by rw [e1]; exact hn)
  refine ⟨fun v hv => (i.ok v hv).step t (key v (List.mem_cons_of_mem _ hv)), i.noshare,
    i.zero_ok.step t (key zero List.mem_cons_self), i.zero_only, fun hz => ?_⟩
  exact t.frame 0 _ (i.zero_filled hz)

/-- appending a value that lives in a cell allocated after `h` -/
theorem Inv.push {h h' pool r} (i : Inv h pool) (i' : Inv h' pool)
    (hf : ∃ c, r.cell = some c ∧ h.cells.length ≤ c) (ok : CellOK h' r) : Inv h' (r :: pool) := by
  obtain ⟨c, hc, hle⟩ := hf
  have sp := i.size_pos
  have sep : ∀ w ∈ pool, r.cell ≠ w.cell := by
    intro w hw e
    have := i.ok w hw
    rw [cellOK_some (by rw [← e, hc])] at this
    omega
  refine ⟨?_, ?_, i'.zero_ok, ?_, i'.zero_filled⟩
  · intro v hv
    rcases List.mem_cons.1 hv with rfl | hv
    · exact ok
    · exact i'.ok v hv
  · intro v hv w hw e hn
    rcases List.mem_cons.1 hv with e1 | hv1 <;> rcases List.mem_cons.1 hw with e2 | hw1
    · rw [e1, e2]
    · exact absurd (e1 ▸ e) (sep w hw1)
    · exact absurd (e2 ▸ e.symm) (sep v hv1)
    · exact i'.noshare v hv1 w hw1 e hn
  · intro v hv e
    rcases List.mem_cons.1 hv with rfl | hv
    · rw [hc] at e; cases e; omega
    · exact i'.zero_only v hv e

theorem Inv.push_fresh {h h' pool r} (i : Inv h pool) (i' : Inv h' pool) (f : FreshNone h h' r) :
    Inv h' (r :: pool) :=
  i.push i' f.fresh f.cellOK

theorem Inv.push_zero {h pool} (i : Inv h pool) : Inv h (zero :: pool) :=
  i.mono fun _ hv => (List.mem_cons.1 hv).elim (· ▸ List.mem_cons_self) (List.mem_cons_of_mem _)

/-- operands are not altered: the old pool is still valid after the result has been appended -/
theorem Inv.tail {h pool r} (i : Inv h (r :: pool)) : Inv h pool :=
  i.mono (fun _ hv => List.mem_cons_of_mem _ (List.mem_cons_of_mem _ hv))

/-! ### pure-value consequences (C19)

What a valid value (`CellOK`) answers is a function of its content alone.  For `sub`, `setCharAt`
and `repeat` it is the layer-A function; `cx` is any layer-A context whose segmentation is the real
one (`cxA` in `Model/InstA.lean`). -/

theorem len_pure' {h pool v} (hi : Inv h pool) (hv : v ∈ zero :: pool) :
    (len v h).2.1 = (splitRunes v.runes).length := (len_spec v h).2 (hi.ok' hv)

theorem graphemeIndexes_pure' {h pool v} (hi : Inv h pool) (hv : v ∈ zero :: pool) :
    (graphemeIndexes v h).2.1 = splitRunes v.runes := (graphemeIndexes_spec v h).2 (hi.ok' hv)

theorem charAt_pure' {h pool v} (i : Int) (hi : Inv h pool) (hv : v ∈ zero :: pool) :
    (charAt v i h).2.1 =
      (let e := splitRunes v.runes
       if i < 0 ∨ i ≥ e.length then throw .index
       else let (a, b) := clusterSpan e i.toNat; pure (sliceRunes v.runes a b)) :=
  (charAt_spec v i h).2 (hi.ok' hv)

theorem sub_pure (cx : Ctx Int) (hcx : cx.ends = splitRunes) {h v} (st en : Int) (ok : CellOK h v) :
    (sub v st en h).2.1.runes = gSub cx v.runes st en := by
  have S := (sub_spec v st en h).2 ok
  unfold gSub
  rw [hcx]
  simp only [beq_iff_eq] at S ⊢
  split at S
  · next e => rw [if_pos e, S]; rfl
  · next e => rw [if_neg e, S.1]

theorem setCharAt_pure (cx : Ctx Int) (hcx : cx.ends = splitRunes) {h v} (i : Int) (r : List Int)
    (ok : CellOK h v) : (setCharAt v i r h).2.1.map GStr.runes = gSetCharAt cx v.runes i r := by
  rw [(setCharAt_spec v i r h).2.2 ok, gSetCharAt, hcx]

theorem repeat_pure (v : GStr) (count : Int) (h : Heap) :
    («repeat» v count h).2.1.runes = gRepeat v.runes count := by
  unfold «repeat» gRepeat
  rw [(repeatN_spec v count.toNat zero h).2.1]; rfl

/-! ### footprint (C20) and frame, uniformly for every exported operation -/

/-- one call of an exported operation -/
inductive Call
  | new (rs : List Int)
  | len (s : GStr)
  | charAt (s : GStr) (i : Int)
  | graphemeIndexes (s : GStr)
  | runes (s : GStr)
  | add (s t : GStr)
  | sub (s : GStr) (st en : Int)
  | setCharAt (s : GStr) (i : Int) (r : List Int)
  | reverse (s : GStr)
  | «repeat» (s : GStr) (count : Int)
  | indexFunc (f : List Int → Bool) (s : GStr)
  | lastIndexFunc (f : List Int → Bool) (s : GStr)

/-- heap after the call and the write events it reports -/
def Call.run : Call → Heap → Heap × List Wr
  | .new rs, h => ((H.new rs h).1, (H.new rs h).2.2)
  | .len s, h => ((H.len s h).1, (H.len s h).2.2)
  | .charAt s i, h => ((H.charAt s i h).1, (H.charAt s i h).2.2)
  | .graphemeIndexes s, h => ((H.graphemeIndexes s h).1, (H.graphemeIndexes s h).2.2)
  | .runes s, h => ((H.runes s h).1, (H.runes s h).2.2)
  | .add s t, h => ((H.add s t h).1, (H.add s t h).2.2)
  | .sub s st en, h => ((H.sub s st en h).1, (H.sub s st en h).2.2)
  | .setCharAt s i r, h => ((H.setCharAt s i r h).1, (H.setCharAt s i r h).2.2)
  | .reverse s, h => ((H.reverse s h).1, (H.reverse s h).2.2)
  | .repeat s n, h => ((H.repeat s n h).1, (H.repeat s n h).2.2)
  | .indexFunc f s, h => ((H.indexFunc f s h).1, (H.indexFunc f s h).2.2)
  | .lastIndexFunc f s, h => ((H.lastIndexFunc f s h).1, (H.lastIndexFunc f s h).2.2)

/-- the receiver whose own cell the call may fill (`none`: the call fills no pre-existing cell) -/
def Call.recv : Call → Option GStr
  | .new _ => none
  | .len s => some s
  | .charAt s _ => some s
  | .graphemeIndexes s => some s
  | .runes _ => none
  | .add _ _ => none
  | .sub s _ _ => some s
  | .setCharAt _ _ _ => none
  | .reverse s => some s
  | .repeat _ _ => none
  | .indexFunc _ s => some s
  | .lastIndexFunc _ s => some s

/-- the value the call adds to the pool, if any.  The result of `reverse` is not such a value: its
cell holds boundaries that need not be those of its content. -/
def Call.value : Call → Heap → Option GStr
  | .new rs, h => some (H.new rs h).2.1
  | .add s t, h => some (H.add s t h).2.1
  | .sub s st en, h => some (H.sub s st en h).2.1
  | .setCharAt s i r, h => (H.setCharAt s i r h).2.1.toOption
  | .repeat s n, h => some (H.repeat s n h).2.1
  | _, _ => none

theorem Call.tr (k : Call) (h : Heap) :
    Tr h.cells.length (k.recv.bind (·.cell)) ((k.recv.map (·.runes)).getD []) h (k.run h).1 (k.run h).2 := by
  -- `Call.run` is unfolded first: left to itself the unifier unfolds the operation (`lastIndexFunc`) instead
  cases k <;> simp only [Call.run, Call.recv]
  case new rs => exact (new_spec rs h).1
  case len s => exact (len_spec s h).1
  case charAt s i => exact (charAt_spec s i h).1
  case graphemeIndexes s => exact (graphemeIndexes_spec s h).1
  case runes s => exact (runes_spec s h).1
  case add s t => exact (add_spec s t h).1
  case sub s st en => exact (sub_spec s st en h).1
  case setCharAt s i r => exact (setCharAt_spec s i r h).1
  case reverse s => exact (reverse_spec s h).1
  case «repeat» s n => exact (repeatN_spec s n.toNat zero h).1
  case indexFunc f s => exact tr_indexFunc f s h
  case lastIndexFunc f s => exact tr_lastIndexFunc f s h

/-- C20 footprint of a single write event: a fresh allocation, a fill/clear of a cell allocated by
this call, or the first fill of the receiver's own cell. -/
def Footprint (h : Heap) (recv : Option GStr) : Wr → Prop
  | .alloc c => h.cells.length ≤ c
  | .clear c => h.cells.length ≤ c
  | .fill c => h.cells.length ≤ c ∨ (∃ s, recv = some s ∧ s.cell = some c ∧ c = cellOf s ∧ h.get c = none)

theorem footprint_iff (h : Heap) (recv : Option GStr) (w : Wr) :
    Footprint h recv w ↔ WrOK h.cells.length (recv.bind (·.cell)) h w := by
  cases w <;> simp only [Footprint, WrOK, Option.bind_eq_some_iff]
  refine or_congr_right ⟨fun ⟨s, e1, e2, _, e4⟩ => ⟨⟨s, e1, e2⟩, e4⟩, fun ⟨⟨s, e1, e2⟩, e4⟩ => ?_⟩
  exact ⟨s, e1, e2, (cellOf_some e2).symm, e4⟩

theorem footprint (k : Call) (h : Heap) : ∀ w ∈ (k.run h).2, Footprint h k.recv w :=
  fun w hw => (footprint_iff h k.recv w).2 ((k.tr h).foot w hw)

/-- the write events really describe the heap change: a cell index not mentioned by any event is
untouched (in particular it is not allocated by the call) -/
theorem writes_complete (k : Call) (h : Heap) (c : Nat) (hm : ¬ Mentions (k.run h).2 c) :
    (k.run h).1.cells[c]? = h.cells[c]? := (k.tr h).agree c hm

/-- frame: a filled cell never changes -/
theorem frame (k : Call) (h : Heap) (c : Nat) (x : List Nat) (hx : h.get c = some x) :
    (k.run h).1.get c = some x := (k.tr h).frame c x hx

theorem heap_grows (k : Call) (h : Heap) : h.cells.length ≤ (k.run h).1.cells.length := (k.tr h).mono

theorem filled_not_written (k : Call) (h : Heap) (c : Nat) (x : List Nat) (hx : h.get c = some x) :
    ¬ Mentions (k.run h).2 c := (k.tr h).not_mentions c x hx

/-- the package-level cell is never written (whenever it is filled, which `Inv.zero_filled`
guarantees for ever if `Gen.zeroCachePrefilled`) -/
theorem zero_never_written (k : Call) (h : Heap) (h0 : h.get 0 = some []) :
    (k.run h).1.get 0 = some [] ∧ ¬ Mentions (k.run h).2 0 :=
  ⟨frame k h 0 [] h0, filled_not_written k h 0 [] h0⟩

/-- no operand is altered by ANY call (including `reverse`/`indexFunc`/`lastIndexFunc`, whose
results are outside the invariant): the old pool stays valid -/
theorem inv_call (k : Call) {h : Heap} {pool : List GStr} (hi : Inv h pool)
    (hr : ∀ s, k.recv = some s → s ∈ zero :: pool) : Inv (k.run h).1 pool := by
  refine hi.step (k.tr h) ?_
  cases hk : k.recv with
  | none => exact .inl rfl
  | some s => exact .inr ⟨s, hr s hk, rfl, rfl⟩

/-- the receiver condition of `inv_call` for a pool member -/
theorem recv_mem {pool : List GStr} {v : GStr} (hv : v ∈ pool) (s : GStr) (e : some v = some s) :
    s ∈ zero :: pool :=
  Option.some.inj e ▸ List.mem_cons_of_mem _ hv

/-- … and the pool stays valid with the call's value appended.  Only `sub` hands out a cell that is
already filled; that its content is right is the slice property of the segmentation. -/
theorem inv_call_value (hs : SliceOK) (k : Call) {h : Heap} {pool : List GStr} (hi : Inv h pool)
    (hr : ∀ s, k.recv = some s → s ∈ zero :: pool) :
    Inv (k.run h).1 ((k.value h).toList ++ pool) := by
  have i' := inv_call k hi hr
  cases k with
  | new rs => exact hi.push_fresh i' (new_spec rs h).2
  | add s t => exact hi.push_fresh i' (add_spec s t h).2.2
  | sub s st en =>
    rcases sub_cellOK hs st en (hi.ok' (hr s rfl)) with e | ⟨F, ok⟩
    · simp only [Call.value, e]; exact i'.push_zero
    · exact hi.push i' F ok
  | setCharAt s i r =>
    cases e : (setCharAt s i r h).2.1 with
    | error _ => simp only [Call.value, e]; exact i'
    | ok v => simp only [Call.value, e]; exact hi.push_fresh i' ((setCharAt_spec s i r h).2.1 v e)
  | «repeat» s n =>
    rcases (repeatN_spec s n.toNat zero h).2.2 with ⟨_, e, _⟩ | F
    · simp only [Call.value, «repeat», e]; exact i'.push_zero
    · exact hi.push_fresh i' F
  | _ => exact i'

/-! the uniform statements specialise definitionally to the individual operations -/

example (hs : SliceOK) (h pool v st en) (hi : Inv h pool) (hv : v ∈ pool) :
    (let (h', r, _) := sub v st en h; Inv h' (r :: pool)) :=
  inv_call_value hs (.sub v st en) hi (recv_mem hv)

example (s t : GStr) (h : Heap) (c x) (hx : h.get c = some x) : (add s t h).1.get c = some x :=
  frame (.add s t) h c x hx

example (s : GStr) (st en : Int) (h : Heap) : ∀ w ∈ (sub s st en h).2.2, Footprint h (some s) w :=
  footprint (.sub s st en) h

example (f) (s : GStr) (h : Heap) (h0 : h.get 0 = some []) :
    (lastIndexFunc f s h).1.get 0 = some [] ∧ ¬ Mentions (lastIndexFunc f s h).2.2 0 := by
  simpa only [Call.run] using zero_never_written (.lastIndexFunc f s) h h0

end RosedVerif.H
