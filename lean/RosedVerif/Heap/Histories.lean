/-
Layer H, "for all histories" (C19/C20).

`Heap/Lemmas.lean` proves, per single call, that the pool invariant `Inv` is preserved and that the
write events have a small footprint.  The properties C19/C20 quantify over ALL HISTORIES: any
sequence of `New`, `Add`, `Sub`, `SetCharAt`, `Repeat` and of the observers `Len`, `CharAt`,
`GraphemeIndexes`, `Runes`, over a pool of values that includes the shared package-level zero value.

This file defines that pool machine (`Op`, `step`, `run`) and lifts the single-call lemmas to every
history by induction over the list of operations.

Pool order: as in `inv_call_value` the newest value is consed in FRONT (`r :: pool`).  Operands
are named by their CREATION NUMBER (`pick`): index `i` is the `i`-th value ever pushed, so indexes
stay stable while the pool grows; any index ≥ the pool length denotes the shared `zero` value.
-/
import RosedVerif.Heap.Lemmas
import RosedVerif.Model.InstAFacts
namespace RosedVerif.H

/-! ### the pool machine -/

/-- one exported operation, operands given as pool indexes (creation numbers) -/
inductive Op
  | new (rs : List Int)
  | add (i j : Nat)
  | sub (i : Nat) (st en : Int)
  | setCharAt (i : Nat) (idx : Int) (r : List Int)
  | «repeat» (i : Nat) (count : Int)
  | len (i : Nat)
  | charAt (i : Nat) (idx : Int)
  | graphemeIndexes (i : Nat)
  | runes (i : Nat)
  deriving Repr, DecidableEq

/-- operand number `i`: the `i`-th value ever pushed; out of range: the shared zero value -/
def pick (pool : List GStr) (i : Nat) : GStr := (pool.reverse[i]?).getD zero

theorem pick_mem (pool : List GStr) (i : Nat) : pick pool i ∈ zero :: pool := by
  unfold pick
  cases h : pool.reverse[i]? with
  | none => exact List.mem_cons_self
  | some v =>
    have := List.mem_of_getElem? h
    exact List.mem_cons_of_mem _ (List.mem_reverse.1 this)

theorem pick_of_le (pool : List GStr) (i : Nat) (hi : pool.length ≤ i) : pick pool i = zero := by
  unfold pick
  rw [List.getElem?_eq_none (by simpa using hi)]; rfl

/-- every pool member is some operand -/
theorem mem_pick {pool : List GStr} {v : GStr} (hv : v ∈ pool) : ∃ i, i < pool.length ∧ pick pool i = v := by
  obtain ⟨i, hi, e⟩ := List.getElem_of_mem (List.mem_reverse.2 hv)
  refine ⟨i, by simpa using hi, ?_⟩
  unfold pick
  rw [List.getElem?_eq_getElem hi, e]; rfl

/-- value-producing operations push their result in front of the pool (`setCharAt` only when it
does not panic); observers only thread the heap -/
def step (s : Heap × List GStr) : Op → Heap × List GStr
  | .new rs => ((H.new rs s.1).1, (H.new rs s.1).2.1 :: s.2)
  | .add i j =>
    ((H.add (pick s.2 i) (pick s.2 j) s.1).1, (H.add (pick s.2 i) (pick s.2 j) s.1).2.1 :: s.2)
  | .sub i st en =>
    ((H.sub (pick s.2 i) st en s.1).1, (H.sub (pick s.2 i) st en s.1).2.1 :: s.2)
  | .setCharAt i idx r =>
    match (H.setCharAt (pick s.2 i) idx r s.1).2.1 with
    | .ok res => ((H.setCharAt (pick s.2 i) idx r s.1).1, res :: s.2)
    | .error _ => ((H.setCharAt (pick s.2 i) idx r s.1).1, s.2)
  | .repeat i n =>
    ((H.repeat (pick s.2 i) n s.1).1, (H.repeat (pick s.2 i) n s.1).2.1 :: s.2)
  | .len i => ((H.len (pick s.2 i) s.1).1, s.2)
  | .charAt i idx => ((H.charAt (pick s.2 i) idx s.1).1, s.2)
  | .graphemeIndexes i => ((H.graphemeIndexes (pick s.2 i) s.1).1, s.2)
  | .runes i => ((H.runes (pick s.2 i) s.1).1, s.2)

/-- a history continued from an arbitrary state -/
def runFrom (s : Heap × List GStr) (ops : List Op) : Heap × List GStr := ops.foldl step s

/-- a history from program start: initial heap (only gem.Zero's cell), empty pool -/
def run (ops : List Op) : Heap × List GStr := ops.foldl step (Heap.init, [])

theorem run_eq_runFrom (ops : List Op) : run ops = runFrom (Heap.init, []) ops := rfl

theorem run_nil : run [] = (Heap.init, []) := rfl

theorem runFrom_append (s) (ops ops' : List Op) : runFrom s (ops ++ ops') = runFrom (runFrom s ops) ops' :=
  List.foldl_append

theorem run_append (ops ops' : List Op) : run (ops ++ ops') = runFrom (run ops) ops' := List.foldl_append

theorem run_snoc (ops : List Op) (op : Op) : run (ops ++ [op]) = step (run ops) op := by
  rw [run_append]; rfl

/-- the `Call` (of `Heap/Lemmas.lean`) an operation stands for in a given pool -/
def Op.call (pool : List GStr) : Op → Call
  | .new rs => .new rs
  | .add i j => .add (pick pool i) (pick pool j)
  | .sub i st en => .sub (pick pool i) st en
  | .setCharAt i idx r => .setCharAt (pick pool i) idx r
  | .repeat i n => .repeat (pick pool i) n
  | .len i => .len (pick pool i)
  | .charAt i idx => .charAt (pick pool i) idx
  | .graphemeIndexes i => .graphemeIndexes (pick pool i)
  | .runes i => .runes (pick pool i)

/-- the write events the operation reports when executed in state `s` -/
def writes (s : Heap × List GStr) (op : Op) : List Wr := ((op.call s.2).run s.1).2

/-- a step runs the call the operation stands for and puts the call's value, if any, in front -/
theorem step_eq (s : Heap × List GStr) (op : Op) :
    step s op = (((op.call s.2).run s.1).1, ((op.call s.2).value s.1).toList ++ s.2) := by
  cases op <;> simp only [step, Op.call, Call.run, Call.value, Option.toList, List.cons_append, List.nil_append]
  split <;> next e => rw [e]; rfl

theorem step_heap (s : Heap × List GStr) (op : Op) : (step s op).1 = ((op.call s.2).run s.1).1 := by
  rw [step_eq]

/-- every receiver whose cell a call may fill is a pool member or `zero` -/
theorem Op.recv_mem (pool : List GStr) (op : Op) : ∀ r, (op.call pool).recv = some r → r ∈ zero :: pool := by
  cases op <;> rintro r ⟨⟩ <;> exact pick_mem _ _

/-- the pool after a step is the old pool with at most one new value in front -/
theorem step_pool (s : Heap × List GStr) (op : Op) : (step s op).2 = s.2 ∨ ∃ r, (step s op).2 = r :: s.2 := by
  rw [step_eq]
  cases (op.call s.2).value s.1 with
  | none => exact .inl rfl
  | some r => exact .inr ⟨r, rfl⟩

theorem step_pool_mem (s : Heap × List GStr) (op : Op) {v : GStr} (hv : v ∈ zero :: s.2) :
    v ∈ zero :: (step s op).2 := by
  rcases step_pool s op with e | ⟨r, e⟩ <;> rw [e]
  · exact hv
  · exact (List.mem_cons.1 hv).elim (· ▸ List.mem_cons_self) fun hv =>
      List.mem_cons_of_mem _ (List.mem_cons_of_mem _ hv)

/-- operand numbers are stable: old operands keep their number when the pool grows -/
theorem pick_step (s : Heap × List GStr) (op : Op) (i : Nat) (hi : i < s.2.length) :
    pick (step s op).2 i = pick s.2 i := by
  rcases step_pool s op with e | ⟨r, e⟩ <;> rw [e]
  unfold pick
  rw [List.reverse_cons, List.getElem?_append_left (by simpa using hi)]

/-- what every step preserves holds along every continuation -/
theorem runFrom_induction {P : Heap × List GStr → Prop} (hstep : ∀ s op, P s → P (step s op))
    (s : Heap × List GStr) (ops : List Op) (hs : P s) : P (runFrom s ops) := by
  induction ops generalizing s with
  | nil => exact hs
  | cons op ops ih => exact ih (step s op) (hstep s op hs)

theorem runFrom_pool_mem (s : Heap × List GStr) (ops : List Op) {v : GStr} (hv : v ∈ zero :: s.2) :
    v ∈ zero :: (runFrom s ops).2 :=
  runFrom_induction (P := fun s => v ∈ zero :: s.2) (fun s op => step_pool_mem s op) s ops hv

/-! ### the invariant holds in every history -/

theorem step_inv (s : Heap × List GStr) (op : Op) (hi : Inv s.1 s.2) : Inv (step s op).1 (step s op).2 := by
  rw [step_eq]
  exact inv_call_value sliceOK _ hi (Op.recv_mem _ op)

/-- from ANY state satisfying the invariant (e.g. a pool holding never-initialized values,
`cell = none`), every continuation satisfies it -/
theorem runFrom_inv (s : Heap × List GStr) (ops : List Op) (hi : Inv s.1 s.2) :
    Inv (runFrom s ops).1 (runFrom s ops).2 :=
  runFrom_induction (P := fun s => Inv s.1 s.2) step_inv s ops hi

/-- **C19, all histories**: after any sequence of operations no pool value (nor the shared zero
value) has a stale cache, cells are shared only between equal contents, and only empty values
point at the package-level cell. -/
theorem histories_inv (ops : List Op) : Inv (run ops).1 (run ops).2 :=
  runFrom_inv _ ops inv_init

/-! ### every value of every history is a pure value -/

/-- under the invariant all observers of a pool value (or `zero`) answer as the pure layer-A
functions of its content do (`cxA.ends` is `splitRunes` by definition) -/
theorem pool_pure {h : Heap} {pool : List GStr} {v : GStr} (hi : Inv h pool) (hv : v ∈ zero :: pool) :
    (len v h).2.1 = gLen cxA v.runes ∧
    (graphemeIndexes v h).2.1 = splitRunes v.runes ∧
    (∀ i : Int, (charAt v i h).2.1 = gCharAt cxA v.runes i) ∧
    (runes v h).2.1 = v.runes :=
  ⟨len_pure' hi hv, graphemeIndexes_pure' hi hv, fun i => charAt_pure' i hi hv, (runes_spec v h).2⟩

/-- **C19, all histories**: len, cluster boundaries, every charAt and the runes of every pool value
(and of `zero`), evaluated in the heap reached by the history, are the observers of a value freshly
built from the same content (`cxA.ends = splitRunes` is the fresh segmentation). -/
theorem histories_pure (ops : List Op) : ∀ v ∈ zero :: (run ops).2,
    (len v (run ops).1).2.1 = gLen cxA v.runes ∧
    (graphemeIndexes v (run ops).1).2.1 = splitRunes v.runes ∧
    (∀ i : Int, (charAt v i (run ops).1).2.1 = gCharAt cxA v.runes i) ∧
    (runes v (run ops).1).2.1 = v.runes :=
  fun _ hv => pool_pure (histories_inv ops) hv

/-- the same, against a LITERALLY fresh value: `New(v.runes)` executed at the end of any other
history `ops'` (in particular `ops' = []`: at program start) -/
theorem histories_pure_fresh (ops ops' : List Op) : ∀ v ∈ zero :: (run ops).2,
    (len v (run ops).1).2.1 = (len (new v.runes (run ops').1).2.1 (new v.runes (run ops').1).1).2.1 ∧
    (graphemeIndexes v (run ops).1).2.1 =
      (graphemeIndexes (new v.runes (run ops').1).2.1 (new v.runes (run ops').1).1).2.1 ∧
    (∀ i : Int, (charAt v i (run ops).1).2.1 =
      (charAt (new v.runes (run ops').1).2.1 i (new v.runes (run ops').1).1).2.1) ∧
    (runes v (run ops).1).2.1 = (runes (new v.runes (run ops').1).2.1 (new v.runes (run ops').1).1).2.1 :=
  fun v hv => obs_eq ((histories_inv ops).ok' hv) (new_spec v.runes (run ops').1).2.cellOK rfl

/-- two pool values with the same content are indistinguishable, wherever in whichever history each
of them lives -/
theorem histories_pure_ext (ops ops' : List Op) : ∀ v ∈ zero :: (run ops).2, ∀ w ∈ zero :: (run ops').2,
    v.runes = w.runes →
    (len v (run ops).1).2.1 = (len w (run ops').1).2.1 ∧
    (graphemeIndexes v (run ops).1).2.1 = (graphemeIndexes w (run ops').1).2.1 ∧
    (∀ i : Int, (charAt v i (run ops).1).2.1 = (charAt w i (run ops').1).2.1) ∧
    (runes v (run ops).1).2.1 = (runes w (run ops').1).2.1 :=
  fun _ hv _ hw e => obs_eq ((histories_inv ops).ok' hv) ((histories_inv ops').ok' hw) e

/-! ### no operand is altered -/

/-- a filled cell keeps its content across a step -/
theorem step_frame (s : Heap × List GStr) (op : Op) (c : Nat) (x : List Nat) (hx : s.1.get c = some x) :
    (step s op).1.get c = some x := by
  rw [step_heap]; exact frame _ _ c x hx

/-- **C19, all histories**: the pool after the next step is the old pool with at most one new
value in front — old values are literally the same `GStr`s (same runes, same cell, same operand
number) — and every observer of every old value (and of `zero`) answers in the new heap exactly as
in the old heap; an old value's cache, once filled, is the same list afterwards. -/
theorem histories_operands_unchanged (ops : List Op) (op : Op) :
    ((step (run ops) op).2 = (run ops).2 ∨ ∃ r, (step (run ops) op).2 = r :: (run ops).2) ∧
    (∀ i, i < (run ops).2.length → pick (step (run ops) op).2 i = pick (run ops).2 i) ∧
    (∀ v ∈ zero :: (run ops).2,
      (len v (step (run ops) op).1).2.1 = (len v (run ops).1).2.1 ∧
      (graphemeIndexes v (step (run ops) op).1).2.1 = (graphemeIndexes v (run ops).1).2.1 ∧
      (∀ i : Int, (charAt v i (step (run ops) op).1).2.1 = (charAt v i (run ops).1).2.1) ∧
      (runes v (step (run ops) op).1).2.1 = (runes v (run ops).1).2.1 ∧
      (∀ c x, v.cell = some c → (run ops).1.get c = some x → (step (run ops) op).1.get c = some x)) := by
  refine ⟨step_pool _ op, pick_step _ op, fun v hv => ?_⟩
  have I := histories_inv ops
  have O := obs_eq ((step_inv _ op I).ok' (step_pool_mem _ op hv)) (I.ok' hv) rfl
  exact ⟨O.1, O.2.1, O.2.2.1, O.2.2.2, fun c x _ hx => step_frame _ op c x hx⟩

/-- the same over any number of later steps -/
theorem histories_operands_unchanged_later (ops ops' : List Op) : ∀ v ∈ zero :: (run ops).2,
    v ∈ zero :: (run (ops ++ ops')).2 ∧
    (len v (run (ops ++ ops')).1).2.1 = (len v (run ops).1).2.1 ∧
    (graphemeIndexes v (run (ops ++ ops')).1).2.1 = (graphemeIndexes v (run ops).1).2.1 ∧
    (∀ i : Int, (charAt v i (run (ops ++ ops')).1).2.1 = (charAt v i (run ops).1).2.1) ∧
    (runes v (run (ops ++ ops')).1).2.1 = (runes v (run ops).1).2.1 := by
  intro v hv
  have hv' : v ∈ zero :: (run (ops ++ ops')).2 := by
    rw [run_append]; exact runFrom_pool_mem _ ops' hv
  exact ⟨hv', obs_eq ((histories_inv _).ok' hv') ((histories_inv ops).ok' hv) rfl⟩

/-! ### boundaries partition the code points -/

/-- **C19, all histories**: for every pool value the boundaries are strictly increasing, end at the
length, and there is no empty cluster.  This much holds of any rune string (`part_splitRunes`); what
depends on the history is the cached form below. -/
theorem histories_partition (ops : List Op) : ∀ v ∈ (run ops).2, Part (splitRunes v.runes) v.runes.length :=
  fun v _ => part_splitRunes v.runes

/-- … and this is true of what the value's cache cell actually HOLDS and of what
`GraphemeIndexes` actually RETURNS in the heap reached by the history (also for `zero`) -/
theorem histories_partition_cached (ops : List Op) : ∀ v ∈ zero :: (run ops).2,
    Part (graphemeIndexes v (run ops).1).2.1 v.runes.length ∧
    ∀ c e, v.cell = some c → (run ops).1.get c = some e → Part e v.runes.length := by
  intro v hv
  have I := histories_inv ops
  refine ⟨?_, fun c e hc he => ?_⟩
  · rw [graphemeIndexes_pure' I hv]; exact part_splitRunes _
  · rw [(I.ok' hv).get_eq hc he]; exact part_splitRunes _

/-! ### C20 over histories -/

/-- **C20, all histories**: in the state reached by ANY history, the next call leaves the
package-level cell 0 equal to `some []` and no write event mentions cell 0. -/
theorem histories_zero_never_written (hz : Gen.zeroCachePrefilled = true) (ops : List Op) (op : Op) :
    (run ops).1.get 0 = some [] ∧
    (step (run ops) op).1.get 0 = some [] ∧
    ¬ Mentions (writes (run ops) op) 0 := by
  have h0 := (histories_inv ops).zero_filled hz
  have Z := zero_never_written (op.call (run ops).2) _ h0
  exact ⟨h0, by rw [step_heap]; exact Z.1, Z.2⟩

theorem runFrom_frame (s : Heap × List GStr) (ops : List Op) (c : Nat) (x : List Nat)
    (hx : s.1.get c = some x) : (runFrom s ops).1.get c = some x :=
  runFrom_induction (P := fun s => s.1.get c = some x) (fun s op => step_frame s op c x) s ops hx

/-- **C20, all histories**: a cell that is filled at any point of a history has the same content
at every later point, and no later call reports a write event for it. -/
theorem histories_filled_never_written (ops ops' : List Op) (c : Nat) (x : List Nat)
    (hx : (run ops).1.get c = some x) :
    (run (ops ++ ops')).1.get c = some x ∧ ∀ op, ¬ Mentions (writes (run (ops ++ ops')) op) c := by
  have h' : (run (ops ++ ops')).1.get c = some x := by
    rw [run_append]; exact runFrom_frame _ ops' c x hx
  exact ⟨h', fun op => filled_not_written _ _ c x h'⟩

/-- footprint of every call of every history: a write goes to a cell allocated by the same call or
is the first fill of the cell of the receiver — which is a pool value or `zero` -/
theorem histories_footprint (ops : List Op) (op : Op) :
    (∀ w ∈ writes (run ops) op, Footprint (run ops).1 (op.call (run ops).2).recv w) ∧
    (∀ r, (op.call (run ops).2).recv = some r → r ∈ zero :: (run ops).2) :=
  ⟨footprint _ _, Op.recv_mem _ op⟩

/-- the heap only grows along a history -/
theorem histories_heap_grows (ops ops' : List Op) :
    (run ops).1.cells.length ≤ (run (ops ++ ops')).1.cells.length := by
  rw [run_append]
  refine runFrom_induction (P := fun s => (run ops).1.cells.length ≤ s.1.cells.length)
    (fun s op hs => ?_) _ ops' (Nat.le_refl _)
  rw [step_heap]; exact Nat.le_trans hs (heap_grows _ _)

/-! ### a concrete history -/

/-- new "e"; new [U+0301]; add #0 #1 ("é" as two code points, one cluster); len #2;
sub #2 [0,1); setCharAt #2 0 "a" -/
def exHistory : List Op :=
  [.new [0x65], .new [0x301], .add 0 1, .len 2, .sub 2 0 1, .setCharAt 2 0 [0x61]]

/-- pool (newest first): setCharAt result "a", sub result "é", add result "é", U+0301, "e" -/
example : (run exHistory).2 =
    [⟨[0x61], some 5⟩, ⟨[0x65, 0x301], some 4⟩, ⟨[0x65, 0x301], some 3⟩, ⟨[0x301], some 2⟩, ⟨[0x65], some 1⟩] := by
  decide +kernel

/-- heap: cell 0 (gem.Zero) prefilled; cells 1, 2 never observed; cell 3 filled by `len`;
cell 4 filled by `sub` with the rebased ends; cell 5 cleared by `setCharAt` -/
example : (run exHistory).1.cells = [some [], none, none, some [2], some [2], none] := by
  decide +kernel

/-- the write events of the `len` step: the first fill of the receiver's own cell 3 -/
example : writes (run (exHistory.take 3)) (.len 2) = [.fill 3] := by decide +kernel

/-- the write events of the `sub` step: a fresh cell 4 is allocated and filled -/
example : writes (run (exHistory.take 4)) (.sub 2 0 1) = [.alloc 4, .fill 4] := by decide +kernel

/-- a `sub` with an empty range yields the SHARED zero value (cell 0) as a pool member -/
example : (run (exHistory ++ [.sub 2 1 1])).2.head? = some zero := by decide +kernel

/-- an out-of-range operand is the shared zero value -/
example : pick (run exHistory).2 7 = zero := by decide +kernel

/-- operand numbers are creation numbers -/
example : pick (run exHistory).2 2 = ⟨[0x65, 0x301], some 3⟩ := by decide +kernel

/-- a failing `setCharAt` (index out of range) pushes nothing -/
example : (run (exHistory ++ [.setCharAt 2 5 [0x61]])).2 = (run exHistory).2 := by decide +kernel

/-! the theorems instantiated on the concrete history (their hypotheses are met) -/

example : Inv (run exHistory).1 (run exHistory).2 := histories_inv exHistory

example : (⟨[0x65, 0x301], some 4⟩ : GStr) ∈ zero :: (run exHistory).2 := by decide +kernel

/-- the `sub` result (cache pre-filled by slicing + rebasing) observes as a fresh "é" -/
example : (len ⟨[0x65, 0x301], some 4⟩ (run exHistory).1).2.1 = gLen cxA [0x65, 0x301] :=
  (histories_pure exHistory _ (by decide +kernel)).1

example : (len ⟨[0x65, 0x301], some 4⟩ (run exHistory).1).2.1 = 1 := by decide +kernel

/-- `add`'s operands #0, #1 and every other old value observe the same before and after the `add` -/
example : ∀ v ∈ zero :: (run (exHistory.take 2)).2,
    (graphemeIndexes v (step (run (exHistory.take 2)) (.add 0 1)).1).2.1 =
      (graphemeIndexes v (run (exHistory.take 2)).1).2.1 :=
  fun v hv => ((histories_operands_unchanged (exHistory.take 2) (.add 0 1)).2.2 v hv).2.1

example : Part (splitRunes [0x65, 0x301]) 2 :=
  histories_partition exHistory ⟨[0x65, 0x301], some 3⟩ (by decide +kernel)

/-- `Gen.zeroCachePrefilled = true` holds by `rfl` -/
example : (step (run exHistory) (.len 99)).1.get 0 = some [] ∧ ¬ Mentions (writes (run exHistory) (.len 99)) 0 :=
  (histories_zero_never_written rfl exHistory (.len 99)).2

/-- the hypothesis `hz` is NECESSARY: were gem.Zero's cell not filled at start-up, the history
consisting of the single observer call `GraphemeIndexes` (or `CharAt`) on the zero value would write
the package-level cell -/
example : writes (⟨[none]⟩, []) (.graphemeIndexes 0) = [.fill 0] := by decide +kernel

/-- cell 3 is filled after 4 steps (by `len`), hence unchanged by the two later steps -/
example : (run (exHistory.take 4)).1.get 3 = some [2] := by decide +kernel

example : (run (exHistory.take 4 ++ exHistory.drop 4)).1.get 3 = some [2] :=
  (histories_filled_never_written (exHistory.take 4) (exHistory.drop 4) 3 [2] (by decide +kernel)).1

/-- a never-initialized value (`var s gem.String`, `cell = none`) is a legal starting pool member -/
example : Inv Heap.init [⟨[0x65], none⟩] :=
  inv_init_of_none fun _ hv => List.mem_singleton.1 hv ▸ rfl

/-- … and every history continued from it keeps the invariant -/
example (ops : List Op) : Inv (runFrom (Heap.init, [⟨[0x65], none⟩]) ops).1 (runFrom (Heap.init, [⟨[0x65], none⟩]) ops).2 :=
  runFrom_inv _ ops (inv_init_of_none fun _ hv => List.mem_singleton.1 hv ▸ rfl)

end RosedVerif.H
